import S3V.Thm.DtoRange
import S3V.Thm.DtoCopySource
import S3V.Thm.DtoTimestamp
import S3V.Thm.DtoTimestampEpoch
/-!
# C14 — timestamps, ranges, copy sources, content types keep their meaning through text

Models: `S3V/Model/Dto*.lean` (literal mirrors of `Range`, `CopySource`, `Timestamp` and of the
third-party code they call). Specification: `S3V/Spec/Dto.lean` (RFC 9110 byte ranges, calendar by
counting, RFC 3339 / IMF-fixdate readers, percent-encoding spellings). No theorem bounds a length or
a count; numeric hypotheses are the ranges of the Rust types (`u64`) or of the property's quantifier.
-/
namespace S3V.C14
open S3V S3V.Dto S3V.DtoSpec

/-- *Range parsing accepts the single-range forms of RFC 9110 and nothing else.*
    For every byte string `h` and value `r`: `Range::parse(h) = Ok(r)` exactly when `h` is a
    `ranges-specifier` with the one `range-spec` that `r` denotes (`RangeHeader`, RFC 9110 §14.1.1)
    and `r` lies in the code's numeric domain: first-pos and last-pos ≤ i64::MAX = 2^63−1,
    suffix-length ≤ u64::MAX. So below 2^63 the code accepts exactly the grammar; an int-range with
    a position in [2^63, ∞) and a suffix-length ≥ 2^64 are refused (`C14_range_parse_refuses_big`). -/
theorem C14_range_parse_iff_grammar (h : Bytes) (r : Range) :
    Range.parse h = some r ↔ RangeHeader h (toSpec r) ∧ InCodeDomain r :=
  Range.parse_iff h r

/-- the clause as the property states it: for values whose positions are all below 2^63 (suffix
    lengths included) acceptance is exactly membership in the grammar -/
theorem C14_range_parse_below_2_63 (h : Bytes) (r : Range)
    (hb : match r with
      | .int f l => f < 2 ^ 63 ∧ ∀ l', l = some l' → l' < 2 ^ 63
      | .suffix n => n < 2 ^ 63) :
    Range.parse h = some r ↔ RangeHeader h (toSpec r) := by
  rw [Range.parse_iff]
  exact ⟨fun h => h.1, fun hH => ⟨hH, inCodeDomain_of_lt hb⟩⟩

/-- what the code does with grammatical headers outside its numeric domain (a position ≥ 2^63,
    a suffix-length ≥ 2^64): it refuses them -/
theorem C14_range_parse_refuses_big (h : Bytes) (v : ByteRange) (hH : RangeHeader h v)
    (hbig : ¬ InCodeDomain (ofSpec v)) : Range.parse h = none := by
  rw [Range.parse_of_header hH, if_neg hbig]

/-- the executable reader with which the correspondence run judges the implementation is the
    grammar, and the grammar is functional (a header denotes at most one range) -/
theorem C14_range_reference_is_spec (h : Bytes) (v : ByteRange) : readRange h = some v ↔ RangeHeader h v :=
  readRange_iff h v

/-- *decoded to the value they denote*: whatever `parse` returns is the value of the digits written
    in the header -/
theorem C14_range_parse_denotes (h : Bytes) (r : Range) (hp : Range.parse h = some r) :
    RangeHeader h (toSpec r) :=
  ((Range.parse_iff h r).mp hp).1

/-- *formatting then parsing is the identity*, for every `Range` value `parse` can produce
    (positions ≤ i64::MAX, suffix length ≤ u64::MAX, first ≤ last) -/
theorem C14_range_parse_format (r : Range) (hD : InCodeDomain r)
    (hv : ∀ f l, r = .int f (some l) → f ≤ l) :
    Range.parse r.toHeaderString = some r :=
  (Range.parse_iff _ r).mpr ⟨header_of_format r hv, hD⟩

/-- the written text is in the grammar and denotes the value, also outside the numeric domain of `parse` -/
theorem C14_range_format_denotes (r : Range) (hv : ∀ f l, r = .int f (some l) → f ≤ l) :
    RangeHeader r.toHeaderString (toSpec r) :=
  header_of_format r hv

/-- *range satisfiability yields the RFC 9110 byte interval for every range and object length*
    (all `u64` values; `check` is written with the wrapping `u64` operations of the Rust code,
    the theorem shows none of them wraps) -/
theorem C14_range_check_eq_rfc (r : Range) (len : Nat) (hlen : len < 2 ^ 64)
    (hr : match r with
      | .int f l => f < 2 ^ 64 ∧ ∀ l', l = some l' → l' < 2 ^ 64
      | .suffix n => n < 2 ^ 64) :
    r.check len = rfcInterval (toSpec r) len :=
  check_eq_rfcInterval r len (by unfold u64Max; omega)

/-! non-vacuity -/
example : RangeHeader [98, 121, 116, 101, 115, 61, 48, 45, 52, 57, 57] (.int 0 (some 499)) :=
  .closed (d1 := [48]) (d2 := [52, 57, 57]) ⟨by decide, by decide⟩ ⟨by decide, by decide⟩ (by decide)
example : Range.parse [98, 121, 116, 101, 115, 61, 48, 45, 52, 57, 57] = some (.int 0 (some 499)) := by
  decide
example : ¬ InCodeDomain (ofSpec (.suffix 18446744073709551616)) := by decide
example : InCodeDomain (.int 9500 none) := ⟨by decide, by intro l h; cases h⟩
example : (Range.int 9500 (some 50000)).check 10000 = some (9500, 10000) := by decide

/-- *a copy source names the same bucket, key and version after encoding and decoding for every
    legal key*: for every bucket `check_bucket_name` accepts, every key that is UTF-8 text of at
    most 1024 bytes (any bytes: `%`, `?`, `=`, `/`, space, non-ASCII …) and every optional UTF-8
    version id, `parse (format_to_string c) = Ok c` -/
theorem C14_copysrc_roundtrip (c : CopySource) (h : Legal c) : CopySource.parse c.format = .ok c :=
  CopySource.parse_format c h

/-- the key lemma: `urlencoding::decode_binary ∘ urlencoding::encode` is the identity on all byte strings -/
theorem C14_percent_decode_encode (b : Bytes) : pctDecode (pctEncode b) = b :=
  pctDecode_pctEncode b

/-- a header whose key is spelled with any mix of literal bytes (other than `%` and `?`) and
    `%XY` escapes (hex digits of either case) parses to the same bucket and key -/
theorem C14_copysrc_parse_spelling (b t k : Bytes) (hb : checkBucketName b = true) (hs : Spells t k)
    (hk : utf8Valid k = true) (hlen : k.length ≤ 1024) :
    CopySource.parse (b ++ slash :: t) = .ok ⟨b, k, none⟩ :=
  CopySource.parse_spelling b t k hb hs hk hlen

/-! non-vacuity: bucket `bucket`, key `a?b %` -/
example : Legal ⟨[98, 117, 99, 107, 101, 116], [97, 63, 98, 32, 37], some [118, 61, 49]⟩ :=
  ⟨by decide, by decide, by decide, by intro v h; cases h; decide⟩
example : Spells [97, 37, 51, 70, 98] [97, 63, 98] :=
  .lit (by decide) (by decide) (.esc (x := 3) (y := 15) (by decide) (by decide) (.lit (by decide) (by decide) .nil))

/-! ## Timestamp

An instant is `(unix, nanos)`: seconds since 1970-01-01T00:00:00Z and nanoseconds; a `Ts` also carries
the UTC offset (seconds) the value was expressed in. The instants of the years 1 … 9999 are
`-62135596800 ≤ unix ≤ 253402300799`. -/

/-- the calendar arithmetic: day number → civil date → day number is the identity on all of `Int`,
    and the civil date is a valid one -/
theorem C14_civil_days_civil (z : Int) :
    daysFromCivil (civilFromDays z).1 (civilFromDays z).2.1 (civilFromDays z).2.2 = z ∧
    1 ≤ (civilFromDays z).2.1 ∧ (civilFromDays z).2.1 ≤ 12 ∧
    1 ≤ (civilFromDays z).2.2 ∧ (civilFromDays z).2.2 ≤ daysInMonth (civilFromDays z).1 (civilFromDays z).2.1 :=
  civil_days_civil z

/-- civil date → day number → civil date is the identity for every valid date of every year -/
theorem C14_days_civil_days (y : Int) (m d : Nat) (hm1 : 1 ≤ m) (hm2 : m ≤ 12) (hd1 : 1 ≤ d)
    (hd2 : d ≤ daysInMonth y m) : civilFromDays (daysFromCivil y m d) = (y, m, d) :=
  days_civil_days y m d hm1 hm2 hd1 hd2

/-- the day number the model computes is the proleptic Gregorian one obtained by counting the days
    of the years and months before the date (`DtoSpec.specDays`), for every year ≥ 1 -/
theorem C14_days_eq_counting (y m d : Nat) (hy : 1 ≤ y) (hm1 : 1 ≤ m) (hm2 : m ≤ 12) (hd : 1 ≤ d) :
    daysFromCivil (y : Int) m d = specDays y m d :=
  daysFromCivil_eq_specDays y m d hy hm1 hm2 hd

/-- *formatting then parsing is the identity up to the format's precision* — DateTime (RFC 3339,
    milliseconds): for every instant of the years 0000 … 9999 (the property asks for 1 … 9999), whatever
    offset the timestamp carries, `format` succeeds and `parse` of its output is the same instant truncated
    to the millisecond (in UTC) -/
theorem C14_ts_datetime_roundtrip (t : Ts) (h1 : -62167219200 ≤ t.unix) (h2 : t.unix ≤ 253402300799)
    (hn : t.nanos < 1000000000) :
    ∃ txt, formatDateTime t = some txt ∧
      parseRfc3339 txt = some ⟨t.unix, t.nanos / 1000000 * 1000000, 0⟩ :=
  datetime_roundtrip t h1 h2 hn

/-- the same for HttpDate (the RFC1123 description, seconds precision) -/
theorem C14_ts_httpdate_roundtrip (t : Ts) (h1 : -62167219200 ≤ t.unix) (h2 : t.unix ≤ 253402300799) :
    ∃ txt, formatHttpDate t = some txt ∧ parseHttpDate txt = some ⟨t.unix, 0, 0⟩ :=
  httpdate_roundtrip t h1 h2

/-- *a timestamp keeps its instant whatever UTC offset it was expressed in*, parsing half: an
    RFC 3339 text `YYYY-MM-DDTHH:MM:SS[.mmm]±hh:mm` with a valid date-time of the years 1 … 9999 and
    any offset in [−23:59, +23:59] denotes the instant local − offset (`rfc3339Instant`, stated with the
    counting calendar of the specification). It is parsed to exactly that instant, the written fraction
    and that offset whenever the instant lies in the years 0000 … 9999 of UTC (which covers every instant
    of the property's quantifier, years 1 … 9999); a local time within a day of either end whose instant
    falls outside is refused (since repair b7ef08a: neither text form can express such an instant — until
    then it was accepted and `Timestamp::format` failed on the value, finding F-xml-7). Nothing in between:
    the statement is an equation for every such text. -/
theorem C14_ts_instant_preserved_parse (Y m d H Mi S : Nat) (ms : Option Nat) (neg : Bool) (oh om : Nat)
    (hdate : validDate Y m d = true) (hH : H ≤ 23) (hMi : Mi ≤ 59) (hS : S ≤ 59)
    (hms : ∀ x, ms = some x → x < 1000) (hoh : oh ≤ 23) (hom : om ≤ 59) :
    parseRfc3339 (rfc3339Text Y m d H Mi S ms neg oh om) =
      if -62167219200 ≤ rfc3339Instant Y m d H Mi S neg oh om ∧ rfc3339Instant Y m d H Mi S neg oh om ≤ 253402300799
      then some ⟨rfc3339Instant Y m d H Mi S neg oh om, fracNanosOf ms, offsetSeconds neg oh om⟩
      else none :=
  parse_rfc3339Text Y m d H Mi S ms neg oh om hdate hH hMi hS hms hoh hom

/-- *a timestamp keeps its instant whatever UTC offset it was expressed in*, formatting half: the parsed
    value is written (DateTime and HttpDate) as a text that parses to the same instant with offset 0,
    i.e. `format` emits that instant in UTC — for every text the parser
    accepts (`h1`, `h2`: the instant lies in the years 0000 … 9999, which by the parsing half is exactly
    when the text is accepted, code since b7ef08a) -/
theorem C14_ts_instant_preserved (Y m d H Mi S : Nat) (ms : Option Nat) (neg : Bool) (oh om : Nat)
    (hdate : validDate Y m d = true) (hH : H ≤ 23) (hMi : Mi ≤ 59) (hS : S ≤ 59)
    (hms : ∀ x, ms = some x → x < 1000) (hoh : oh ≤ 23) (hom : om ≤ 59)
    (h1 : -62167219200 ≤ rfc3339Instant Y m d H Mi S neg oh om)
    (h2 : rfc3339Instant Y m d H Mi S neg oh om ≤ 253402300799) :
    ∃ t, parseRfc3339 (rfc3339Text Y m d H Mi S ms neg oh om) = some t ∧
      t.unix = rfc3339Instant Y m d H Mi S neg oh om ∧
      (∃ txt, formatDateTime t = some txt ∧ parseRfc3339 txt = some ⟨t.unix, fracNanosOf ms, 0⟩) ∧
      (∃ txt, formatHttpDate t = some txt ∧ parseHttpDate txt = some ⟨t.unix, 0, 0⟩) := by
  have hp := parse_rfc3339Text Y m d H Mi S ms neg oh om hdate hH hMi hS hms hoh hom
  rw [if_pos ⟨h1, h2⟩] at hp
  refine ⟨_, hp, rfl, ?_, ?_⟩
  · obtain ⟨hn, hr⟩ := fracNanosOf_ms ms hms
    have := datetime_roundtrip ⟨rfc3339Instant Y m d H Mi S neg oh om, fracNanosOf ms, offsetSeconds neg oh om⟩ h1 h2 hn
    simpa only [hr] using this
  · exact httpdate_roundtrip ⟨rfc3339Instant Y m d H Mi S neg oh om, fracNanosOf ms, offsetSeconds neg oh om⟩ h1 h2

/-- *an accepted timestamp can always be written* (since repair b7ef08a; until then false for
    `9999-12-31T23:59:59-01:00`, finding F-xml-7 `xml-ts-format-panic`): whatever of the three forms a
    text was accepted in by `Timestamp::parse`, and whatever the text, all three arms of
    `Timestamp::format` succeed on the value — `utils::format::fmt_timestamp`, which unwraps that result
    in the XML and header serialisers, cannot panic on a timestamp that came out of `parse`. No
    hypothesis on the text. -/
theorem C14_ts_parse_format_total (f : TsFormat) (txt : Bytes) (t : Ts) (h : Ts.parse f txt = some t) :
    (∃ a, formatDateTime t = some a) ∧ (∃ b, formatHttpDate t = some b) ∧ (∃ c, formatEpochSeconds t = some c) :=
  format_total_of_range t (Ts.parse_range h).1 (Ts.parse_range h).2

/-- for the `DateTime` form the text written for an accepted value is again one the parser accepts, with the same
    instant: every accepted RFC 3339 text — any spelling `time` reads, any offset — is re-emitted as a
    text that parses to that instant truncated to the millisecond, in UTC -/
theorem C14_ts_datetime_accepted_roundtrip (txt : Bytes) (t : Ts) (h : parseRfc3339 txt = some t) :
    ∃ out, formatDateTime t = some out ∧ parseRfc3339 out = some ⟨t.unix, t.nanos / 1000000 * 1000000, 0⟩ := by
  obtain ⟨-, h1, h2⟩ := parseRfc3339_eq_some_iff.mp h
  exact datetime_roundtrip t h1 h2 (parseRfc3339_nanos_lt h)

/-- *formatting then parsing is the identity* — EpochSeconds, in full (after repair 4f99c94): for
    every instant of the years 1 … 9999 at nanosecond resolution, before and after 1970, whatever
    offset the timestamp carries, `format` writes a text that `parse` reads back as exactly that
    instant (in UTC). Closes findings F-dto-4 (`-1`, `-0.5` were refused) and F-dto-5 (the `f64`
    text of some millisecond instants denoted another instant and was refused). -/
theorem C14_ts_epoch_roundtrip (t : Ts) (h1 : -62135596800 ≤ t.unix) (h2 : t.unix ≤ 253402300799)
    (hn : t.nanos < 1000000000) :
    ∃ txt, formatEpochSeconds t = some txt ∧ parseEpochSeconds txt = some ⟨t.unix, t.nanos, 0⟩ :=
  epoch_roundtrip t (by unfold unixMin; omega) (by unfold unixMax; omega) hn

/-- *encoded to text that denotes the same value* — EpochSeconds: the text `format` writes is a
    decimal number `[-] 1*DIGIT [ "." 1*DIGIT ]` (`readDecimal`: numerator `num`, `k` fraction digits,
    i.e. the rational `num / 10^k`) that is exactly `unix + nanos / 10^9` seconds, sign included;
    stated with integers: `num · 10^9 = (unix · 10^9 + nanos) · 10^k`. No bound on the instant. -/
theorem C14_ts_epoch_format_denotes (t : Ts) :
    ∃ txt num k, formatEpochSeconds t = some txt ∧ readDecimal txt = some (num, k) ∧
      num * 1000000000 = (t.unix * 1000000000 + (t.nanos : Int)) * ((10 ^ k : Nat) : Int) := by
  obtain ⟨txt, hf, num, k, hr, he⟩ := epoch_format_denotes t
  exact ⟨txt, num, k, hf, hr, he⟩

/-- *decoded to the value they denote* — EpochSeconds, parsing: every text of the grammar
    `[-] 1*DIGIT [ "." 1*9DIGIT ]` (`EpochText`: any number of leading zeros, one to nine fraction
    digits with or without trailing zeros, optional minus sign) that denotes `n` nanoseconds since the
    epoch, `n` an instant of the years 1 … 9999, is parsed to exactly that instant in UTC:
    `unix · 10^9 + nanos = n` with `0 ≤ nanos < 10^9` -/
theorem C14_ts_epoch_parse_denotes (txt : Bytes) (n : Int) (h : EpochText txt n)
    (h1 : -62135596800000000000 ≤ n) (h2 : n ≤ 253402300799999999999) :
    ∃ t, parseEpochSeconds txt = some t ∧ t.off = 0 ∧ t.nanos < 1000000000 ∧
      t.unix * 1000000000 + (t.nanos : Int) = n :=
  parseEpoch_denotes txt n h (by unfold unixMin; omega) (by unfold unixMax; omega)

/-- the texts the AWS protocol tests use, decimal seconds with a millisecond fraction, are read exactly -/
theorem C14_ts_epoch_parse_ms (secs ms : Nat) (h1 : secs ≤ 253402300799) (h2 : ms < 1000) :
    parseEpochSeconds (fmtDec secs ++ 46 :: pad3 ms) = some ⟨(secs : Int), ms * 1000000, 0⟩ := by
  rw [parseEpoch_eq _ _ (epochText_ms secs h2), Int.natCast_add, Int.natCast_mul]
  exact epochFromNanos_of secs (ms * 1000000) (by unfold unixMin; omega) (by unfold unixMax; omega) (by omega)

/-! non-vacuity: 2020-01-01T08:00:00+08:00 is 2020-01-01T00:00:00Z = 1577836800 -/
example : validDate 2020 1 1 = true := by decide
example : rfc3339Instant 2020 1 1 8 0 0 false 8 0 = 1577836800 := by decide
example : rfc3339Text 2020 1 1 8 0 0 none false 8 0 =
    [50, 48, 50, 48, 45, 48, 49, 45, 48, 49, 84, 48, 56, 58, 48, 48, 58, 48, 48, 43, 48, 56, 58, 48, 48] := by decide
example : (-62167219200 : Int) ≤ 1577836800 ∧ (1577836800 : Int) ≤ 253402300799 := by decide

/-! non-vacuity of the year check: `9999-12-31T22:59:59-01:00` is the last second of year 9999 and is accepted
    (and written `9999-12-31T23:59:59.000Z`); one hour later, `9999-12-31T23:59:59-01:00`, is refused;
    `0000-01-01T01:00:00+01:00` is the first second of year 0000; `0000-01-01T00:59:59+01:00` is refused -/
example : validDate 9999 12 31 = true := by decide
example : rfc3339Instant 9999 12 31 22 59 59 true 1 0 = 253402300799 := by decide +kernel
example : rfc3339Instant 9999 12 31 23 59 59 true 1 0 = 253402304399 := by decide +kernel
example : (parseRfc3339 (rfc3339Text 9999 12 31 22 59 59 none true 1 0)).bind formatDateTime =
    some [57, 57, 57, 57, 45, 49, 50, 45, 51, 49, 84, 50, 51, 58, 53, 57, 58, 53, 57, 46, 48, 48, 48, 90] := by
  decide +kernel
example : parseRfc3339 (rfc3339Text 9999 12 31 23 59 59 none true 1 0) = none := by decide +kernel
example : parseRfc3339 [48, 48, 48, 48, 45, 48, 49, 45, 48, 49, 84, 48, 49, 58, 48, 48, 58, 48, 48, 43, 48, 49, 58, 48, 48] =
    some ⟨-62167219200, 0, 3600⟩ := by decide +kernel
example : parseRfc3339 [48, 48, 48, 48, 45, 48, 49, 45, 48, 49, 84, 48, 48, 58, 53, 57, 58, 53, 57, 43, 48, 49, 58, 48, 48] =
    none := by decide +kernel

/-! non-vacuity, EpochSeconds: half a second before 1970 is written `-0.5`; the first instant of year 1
    is written `-62135596800`; 1970-01-01T00:00:01.118Z (the old `f64` text was `1.1179999999999999`)
    is written `1.118` whatever offset it carries; each is read back; `-0.5` denotes −5/10 -/
example : (-62135596800 : Int) ≤ -1 ∧ (-1 : Int) ≤ 253402300799 ∧ 500000000 < 1000000000 := by decide
example : formatEpochSeconds ⟨-1, 500000000, 0⟩ = some [45, 48, 46, 53] := by decide +kernel
example : parseEpochSeconds [45, 48, 46, 53] = some ⟨-1, 500000000, 0⟩ := by decide +kernel
example : formatEpochSeconds ⟨-62135596800, 0, 0⟩ = some [45, 54, 50, 49, 51, 53, 53, 57, 54, 56, 48, 48] := by
  decide +kernel
example : parseEpochSeconds [45, 54, 50, 49, 51, 53, 53, 57, 54, 56, 48, 48] = some ⟨-62135596800, 0, 0⟩ := by
  decide +kernel
example : formatEpochSeconds ⟨1, 118000000, 28800⟩ = some [49, 46, 49, 49, 56] := by decide +kernel
example : parseEpochSeconds [49, 46, 49, 49, 56] = some ⟨1, 118000000, 0⟩ := by decide +kernel
example : readDecimal [45, 48, 46, 53] = some (-5, 1) := by decide
example : (-5 : Int) * 1000000000 = (-1 * 1000000000 + ((500000000 : Nat) : Int)) * ((10 ^ 1 : Nat) : Int) := by decide
example : EpochText [45, 48, 46, 53] (-500000000) :=
  .frac (neg := true) (ip := [48]) (fp := [53]) (a := 0) (b := 5) ⟨by decide, by decide⟩ ⟨by decide, by decide⟩ (by decide)
example : (-62135596800000000000 : Int) ≤ -500000000 ∧ (-500000000 : Int) ≤ 253402300799999999999 := by decide
example : (1515531081 : Nat) ≤ 253402300799 ∧ (123 : Nat) < 1000 := by decide

end S3V.C14
