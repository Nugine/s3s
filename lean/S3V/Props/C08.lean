import S3V.Thm.ChunkedRefine
import S3V.Thm.ChunkedSpec
import S3V.Thm.ChunkedEnc
import S3V.Thm.Decimal
/-!
# C08 — chunk-signed uploads deliver only verified bytes; only complete uploads succeed
# C09(c) — the chunk-signed decoder does not depend on the transport framing

Quantifier: every list of transport frames (data frames of any length including empty ones, and
transport errors at any position), every seed signature, every declared length, and every chunk
signature function `sig : prev → data → signature` (the real one is
`hex ∘ HMAC-SHA256(signing key, string-to-sign(prev, data))`). No bound on sizes, counts or steps.

`decodeStream` is the model of `AwsChunkedStream` (tree after ae85130), `decode`/`decodeR` the reference
decoder on the concatenated bytes (`S3V/Spec/Chunked.lean`), `Chunk`, `Chunk.WF`, `Verified`,
`chainEnd`, `wireOf`, `dataOf` the declarative vocabulary of that file.
-/
namespace S3V.C08
open S3V S3V.Chunked S3V.ChunkedSpec

variable (sig : Bytes → Bytes → Bytes)

/-- **refinement** (C08 core, C09c): for every frame list — any split points, empty frames, frame
    count, and transport errors anywhere — the bytes the stream yields, concatenated, and the way it
    ends are those of the reference decoder applied to the concatenation of the transport bytes -/
theorem C08_chunked_refines (seed : Bytes) (declared : Nat) (frames : List Frame) :
    (decodeStream sig seed declared frames).delivered.flatten =
        (decode sig seed declared (transportBytes frames) (transportBroken frames)).1 ∧
    (decodeStream sig seed declared frames).terminal =
        (decode sig seed declared (transportBytes frames) (transportBroken frames)).2 :=
  -- `decode` reads the reason `decodeR` ends with as a terminal, which is `outcome`
  Prod.mk.inj (decodeStream_refines sig seed declared frames)

/-- the fuel given to the model's main loop never runs out: every fuel above the number of transport
    bytes gives the same output, frame partition included (so the `fuel = 0` branch of `run` is dead) -/
theorem C08_fuel_irrelevant (seed : Bytes) (declared : Nat) (frames : List Frame) (fuel : Nat)
    (h : (transportBytes frames).length < fuel) :
    run sig declared fuel [] frames seed 0 = decodeStream sig seed declared frames :=
  run_fuel sig declared fuel _ [] frames seed 0 (by simpa using h) (by simp)

/-- the refinement for error-free transports, on `frames.flatten` -/
theorem C08_chunked_refines_flatten (seed : Bytes) (declared : Nat) (fs : List Bytes) :
    (decodeStream sig seed declared (fs.map Frame.data)).delivered.flatten =
        (decode sig seed declared fs.flatten false).1 ∧
    (decodeStream sig seed declared (fs.map Frame.data)).terminal =
        (decode sig seed declared fs.flatten false).2 := by
  have h := C08_chunked_refines sig seed declared (fs.map Frame.data)
  rwa [transportBytes_data, transportBroken_data] at h

/-- **C09(c)**: two framings of the same byte string give the same delivered bytes and the same end -/
theorem C09c_framing_independent (seed : Bytes) (declared : Nat) (fs₁ fs₂ : List Bytes)
    (h : fs₁.flatten = fs₂.flatten) :
    (decodeStream sig seed declared (fs₁.map Frame.data)).delivered.flatten =
        (decodeStream sig seed declared (fs₂.map Frame.data)).delivered.flatten ∧
    (decodeStream sig seed declared (fs₁.map Frame.data)).terminal =
        (decodeStream sig seed declared (fs₂.map Frame.data)).terminal := by
  have h1 := C08_chunked_refines_flatten sig seed declared fs₁
  have h2 := C08_chunked_refines_flatten sig seed declared fs₂
  rw [h] at h1
  exact ⟨h1.1.trans h2.1.symm, h1.2.trans h2.2.symm⟩

/-- C09(c) with failing transports: only the bytes before the failure and the fact of the failure matter -/
theorem C09c_framing_independent_faulty (seed : Bytes) (declared : Nat) (f₁ f₂ : List Frame)
    (hb : transportBytes f₁ = transportBytes f₂) (he : transportBroken f₁ = transportBroken f₂) :
    (decodeStream sig seed declared f₁).delivered.flatten = (decodeStream sig seed declared f₂).delivered.flatten ∧
    (decodeStream sig seed declared f₁).terminal = (decodeStream sig seed declared f₂).terminal := by
  have h1 := C08_chunked_refines sig seed declared f₁
  have h2 := C08_chunked_refines sig seed declared f₂
  rw [hb, he] at h1
  exact ⟨h1.1.trans h2.1.symm, h1.2.trans h2.2.symm⟩

/-- **only verified bytes**: whatever arrives, the delivered bytes are exactly the data, in order, of a
    list of well-formed chunks that (1) sit at the start of the transport bytes back to back and
    (2) verify one after the other along the signature chain that starts at the seed.
    If the body ends with `SignatureMismatch`, the offending chunk comes right after them and none of
    its bytes is delivered. -/
theorem C08_only_verified (seed : Bytes) (declared : Nat) (frames : List Frame) :
    ∃ cs : List Chunk,
      (∀ c ∈ cs, c.WF) ∧ Verified sig seed cs ∧ wireOf cs <+: transportBytes frames ∧
      (decodeStream sig seed declared frames).delivered.flatten = dataOf cs ∧
      ((decodeStream sig seed declared frames).terminal = .signatureMismatch →
        ∃ bad : Chunk, bad.WF ∧ (wireOf cs ++ bad.wire) <+: transportBytes frames ∧
          bad.sgn ≠ sig (chainEnd seed cs) bad.data) := by
  obtain ⟨cs, tail, r, hbytes, hwf, hver, _, hdata, hterm, hstop⟩ := decodeStream_structure sig seed declared frames
  refine ⟨cs, fun c hc => (hwf c hc).1, hver, ⟨tail, hbytes.symm⟩, hdata, fun h => ?_⟩
  cases Reason.terminal_eq_signatureMismatch.mp (hterm.symm.trans h)
  obtain ⟨bad, rest, hbad, rfl, hv⟩ := hstop.checked (.inr rfl)
  exact ⟨bad, hbad, ⟨rest, by rw [hbytes, List.append_assoc]⟩, verdict_badSignature.mp hv⟩

/-- **only complete uploads succeed**: if the body ends OK then the transport bytes start with verified
    data chunks followed by a verified zero-length chunk, the delivered bytes are exactly the data of
    those chunks, and they total the declared decoded length -/
theorem C08_ok_only_if_complete (seed : Bytes) (declared : Nat) (frames : List Frame)
    (hok : (decodeStream sig seed declared frames).terminal = .ok) :
    ∃ (cs : List Chunk) (fin : Chunk),
      (∀ c ∈ cs, c.WF) ∧ fin.WF ∧ fin.data = [] ∧ Verified sig seed (cs ++ [fin]) ∧
      wireOf (cs ++ [fin]) <+: transportBytes frames ∧
      (decodeStream sig seed declared frames).delivered.flatten = dataOf cs ∧
      (dataOf cs).length = declared := by
  obtain ⟨cs, tail, r, hbytes, hwf, hver, _, hdata, hterm, hstop⟩ := decodeStream_structure sig seed declared frames
  cases Reason.terminal_eq_ok.mp (hterm.symm.trans hok)
  obtain ⟨fin, rest, hfin, rfl, hv⟩ := hstop.checked (.inl rfl)
  obtain ⟨hsgn, hfin0, hlen⟩ := verdict_complete.mp hv
  refine ⟨cs, fin, fun c hc => (hwf c hc).1, hfin, List.eq_nil_of_length_eq_zero hfin0, ?_, ⟨rest, ?_⟩, hdata, hlen⟩
  · rw [verified_append]
    exact ⟨hver, hsgn, trivial⟩
  · rw [hbytes, wireOf_append, wireOf_cons, show wireOf [] = [] from rfl, List.append_nil, List.append_assoc]

/-- the delivered bytes never exceed the declared decoded length, and `exact_remaining_length()` at the
    end is the declared length minus what was delivered -/
theorem C08_remaining_length (seed : Bytes) (declared : Nat) (frames : List Frame) :
    (decodeStream sig seed declared frames).delivered.flatten.length ≤ declared ∧
    remainingLength declared (decodeStream sig seed declared frames) =
      declared - (decodeStream sig seed declared frames).delivered.flatten.length := by
  obtain ⟨cs, _, _, _, _, _, hlen, hdata, _⟩ := decodeStream_structure sig seed declared frames
  exact ⟨hdata ▸ hlen, remainingLength_eq declared _⟩

/-- **the first bad chunk is rejected and contributes nothing**: after verified non-final chunks `cs`,
    a chunk whose signature is not the chain value for its data — altered, resized, reordered,
    re-signed or spliced in — ends the body with `SignatureMismatch`; exactly the data of `cs` was
    delivered, nothing of the bad chunk and nothing behind it. No hypothesis on `sig`. -/
theorem C08_bad_chunk_rejected (seed : Bytes) (declared : Nat) (frames : List Frame)
    (cs : List Chunk) (bad : Chunk) (tail : Bytes)
    (hwf : ∀ c ∈ cs, c.WF ∧ c.data ≠ []) (hver : Verified sig seed cs)
    (hlen : (dataOf cs).length ≤ declared) (hbad : bad.WF)
    (hsig : bad.sgn ≠ sig (chainEnd seed cs) bad.data)
    (hbytes : transportBytes frames = wireOf cs ++ (bad.wire ++ tail)) :
    (decodeStream sig seed declared frames).delivered.flatten = dataOf cs ∧
    (decodeStream sig seed declared frames).terminal = .signatureMismatch :=
  decodeStream_stops sig seed declared frames cs (bad.wire ++ tail) .badSignature hwf hver hlen hbytes
    (.check hbad rfl (verdict_badSignature.mpr hsig))

/-- **tampered data is rejected**: chunk `c` was validly signed at this position; the attacker replaces
    its data (any length, header size adjusted or not) and keeps the signature. If the MAC does not
    collide on these two concrete messages, the body ends with `SignatureMismatch` and nothing of the
    altered chunk is delivered. The no-collision fact is a hypothesis, not an axiom. -/
theorem C08_tamper_rejected (seed : Bytes) (declared : Nat) (frames : List Frame)
    (cs : List Chunk) (c c' : Chunk) (tail : Bytes)
    (hwf : ∀ x ∈ cs, x.WF ∧ x.data ≠ []) (hver : Verified sig seed (cs ++ [c]))
    (hlen : (dataOf cs).length ≤ declared) (hc' : c'.WF) (hsame : c'.sgn = c.sgn)
    (hnc : sig (chainEnd seed cs) c'.data ≠ sig (chainEnd seed cs) c.data)
    (hbytes : transportBytes frames = wireOf cs ++ (c'.wire ++ tail)) :
    (decodeStream sig seed declared frames).delivered.flatten = dataOf cs ∧
    (decodeStream sig seed declared frames).terminal = .signatureMismatch := by
  rw [verified_append] at hver
  obtain ⟨hv, hcs, _⟩ := hver
  refine C08_bad_chunk_rejected sig seed declared frames cs c' tail hwf hv hlen hc' ?_ hbytes
  rw [hsame, hcs]
  exact fun h => hnc h.symm

/-- **reordered, duplicated or spliced chunks are rejected**: a chunk whose signature was made for
    another position of a chain — of this request (swap, duplication, deletion of a predecessor) or of
    another request, date or key (`sig'`, `prev'`) — is rejected at this position, provided the two
    MAC values involved differ -/
theorem C08_splice_rejected (seed : Bytes) (declared : Nat) (frames : List Frame)
    (cs : List Chunk) (c' : Chunk) (tail : Bytes) (sig' : Bytes → Bytes → Bytes) (prev' : Bytes)
    (hwf : ∀ x ∈ cs, x.WF ∧ x.data ≠ []) (hver : Verified sig seed cs)
    (hlen : (dataOf cs).length ≤ declared) (hc' : c'.WF) (horigin : c'.sgn = sig' prev' c'.data)
    (hnc : sig' prev' c'.data ≠ sig (chainEnd seed cs) c'.data)
    (hbytes : transportBytes frames = wireOf cs ++ (c'.wire ++ tail)) :
    (decodeStream sig seed declared frames).delivered.flatten = dataOf cs ∧
    (decodeStream sig seed declared frames).terminal = .signatureMismatch :=
  C08_bad_chunk_rejected sig seed declared frames cs c' tail hwf hver hlen hc' (by rw [horigin]; exact hnc) hbytes

/-- **complete uploads are accepted** (the property is not met by rejecting everything): verified
    non-final chunks totalling the declared length, then the verified zero-length chunk, then anything
    (never read) — under every framing the body is the data of the chunks and ends OK -/
theorem C08_complete_accepted (seed : Bytes) (declared : Nat) (frames : List Frame)
    (cs : List Chunk) (fin : Chunk) (tail : Bytes)
    (hwf : ∀ c ∈ cs, c.WF ∧ c.data ≠ []) (hfin : fin.WF) (hfin0 : fin.data = [])
    (hver : Verified sig seed (cs ++ [fin])) (hlen : (dataOf cs).length = declared)
    (hbytes : transportBytes frames = wireOf cs ++ (fin.wire ++ tail)) :
    (decodeStream sig seed declared frames).delivered.flatten = dataOf cs ∧
    (decodeStream sig seed declared frames).terminal = .ok := by
  rw [verified_append] at hver
  obtain ⟨hv, hcs, _⟩ := hver
  exact decodeStream_stops sig seed declared frames cs (fin.wire ++ tail) .complete hwf hv (Nat.le_of_eq hlen) hbytes
    (.check hfin rfl (verdict_complete.mpr ⟨hcs, by rw [hfin0]; rfl, hlen⟩))

/-- **truncated uploads fail**: if the transport ends (or fails) after verified non-final chunks and a
    proper prefix of the next chunk's header line, the body ends with `Incomplete` (`Underlying` for a
    transport failure) — in particular it does not end OK -/
theorem C08_truncated_rejected (seed : Bytes) (declared : Nat) (frames : List Frame)
    (cs : List Chunk) (partialLine : Bytes)
    (hwf : ∀ c ∈ cs, c.WF ∧ c.data ≠ []) (hver : Verified sig seed cs)
    (hlen : (dataOf cs).length ≤ declared) (hnl : (10 : UInt8) ∉ partialLine)
    (hbytes : transportBytes frames = wireOf cs ++ partialLine) :
    (decodeStream sig seed declared frames).delivered.flatten = dataOf cs ∧
    (decodeStream sig seed declared frames).terminal =
      (if transportBroken frames then .underlying else .incomplete) := by
  have h := decodeStream_stops sig seed declared frames cs partialLine
    (outOfBytes (transportBroken frames)) hwf hver hlen hbytes (.noLine hnl)
  refine ⟨h.1, h.2.trans ?_⟩
  cases transportBroken frames <;> rfl

/-- the header parser of the model (nom: `take_till1`, `hex_u32`, `tag`, `take(64)`, `tag`,
    `all_consuming`) is the header grammar of the spec -/
theorem C08_header_parser (line : Bytes) : parseMeta line = parseHeader line :=
  parseMeta_eq_parseHeader line

/-- **headers as the AWS document writes them are read with their value**: lower-case hex size
    (any size below 2^32), `;chunk-signature=`, 64 signature bytes, CR LF -/
theorem C08_header_canonical (n : Nat) (hn : n < 2 ^ 32) (s : Bytes) (hs : s.length = 64) :
    parseHeader (hexOfNat n ++ tag ++ s ++ crlf) = some (n, s) :=
  parseHeader_canonical hn hs

/-- **what the document's encoder sends is accepted, under every framing**: for any payload pieces
    (non-empty, each below 4 GiB), `encode` = the pieces as chained signed chunks plus the signed
    zero-length chunk; whatever follows it and however the transport frames the bytes, the stream
    yields exactly the payload and ends OK. `hsig`: signatures are 64 bytes without a line feed
    (64 hex digits in reality). -/
theorem C08_encode_accepted (hsig : ∀ p d, (sig p d).length = 64 ∧ (10 : UInt8) ∉ sig p d)
    (seed : Bytes) (pieces : List Bytes) (hp : ∀ d ∈ pieces, d ≠ [] ∧ d.length < 2 ^ 32)
    (frames : List Frame) (tail : Bytes)
    (hbytes : transportBytes frames = encode sig seed pieces ++ tail) :
    (decodeStream sig seed pieces.flatten.length frames).delivered.flatten = pieces.flatten ∧
    (decodeStream sig seed pieces.flatten.length frames).terminal = .ok := by
  obtain ⟨i1, i2, i3⟩ := encodeChunks_verified sig hsig pieces seed hp
  have hfin := encodeChunk_wf sig (chainEnd seed (encodeChunks sig seed pieces)) [] (by simp)
    (hsig _ _).1 (hsig _ _).2
  have := C08_complete_accepted sig seed pieces.flatten.length frames (encodeChunks sig seed pieces)
    (encodeChunk sig (chainEnd seed (encodeChunks sig seed pieces)) []) tail i1 hfin rfl
    ((verified_append sig seed _ _).mpr ⟨i2, rfl, trivial⟩) (by rw [i3])
    (by rw [hbytes]; simp [encode])
  rwa [i3] at this

/-- **the content length the backend sees is the declared decoded length**: `ops::prepare` overwrites an
    existing Content-Length header of a chunk-signed request with the decimal text of
    `x-amz-decoded-content-length` (the stream itself starts with `remaining_length = declared`,
    `C08_remaining_length`) -/
theorem C08_content_length_is_declared (old : Bytes) (declared : Nat) :
    ∃ v, rewriteContentLength (some old) (some declared) = some v ∧ digitsVal v 0 = some declared :=
  ⟨fmtContentLength declared, rfl, (fmtDec_ite declared ▸ digitsVal_fmtDec_zero declared :)⟩

/-! ## non-vacuity: concrete inputs meeting the hypotheses (toy MAC: 64 × 'a' for even data length,
    64 × 'b' for odd) -/

def toySig (_prev data : Bytes) : Bytes :=
  if data.length % 2 = 0 then List.replicate 64 97 else List.replicate 64 98

def sigA : Bytes := List.replicate 64 97
def sigB : Bytes := List.replicate 64 98

/-- `2;chunk-signature=aaaa…a\r\n` with data `hi` -/
def c1 : Chunk := ⟨[50] ++ tag ++ sigA ++ crlf, sigA, [104, 105]⟩
/-- the attacker's replacement: data `hey` under a header of size 3 carrying the signature of `c1` -/
def c1' : Chunk := ⟨[51] ++ tag ++ sigA ++ crlf, sigA, [104, 101, 121]⟩
/-- the final chunk `0;chunk-signature=aaaa…a\r\n` -/
def fin0 : Chunk := ⟨[48] ++ tag ++ sigA ++ crlf, sigA, []⟩

/-- the hypothesis `hsig` of `C08_encode_accepted` -/
example : ∀ p d, (toySig p d).length = 64 ∧ (10 : UInt8) ∉ toySig p d := by
  intro p d
  have hnl : ∀ c : UInt8, c ≠ 10 → (10 : UInt8) ∉ List.replicate 64 c :=
    fun c hc h => hc (List.eq_of_mem_replicate h).symm
  unfold toySig
  split
  · exact ⟨List.length_replicate, hnl 97 (by decide)⟩
  · exact ⟨List.length_replicate, hnl 98 (by decide)⟩

example : c1.WF := by
  have h := wf_canonical (n := 2) (s := sigA) (data := [104, 105]) (by decide) rfl
    (fun hm => absurd (List.eq_of_mem_replicate hm) (by decide)) rfl
  rwa [hexOfNat_of_lt (by decide)] at h
example : c1'.WF := by
  have h := wf_canonical (n := 3) (s := sigA) (data := [104, 101, 121]) (by decide) rfl
    (fun hm => absurd (List.eq_of_mem_replicate hm) (by decide)) rfl
  rwa [hexOfNat_of_lt (by decide)] at h
example : fin0.WF := by
  have h := wf_canonical (n := 0) (s := sigA) (data := []) (by decide) rfl
    (fun hm => absurd (List.eq_of_mem_replicate hm) (by decide)) rfl
  rwa [hexOfNat_of_lt (by decide)] at h

/-- hypotheses of `C08_complete_accepted` / `C08_ok_only_if_complete`: a complete two-byte upload -/
example : Verified toySig [1, 2, 3] ([c1] ++ [fin0]) :=
  show Verified toySig [1, 2, 3] [c1, fin0] from ⟨by decide +kernel, by decide +kernel, trivial⟩
/-- hypotheses of `C08_tamper_rejected`: `c1'` keeps the signature of `c1` with other data; the toy MAC
    does not collide on the two messages -/
example : c1'.sgn = c1.sgn ∧ toySig (chainEnd [1, 2, 3] []) c1'.data ≠ toySig (chainEnd [1, 2, 3] []) c1.data := by
  decide +kernel

/-- the complete upload, framed with cuts inside the header, between CR and LF, and an empty frame:
    delivered as received pieces, ends OK -/
example :
    decodeStream toySig [1, 2, 3] 2
      [.data ((c1.wire ++ fin0.wire).take 5), .data [], .data (((c1.wire ++ fin0.wire).drop 5).take 80),
       .data (((c1.wire ++ fin0.wire).drop 85).take 2), .data ((c1.wire ++ fin0.wire).drop 87)]
      = ⟨[[104], [105]], .ok⟩ := by decide +kernel

/-- the same upload cut inside the final chunk's header: `Incomplete`, although every data byte arrived -/
example :
    decodeStream toySig [1, 2, 3] 2 [.data ((c1.wire ++ fin0.wire).take 100)] = ⟨[[104, 105]], .incomplete⟩ := by
  decide +kernel

/-- tampered first chunk: nothing delivered, `SignatureMismatch` -/
example :
    decodeStream toySig [1, 2, 3] 3 [.data (c1'.wire ++ fin0.wire)] = ⟨[], .signatureMismatch⟩ := by decide +kernel

/-- wrong declared length (3 instead of 2): the final chunk arrives, the body ends `Incomplete` -/
example :
    decodeStream toySig [1, 2, 3] 3 [.data (c1.wire ++ fin0.wire)] = ⟨[[104, 105]], .incomplete⟩ := by decide +kernel

end S3V.C08
