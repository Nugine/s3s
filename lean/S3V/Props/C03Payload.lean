import S3V.Props.C13
import S3V.Thm.PayloadTable
/-!
# C03 × C13 — the payload member of every operation (response body)

`C03AllOps` covers the header-bound output members. This file: the type a generated `serialize_http` writes into the
body is the one the Smithy model prescribes for that operation, under the root element the model prescribes (same
tables and lemmas as `Props/C02Payload.lean`):

* table (`Gen/Payloads.lean`): per operation the body statement of `serialize_http` — `set_xml_body(&x)` /
  `set_xml_body_no_decl(&x)` with `x` the output itself, `if let Some(ref val) = x.m { set_xml_body(val) }`,
  `set_stream_body`, `set_event_stream_body`, `Body::from(string)` — and what the model binds to the response body:
  the `httpPayload` member, or the output structure itself when it has members without an HTTP binding;
* model (`Model/HttpBody.lean`): `set_xml_body`, `set_xml_body_no_decl` over the writer of `Model/Xml.lean`;
* client: the document decoder of the type (`deserialize_xml`: reader, root element, schema, end of input) run with
  the serialiser's schema — which is the model's (`C13_schema_eq_smithy`).
-/
namespace S3V.C03
open S3V S3V.Gen S3V.Xml S3V.XmlGen S3V.HttpBody S3V.PayloadTable S3V.C13

/-! ## the table against the model -/

/-- **The response body of every operation is bound as the Smithy model prescribes** (re-decided on every run, all 96
    operations). `serialize_http` has at most one body statement, and it has one exactly when the model's output has
    an `httpPayload` member or members without an HTTP binding; a payload member is written as the Rust type named
    like its target shape, under `if let Some` (no output member is `required`); an output with body members is
    written itself (`set_xml_body(&x)`); the string payload (`Policy`) is the body text; a streaming blob is the raw
    body; the streaming union of `SelectObjectContent` is the event stream. -/
theorem C03_payload_binding_matches_smithy : ∀ op : Op, rowsMatch (implOutBody op) (smithyOutBody op) = true :=
  Op.forall_of_all (by decide +kernel)

/-- … so no operation has two body statements, and code and model have equally many (0 or 1) -/
theorem C03_payload_at_most_one (op : Op) :
    (implOutBody op).length ≤ 1 ∧ (implOutBody op).length = (smithyOutBody op).length :=
  length_le_one_of_match (C03_payload_binding_matches_smithy op)

/-- the body rows are exactly the rows of `implOutputs` (the table of `C03AllOps`) bound to the payload or to the
    output itself -/
theorem C03_payload_rows_are_binding_rows : ∀ op : Op,
    (implOutBody op).map (·.member) = payloadMembers (implOutputs op) :=
  Op.forall_of_all (by decide +kernel)

def rootNs : SerRoot → Option Bytes
  | .named _ ns => ns
  | .nested _ _ ns => ns
  | .location _ ns => ns

def outXmlOk (op : Op) : Bool :=
  (implOutBody op).all fun r =>
    match r.body with
    | .xml ty _ =>
      (match serRoot ty, smithyRootOf (smithyOutBody op) with
       | some sr, some root => rootTag sr == root && rootNs sr == none
       | _, _ => false)
    | .xmlSelf ty _ =>
      (match serRoot ty, smithyRootOf (smithyOutBody op) with
       | some sr, some root => rootTag sr == root && rootNs sr == some smithyServiceNs
       | _, _ => false)
    | _ => true

theorem outXmlOk_all : ∀ op : Op, outXmlOk op = true :=
  Op.forall_of_all (by decide +kernel)

/-- **The type every operation writes has a root serialiser, with the root element the model prescribes**
    (re-decided on every run): for every XML body statement of every `serialize_http`, the type written has an
    `impl Serialize`, and the root element it writes is exactly the name restXml derives from the model for that
    operation's response body (member `xmlName`, else the target's, else the shape name; the output's own `xmlName`
    when the output is the body). Namespace: an output that is itself the body declares the service namespace of the
    model on its root (`smithyServiceNs`); a payload member's root declares none. -/
theorem C03_payload_type_and_root (op : Op) (r : BodyRow) (ty : Ty) (decl : Bool)
    (hr : r ∈ implOutBody op) (hx : r.body.xmlOut = some (ty, decl)) :
    ∃ root sr, smithyRootOf (smithyOutBody op) = some root ∧ serRoot ty = some sr ∧ rootTag sr = root ∧
      (rootNs sr = none ∨ rootNs sr = some smithyServiceNs) := by
  have hall := List.all_eq_true.mp (outXmlOk_all op) r hr
  -- a payload member (`xml`) declares no namespace, an output that is itself the body (`xmlSelf`) the service's; the other
  -- kinds of body write no XML
  cases hb : r.body with
  | xml ty' _ | xmlSelf ty' _ =>
    simp only [hb, BodyImpl.xmlOut, Option.some.injEq, Prod.mk.injEq] at hx hall
    obtain ⟨rfl, _⟩ := hx
    cases hs : serRoot ty' with
    | none => simp [hs] at hall
    | some sr =>
      cases hq : smithyRootOf (smithyOutBody op) with
      | none => simp [hs, hq] at hall
      | some root =>
        simp only [hs, hq, Bool.and_eq_true, beq_iff_eq] at hall
        exact ⟨root, sr, rfl, rfl, hall.1, by simp [hall.2]⟩
  | _ => simp [hb, BodyImpl.xmlOut] at hx

/-! ## the round trip -/

/-- **THE XML RESPONSE BODY OF EVERY OPERATION ROUND-TRIPS.** For every operation whose `serialize_http` writes an XML
    body — the payload member or the output itself, of type `ty`, with (`decl`) or without the XML declaration — let
    `root` be the root element name the Smithy model prescribes for that operation's response body, `sr` the root
    `impl Serialize for ty` writes (its element name is `root`) and `ss` the schema extracted from the serialiser impl
    (well-formed; the model's, `C13_schema_eq_smithy`). Then for EVERY value `v` the root can carry (`FitsDoc`: normal
    form, any sizes, depths, list lengths, any text), a client that decodes the BYTES `set_xml_body[_no_decl]` put
    into the response — reader, expected root, schema `ss`, end of input — gets exactly `v`. By instantiating the C13
    round-trip theorems at `ty` (`decodeDoc_encodeDoc_*` behind `C13_codec_roundtrip_doc`,
    `C13_bucket_location_roundtrip` for the hand-written root); no hypothesis on the tables is left. -/
theorem C03_payload_roundtrip_every_operation (X : Ext) (op : Op) (r : BodyRow) (ty : Ty) (decl : Bool)
    (hr : r ∈ implOutBody op) (hx : r.body.xmlOut = some (ty, decl)) :
    ∃ root sr ss, smithyRootOf (smithyOutBody op) = some root ∧ serRoot ty = some sr ∧ rootTag sr = root ∧
      serSchema ty = some ss ∧ WfSch ss ∧
      ∀ v, FitsDoc X sr ss v → deserializeXml X sr.forget ss (setXmlBody decl sr ss v) = .ok v := by
  obtain ⟨root, sr, hq, hs, ht, _⟩ := C03_payload_type_and_root op r ty decl hr hx
  obtain ⟨⟨ss, hss, hwf⟩, _⟩ := C13_tables_wf ty
  obtain ⟨_, ⟨ss', hss', hgood⟩, hroot⟩ := C13_tables_tags_good ty
  rw [hss] at hss'; cases hss'
  refine ⟨root, sr, ss, hq, hs, ht, hss, hwf, ?_⟩
  intro v hfit
  apply set_xml_body_roundtrip X sr ss ss (hroot sr hs) hgood v
  cases sr with
  | named tag ns => exact (C13_codec_roundtrip_doc X ss hwf v hfit).1 tag ns
  | nested o i ns => exact (C13_codec_roundtrip_doc X ss hwf v hfit).2 o i ns
  | location tag ns =>
    rcases hfit with hv | ⟨b, hb, hu, hv⟩
    · rw [hv]; exact (C13_bucket_location_roundtrip X tag ns ss).2
    · rw [hv]; exact (C13_bucket_location_roundtrip X tag ns ss).1 b hb hu

/-! ## every operation is covered -/

/-- **Every operation is classified** (kernel-checked, no operation left out): its `serialize_http`
    1. writes an XML body — `C03_payload_roundtrip_every_operation` applies —, or
    2. hands the blob over as the raw body (`GetObject`, `GetObjectTorrent`: the model's streaming blob `Body`;
       `set_stream_body` is the identity on the frames; how they travel is the `@body` cases of `svcoutput` and C09), or
    3. writes the string member as the body text (`GetBucketPolicy`), or
    4. writes the event stream (`SelectObjectContent`: the model's streaming union; framing and events are C15), or
    5. has no body statement — and then the model's output has no `httpPayload` member and no body member either. -/
theorem C03_payload_every_operation_classified (op : Op) :
    (∃ r ty decl, implOutBody op = [r] ∧ r.body.xmlOut = some (ty, decl)) ∨
    (op ∈ [Op.GetObject, .GetObjectTorrent] ∧ ∃ m, implOutBody op = [⟨m, .stream⟩]) ∨
    (op = .GetBucketPolicy ∧ ∃ m, implOutBody op = [⟨m, .text true⟩]) ∨
    (op = .SelectObjectContent ∧ ∃ m, implOutBody op = [⟨m, .eventStream⟩]) ∨
    (implOutBody op = [] ∧ smithyOutBody op = []) := by
  have h := outClass_all op
  unfold outClass at h
  split at h
  · exact .inl ⟨_, _, true, ‹_›, rfl⟩
  · exact .inl ⟨_, _, _, ‹_›, rfl⟩
  · exact .inr (.inl ⟨by simpa using h, _, ‹_›⟩)
  · exact .inr (.inr (.inl ⟨by simpa using h, _, ‹_›⟩))
  · exact .inr (.inr (.inr (.inl ⟨by simpa using h, _, ‹_›⟩)))
  · exact .inr (.inr (.inr (.inr ⟨‹_›, by simpa using h⟩)))
  · cases h

/-- the classes by number (pinned tree: 42 operations with an XML body — 15 payload members, 27 outputs that are the
    body —, 2 streams, 1 text, 1 event stream, 50 without a body); the one output written without the XML declaration
    is `CompleteMultipartUpload` (the keep-alive body has sent it already, `C03KeepAlive`); the one hand-written root is
    `GetBucketLocation` -/
theorem C03_payload_class_sizes :
    (Op.all.filter fun op => (implOutBody op).any fun r => match r.body with | .xml _ _ => true | _ => false).length = 15 ∧
    (Op.all.filter fun op => (implOutBody op).any fun r => match r.body with | .xmlSelf _ _ => true | _ => false).length = 27 ∧
    Op.all.filter (fun op => (implOutBody op).any fun r => r.body.xmlOut.any fun p => p.2 == false) = [.CompleteMultipartUpload] ∧
    Op.all.filter (fun op => (implOutBody op).any fun r => r.body.xmlOut.any fun p =>
      match serRoot p.1 with | some (.named _ _) => false | _ => true) = [.GetBucketLocation] ∧
    (Op.all.filter fun op => (implOutBody op).isEmpty).length = 50 := by
  decide +kernel

/-- `set_stream_body` / `Body::from(string)`: the blob's frames, the string's bytes, are the body -/
theorem C03_payload_stream_and_text_are_the_raw_body :
    (∀ frames : List Bytes, setStreamBody frames = frames) ∧ (∀ s : Bytes, setStringBody s = s) :=
  ⟨fun _ => rfl, fun _ => rfl⟩

/-! ## non-vacuity -/

/-- `GetObjectTagging` writes itself under `Tagging` with the service namespace; `GetObjectLegalHold` writes the member
    `legal_hold : ObjectLockLegalHold` under `LegalHold` (member `xmlName`), no namespace; `ListObjectsV2` — which has
    no deserialiser in s3s — writes itself under `ListBucketResult` -/
example : (implOutBody .GetObjectTagging).map (·.body) = [.xmlSelf .GetObjectTaggingOutput true] ∧
    serRoot .GetObjectTaggingOutput = some (.named t_Tagging (some smithyServiceNs)) := by decide +kernel
example : (implOutBody .GetObjectLegalHold).map (·.body) = [.xml .ObjectLockLegalHold true] ∧
    smithyRootOf (smithyOutBody .GetObjectLegalHold) = some t_LegalHold ∧
    serRoot .ObjectLockLegalHold = some (.named t_LegalHold none) := by decide +kernel
example : (implOutBody .ListObjectsV2).map (·.body) = [.xmlSelf .ListObjectsV2Output true] ∧
    smithyRootOf (smithyOutBody .ListObjectsV2) = some t_ListBucketResult ∧
    (deDef .ListObjectsV2Output).isSome = false := by decide +kernel

/-- the theorem fires at `GetObjectTagging` (the hypotheses are a table row) … -/
example (X : Ext) : ∃ root sr ss, smithyRootOf (smithyOutBody .GetObjectTagging) = some root ∧
    serRoot .GetObjectTaggingOutput = some sr ∧ rootTag sr = root ∧ serSchema .GetObjectTaggingOutput = some ss ∧ WfSch ss ∧
    ∀ v, FitsDoc X sr ss v → deserializeXml X sr.forget ss (setXmlBody true sr ss v) = .ok v :=
  C03_payload_roundtrip_every_operation X .GetObjectTagging ⟨[], .xmlSelf .GetObjectTaggingOutput true⟩ _ _
    (by decide +kernel) rfl

/-- … its schema is the one of `Tagging` (`C13.taggingSch`), so `C13.taggingVal` is a value it speaks about, and the
    body is `<?xml version="1.0" encoding="UTF-8"?><Tagging xmlns="http://s3.amazonaws.com/doc/2006-03-01/"><TagSet>…` -/
example : optSchBeq (serSchema .GetObjectTaggingOutput) (some taggingSch) = true := by decide +kernel
example : (setXmlBody true (.named t_Tagging (some smithyServiceNs)) taggingSch taggingVal).take 60 =
    [60, 63, 120, 109, 108, 32, 118, 101, 114, 115, 105, 111, 110, 61, 34, 49, 46, 48, 34, 32, 101, 110, 99, 111,
     100, 105, 110, 103, 61, 34, 85, 84, 70, 45, 56, 34, 63, 62, 60, 84, 97, 103, 103, 105, 110, 103, 32, 120, 109,
     108, 110, 115, 61, 34, 104, 116, 116, 112, 58, 47] := by decide +kernel

end S3V.C03

#print axioms S3V.C03.C03_payload_binding_matches_smithy
#print axioms S3V.C03.C03_payload_at_most_one
#print axioms S3V.C03.C03_payload_rows_are_binding_rows
#print axioms S3V.C03.C03_payload_type_and_root
#print axioms S3V.C03.C03_payload_roundtrip_every_operation
#print axioms S3V.C03.C03_payload_every_operation_classified
#print axioms S3V.C03.C03_payload_class_sizes
#print axioms S3V.C03.C03_payload_stream_and_text_are_the_raw_body
