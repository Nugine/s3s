import S3V.Model.PostForm
import S3V.Thm.MultipartFields
import S3V.Thm.BytesText
/-!
# C10 — "an accepted upload reaches the backend as an object write whose bucket, key, metadata and
header-equivalent fields are those of the form"

Two layers.

* **Table (tie A, kernel-decided).** `S3V.Gen.implFormInputs` is the member ← source table of
  `PutObject::deserialize_http_multipart`, re-read from `ops/generated.rs` on every run. `C10_form_table_is_smithy`
  says it is exactly what the Smithy model of PutObject prescribes for a form: every header-bound member is read
  from the form field named like its header (with the header's timestamp format), the key from the field `key`
  (required), the metadata from the `x-amz-meta-` family, the bucket from the request's address, the content from
  the file part and the content length from the file part's length.
* **Meaning (model `S3V.PostForm`, tied by the `svcinput` POST-form cases).** For every form — any fields, any
  order, any case of the names, any repetition — and every file length, when the decoder accepts: each
  header-equivalent member is filled from the text of the last field of its header's name, byte for byte (the
  member itself for the string-typed ones; the scalar parsers `FromStr` of the other member types are modelled and
  characterised in `S3V/Props/C10FormScalar.lean`), the key likewise, the metadata map holds exactly the last value of every non-empty `x-amz-meta-<k>`,
  and the content length is the file part's length. A form without `key` is refused.

The fields are `finishFields raw`, the list `try_parse` builds from the fields as sent (`C10_field_lookup`).
-/
namespace S3V.C10Form
open S3V S3V.Gen S3V.Multipart S3V.MultipartSpec S3V.PostForm

def mBucket : Bytes := [98, 117, 99, 107, 101, 116]
def mKey : Bytes := [107, 101, 121]
def mBody : Bytes := [98, 111, 100, 121]
def mMetadata : Bytes := [109, 101, 116, 97, 100, 97, 116, 97]
def mContentLength : Bytes := [99, 111, 110, 116, 101, 110, 116, 108, 101, 110, 103, 116, 104]
/-- `content-length` -/
def wContentLength : Bytes := [99, 111, 110, 116, 101, 110, 116, 45, 108, 101, 110, 103, 116, 104]
/-- `x-amz-meta-` -/
def wMeta : Bytes := [120, 45, 97, 109, 122, 45, 109, 101, 116, 97, 45]

/-- what the form decoder has to do with a member of the operation, by its Smithy binding (AWS "POST Object":
    the form fields are the request headers of PutObject by name, `key` names the object, `x-amz-meta-*` is the
    user metadata, `file` is the content) -/
def formSpecOf (b : Binding) : Option FormBinding :=
  match b.loc with
  | .label =>
    if b.member = mBucket then some ⟨b.member, .pathBucket, .none⟩
    else if b.member = mKey then some ⟨b.member, .field mKey true, .none⟩
    else none
  | .header =>
    if b.wire = wContentLength then some ⟨b.member, .fileLength, .none⟩
    else some ⟨b.member, .field b.wire b.required, b.fmt⟩
  | .pfx => some ⟨b.member, .fieldPrefix b.wire, .none⟩
  | .payload => some ⟨b.member, .file, .none⟩
  | _ => none

/-- **Table obligation** (decided by kernel evaluation on the tables regenerated from the source): the generated form
    decoder reads every member of PutObject from where the Smithy model's binding of that member says, member by
    member, nothing more and nothing less -/
theorem C10_form_table_is_smithy : (smithyInputs formOp).map formSpecOf = implFormInputs.map some := by
  -- both sides evaluate to the same literal; `decide` would compare the two byte by byte
  with_unfolding_all rfl

theorem decodeWith_mem {bucket : Bytes} {fields : List (Bytes × Bytes)} {len : Nat} :
    ∀ {tbl : List FormBinding} {vals : List (Bytes × Val)}, decodeWith tbl bucket fields len = .ok vals →
      ∀ b ∈ tbl, ∃ v, decodeMember bucket fields len b = .ok v ∧ (b.member, v) ∈ vals := by
  intro tbl
  -- along `decodeWith`'s own recursion: the one leaf that answers `ok` puts the head's value in front of the rest's
  fun_induction decodeWith tbl bucket fields len
  · exact fun _ _ hb => nomatch hb
  · exact nofun
  · exact nofun
  next c rest v hc vs hr ih =>
    rintro _ ⟨⟩ b hb
    rcases List.mem_cons.mp hb with rfl | hb'
    · exact ⟨v, hc, List.mem_cons_self⟩
    · obtain ⟨w, hw, hm⟩ := ih hr b hb'
      exact ⟨w, hw, List.mem_cons_of_mem _ hm⟩

/-- a member of the Smithy table, seen through the table obligation, is a row of the generated decoder -/
theorem row_of_smithy {b : Binding} (hb : b ∈ smithyInputs formOp) {fb : FormBinding} (hs : formSpecOf b = some fb) :
    fb ∈ implFormInputs := by
  have h1 : some fb ∈ (smithyInputs formOp).map formSpecOf := List.mem_map.mpr ⟨b, hb, hs⟩
  rw [C10_form_table_is_smithy] at h1
  obtain ⟨x, hx, hx2⟩ := List.mem_map.mp h1
  cases hx2
  exact hx

def lowered (raw : List (Bytes × Bytes)) : List (Bytes × Bytes) := raw.map fun f => (asciiLower f.1, f.2)

theorem field_row_exact {raw : List (Bytes × Bytes)} {bucket : Bytes} {len : Nat} {vals : List (Bytes × Val)}
    (h : decodeForm bucket (finishFields raw) len = .ok vals) (m w : Bytes) (req : Bool) (fmt : TsFmt)
    (hrow : ⟨m, .field w req, fmt⟩ ∈ implFormInputs) :
    (m, match lastField w (lowered raw) with | some v => Val.text v | none => Val.absent) ∈ vals ∧
    (req = true → lastField w (lowered raw) ≠ none) := by
  obtain ⟨v, hv, hm⟩ := decodeWith_mem h _ hrow
  simp only [decodeMember, findFieldValue_finishFields] at hv
  unfold lowered
  cases hf : lastField w (raw.map fun f => (asciiLower f.1, f.2)) with
  | some t =>
    rw [hf] at hv
    cases hv
    exact ⟨hm, fun _ => nofun⟩
  | none =>
    rw [hf] at hv
    by_cases hr : req = true
    · rw [if_pos hr] at hv
      cases hv
    · rw [if_neg hr] at hv
      cases hv
      exact ⟨hm, fun h => absurd h hr⟩

/-- **Header-equivalent fields are those of the form.** For every form `raw` (fields in the order sent, names in any
    case, any repetitions), bucket and file length: when the decoder accepts, every member that PutObject binds to a
    header `H` (other than Content-Length) is filled from the text of the last field named `H` — exactly that text,
    no trimming, no decoding — and is absent when the form has no such field -/
theorem C10_form_header_members_exact (raw : List (Bytes × Bytes)) (bucket : Bytes) (len : Nat)
    (vals : List (Bytes × Val)) (h : decodeForm bucket (finishFields raw) len = .ok vals)
    (b : Binding) (hb : b ∈ smithyInputs formOp) (hl : b.loc = .header) (hw : b.wire ≠ wContentLength) :
    (b.member, match lastField b.wire (lowered raw) with | some v => Val.text v | none => Val.absent) ∈ vals :=
  (field_row_exact h b.member b.wire b.required b.fmt (row_of_smithy hb (by simp [formSpecOf, hl, hw]))).1

/-- **The key is that of the form**: the text of the last `key` field, exactly -/
theorem C10_form_key_exact (raw : List (Bytes × Bytes)) (bucket : Bytes) (len : Nat)
    (vals : List (Bytes × Val)) (h : decodeForm bucket (finishFields raw) len = .ok vals) :
    ∃ v, lastField mKey (lowered raw) = some v ∧ (mKey, Val.text v) ∈ vals := by
  obtain ⟨hm, hr⟩ := field_row_exact h mKey mKey true .none (by decide +kernel)
  cases hf : lastField mKey (lowered raw) with
  | none => exact absurd hf (hr rfl)
  | some v =>
    rw [hf] at hm
    exact ⟨v, rfl, hm⟩

/-- a form without a `key` field is refused -/
theorem C10_form_key_required (raw : List (Bytes × Bytes)) (bucket : Bytes) (len : Nat)
    (hk : lastField mKey (lowered raw) = none) : ∀ vals, decodeForm bucket (finishFields raw) len ≠ .ok vals := by
  intro vals h
  obtain ⟨v, hv, _⟩ := C10_form_key_exact raw bucket len vals h
  rw [hk] at hv; cases hv

/-- **The bucket is the one posted to**, the content is the file part and the content length its length -/
theorem C10_form_bucket_and_content (raw : List (Bytes × Bytes)) (bucket : Bytes) (len : Nat)
    (vals : List (Bytes × Val)) (h : decodeForm bucket (finishFields raw) len = .ok vals) :
    (mBucket, Val.text bucket) ∈ vals ∧ (mBody, Val.file) ∈ vals ∧
    (mContentLength, if len = 0 then Val.absent else Val.len len) ∈ vals ∧ len ≤ i64Max := by
  -- these rows are constants of the generated table, found in it by evaluation; a row known only through
  -- the Smithy model (`C10_form_header_members_exact`) comes from `row_of_smithy`
  have h1 : (⟨mBucket, .pathBucket, .none⟩ : FormBinding) ∈ implFormInputs := by decide +kernel
  have h2 : (⟨mBody, .file, .none⟩ : FormBinding) ∈ implFormInputs := by decide +kernel
  have h3 : (⟨mContentLength, .fileLength, .none⟩ : FormBinding) ∈ implFormInputs := by decide +kernel
  obtain ⟨v1, hv1, hm1⟩ := decodeWith_mem h _ h1
  obtain ⟨v2, hv2, hm2⟩ := decodeWith_mem h _ h2
  obtain ⟨v3, hv3, hm3⟩ := decodeWith_mem h _ h3
  cases hv1
  cases hv2
  simp only [decodeMember] at hv3
  by_cases hov : len > i64Max
  · rw [if_pos hov] at hv3; cases hv3
  · rw [if_neg hov] at hv3; cases hv3
    exact ⟨hm1, hm2, hm3, Nat.le_of_not_gt hov⟩

def lookup (k : Bytes) : List (Bytes × Bytes) → Option Bytes
  | [] => none
  | e :: rest => if e.1 = k then some e.2 else lookup k rest

theorem stripPrefix_eq_some_iff : ∀ (p n k : Bytes), PostForm.stripPrefix p n = some k ↔ n = p ++ k :=
  fun _ _ _ => StripsPrefix.iff ⟨fun _ => rfl, fun _ _ => rfl, fun _ _ _ _ => rfl⟩

theorem lookup_upsert (k k' v : Bytes) : ∀ m : List (Bytes × Bytes),
    lookup k (upsert m k' v) = if k' = k then some v else lookup k m := by
  intro m
  induction m with
  | nil => rfl
  | cons e rest ih =>
    unfold upsert
    by_cases he : e.1 = k'
    · rw [if_pos he]
      by_cases hk : k' = k
      · simp [lookup, hk]
      · have : ¬ e.1 = k := by rw [he]; exact hk
        simp [lookup, hk, this]
    · rw [if_neg he]
      by_cases hek : e.1 = k
      · have hk : ¬ k' = k := by intro h; exact he (by rw [hek, h])
        simp [lookup, hek, hk]
      · simp only [lookup, if_neg hek]
        exact ih

def metaStep (pfx : Bytes) (acc : List (Bytes × Bytes)) (f : Bytes × Bytes) : List (Bytes × Bytes) :=
  match PostForm.stripPrefix pfx f.1 with
  | some k => if k = [] then acc else upsert acc k f.2
  | none => acc

theorem lookup_metaStep (pfx k : Bytes) (hk : k ≠ []) (acc : List (Bytes × Bytes)) (f : Bytes × Bytes) :
    lookup k (metaStep pfx acc f) = if f.1 = pfx ++ k then some f.2 else lookup k acc := by
  unfold metaStep
  simp only [← stripPrefix_eq_some_iff]
  cases PostForm.stripPrefix pfx f.1 with
  | none => rfl
  | some k' =>
    simp only [Option.some.injEq]
    by_cases hk' : k' = []
    · rw [if_pos hk', if_neg (hk' ▸ hk.symm)]
    · rw [if_neg hk', lookup_upsert]

theorem lookup_foldl_metaStep (pfx k : Bytes) (hk : k ≠ []) :
    ∀ (fields acc : List (Bytes × Bytes)),
      lookup k (fields.foldl (metaStep pfx) acc) =
        match lastField (pfx ++ k) fields with
        | some v => some v
        | none => lookup k acc := by
  intro fields acc
  rw [lastField_foldl (pfx ++ k) (lookup k) (metaStep pfx) (fun _ => True) (fun _ _ _ => trivial)
    (fun a f _ => lookup_metaStep pfx k hk a f) fields acc trivial]
  cases lastField (pfx ++ k) fields <;> rfl

theorem metaOf_eq_foldl (pfx : Bytes) (fields : List (Bytes × Bytes)) :
    metaOf pfx fields = fields.foldl (metaStep pfx) [] := rfl

theorem keys_nonempty_foldl (pfx : Bytes) : ∀ (fields acc : List (Bytes × Bytes)),
    (∀ e ∈ acc, e.1 ≠ []) → ∀ e ∈ fields.foldl (metaStep pfx) acc, e.1 ≠ [] := by
  intro fields
  induction fields with
  | nil => exact fun _ h => h
  | cons f l ih =>
    intro acc h
    rw [List.foldl_cons]
    apply ih
    unfold metaStep
    split
    · split
      · exact h
      · intro e he
        rcases mem_upsert he with rfl | he
        · assumption
        · exact h e he
    · exact h

/-- **The metadata is that of the form**: the member is absent or a map `m` in which every non-empty key `k` carries
    exactly the text of the last field named `x-amz-meta-k` (absent when there is none), and no key is empty -/
theorem C10_form_metadata_exact (raw : List (Bytes × Bytes)) (bucket : Bytes) (len : Nat)
    (vals : List (Bytes × Val)) (h : decodeForm bucket (finishFields raw) len = .ok vals) :
    ∃ m, (mMetadata, if m = [] then Val.absent else Val.entries m) ∈ vals ∧
      (∀ k, k ≠ [] → lookup k m = lastField (wMeta ++ k) (lowered raw)) ∧ (∀ e ∈ m, e.1 ≠ []) := by
  have hrow : (⟨mMetadata, .fieldPrefix wMeta, .none⟩ : FormBinding) ∈ implFormInputs := by decide +kernel
  obtain ⟨v, hv, hm⟩ := decodeWith_mem h _ hrow
  simp only [decodeMember] at hv
  cases hv
  refine ⟨metaOf wMeta (finishFields raw), hm, ?_, ?_⟩
  · intro k hk
    rw [metaOf_eq_foldl, lookup_foldl_metaStep wMeta k hk]
    unfold finishFields lowered
    rw [lastField_sortFields]
    cases lastField (wMeta ++ k) (raw.map fun f => (asciiLower f.1, f.2)) <;> rfl
  · rw [metaOf_eq_foldl]
    exact keys_nonempty_foldl wMeta _ [] (by intro e he; cases he)

/-! ## non-vacuity: a concrete form goes through, with what the theorems say -/

/-- fields as sent: `Key=a `, `x-amz-meta-Color=red`, `KEY= b\t` (the last `key` counts, blanks stay),
    `Cache-Control=x`, `x-amz-meta-=nameless` -/
def exampleRaw : List (Bytes × Bytes) :=
  [([75, 101, 121], [97, 32]),
   ([120, 45, 97, 109, 122, 45, 109, 101, 116, 97, 45, 67, 111, 108, 111, 114], [114, 101, 100]),
   ([75, 69, 89], [32, 98, 9]),
   ([67, 97, 99, 104, 101, 45, 67, 111, 110, 116, 114, 111, 108], [120]),
   ([120, 45, 97, 109, 122, 45, 109, 101, 116, 97, 45], [110])]

theorem C10_form_example :
    (match decodeForm [98] (finishFields exampleRaw) 3 with
     | .ok vals =>
       decide ((mKey, Val.text [32, 98, 9]) ∈ vals) &&
       decide ((mMetadata, Val.entries [([99, 111, 108, 111, 114], [114, 101, 100])]) ∈ vals) &&
       decide ((mContentLength, Val.len 3) ∈ vals) &&
       decide ((([99, 97, 99, 104, 101, 99, 111, 110, 116, 114, 111, 108] : Bytes), Val.text [120]) ∈ vals) &&
       decide ((mBucket, Val.text [98]) ∈ vals)
     | .error _ => false) = true := by
  decide +kernel

/-- and the same form without its `key` fields is refused -/
theorem C10_form_example_no_key :
    (match decodeForm [98] (finishFields (exampleRaw.filter fun f => asciiLower f.1 ≠ mKey)) 3 with
     | .error .missingField => true
     | _ => false) = true := by
  decide +kernel

end S3V.C10Form
