import S3V.Thm.KeepAlive
import S3V.Thm.HeaderMap
/-!
# C03 (hand-written half) — keep-alive response body and response-building helpers

"… This also holds for responses produced while the backend is still working (keep-alive completion of
multipart uploads): for every completion timing the body is optional whitespace followed by the same
document, members the protocol binds to headers travel as the declared HTTP trailers instead, and a late
backend error arrives as an S3 error document." — and, for ordinary operations: "… or the status the
backend explicitly overrides, and every extra header the backend attached."

Quantifier: every list of poll inputs (any length; the inner future pending for any number of polls and
ready at an arbitrary one; the 100 ms interval firing at an arbitrary subset of the polls — the timer is an
INPUT, so whatever tokio's `Interval` does is covered; the completed response's body returning any
sequence of pending / data / trailers / error before its end), every initial frame, every response.
-/
namespace S3V.C03
open S3V S3V.KeepAlive S3V.KeepAliveSpec

/-- All schedules, exact form. For every initial frame and every list of poll inputs the values returned by
    `poll_frame`, poll by poll, are: the initial frame (if any, on the first poll, whatever that poll
    observes); one space per poll at which the future was pending and the tick fired (`Pending` at the
    others); then, by the future's result — `Err`: one error, then `Ready(None)` for ever — `Ok r`: the
    body's polls handed through unchanged up to its end, `trailers r.headers` at its end, then
    `Ready(None)` for ever. (`transcript` is built from `takeWhile`/`dropWhile`/`map` only.) -/
theorem C03_keepalive_all_schedules (initial : Option Bytes) (ins : List PollInput) :
    (run (KA.new initial) ins).2 = transcript initial ins := by
  cases initial with
  | none => exact run_waiting_all ins
  | some b =>
    cases ins with
    | nil => rfl
    | cons i rest => exact congrArg (.data b :: ·) (run_waiting_all rest)

/-- All schedules, the successful branch spelled out. `first` is the poll that delivers the initial frame
    (present iff there is one; its observations are irrelevant), `pre` the polls at which the future is
    pending, `dr ++ [fin]` the polls from the one at which the future is `Ready(Ok r)` to the one at which
    the response's body ends, `post` any later polls. Then: the frames are exactly
    initial, a space per fired tick, the body's frames, `trailers r.headers`, end; the bytes received are
    `initial ++ spaces k ++ body` with `k` = number of polls at which the future was pending and the tick
    fired; the last trailers are the response's headers; `is_end_stream` holds afterwards. -/
theorem C03_keepalive_ok_schedule (initial : Option Bytes) (first pre dr : List PollInput) (fin : PollInput)
    (post : List PollInput) (r : Resp)
    (hfirst : first.length = initial.toList.length)
    (hpre : ∀ i ∈ pre, i.inner = .pending)
    (hrdy : ∃ rdy tl, dr ++ [fin] = rdy :: tl ∧ rdy.inner = .readyOk r)
    (hdr : ∀ i ∈ dr, i.body ≠ .eos) (hfin : fin.body = .eos) :
    let res := run (KA.new initial) (first ++ (pre ++ (dr ++ [fin] ++ post)))
    res.2 = initial.toList.map .data ++ pre.map waitOut ++ (dr.map fun i => passOut i.body)
              ++ [.trailers r.headers] ++ post.map (fun _ => .eos)
    ∧ dataOf res.2 = initial.getD [] ++ spaces (pre.countP (·.tick)) ++ bodyData (dr.map (·.body))
    ∧ trailersOf res.2 = bodyTrailers (dr.map (·.body)) ++ [r.headers]
    ∧ res.1.isEndStream = true := by
  have hend := run_draining_to_end r dr fin post hdr hfin
  obtain ⟨rdy, tl, he, hrdy⟩ := hrdy
  rw [he, List.cons_append, ← run_ready hrdy, ← List.cons_append, ← he] at hend
  simp only
  rw [← List.append_assoc, run_append, run_new initial first pre hfirst hpre, hend]
  refine ⟨by simp only [List.append_assoc], ?_, ?_, rfl⟩
  · rw [dataOf_waiting]
    simp [dataOf_append, dataOf_pass, dataOf_eos, dataOf]
  · rw [trailersOf_waiting]
    simp [trailersOf_append, trailersOf_pass, trailersOf_eos, trailersOf]

/-- … in the spec's terms: the bytes a client receives are the initial frame (the XML declaration),
    then XML white space only, then exactly the document the completed response's body carries; and when
    the document does not itself begin with white space (an XML document begins with `<`), stripping
    the white space that follows the declaration gives back exactly the document. -/
theorem C03_keepalive_body_is_ws_then_doc (initial : Option Bytes) (first pre dr : List PollInput)
    (fin : PollInput) (post : List PollInput) (r : Resp)
    (hfirst : first.length = initial.toList.length)
    (hpre : ∀ i ∈ pre, i.inner = .pending)
    (hrdy : ∃ rdy tl, dr ++ [fin] = rdy :: tl ∧ rdy.inner = .readyOk r)
    (hdr : ∀ i ∈ dr, i.body ≠ .eos) (hfin : fin.body = .eos) :
    let emitted := dataOf (run (KA.new initial) (first ++ (pre ++ (dr ++ [fin] ++ post)))).2
    let doc := bodyData (dr.map (·.body))
    WsThenDoc (initial.getD []) emitted doc
    ∧ ((∀ c, doc.head? = some c → isXmlWs c = false) →
        stripWs (emitted.drop (initial.getD []).length) = doc) := by
  have h := (C03_keepalive_ok_schedule initial first pre dr fin post r hfirst hpre hrdy hdr hfin).2.1
  simp only at h ⊢
  rw [h]
  refine ⟨⟨spaces (pre.countP (·.tick)), spaces_all_ws _, rfl⟩, ?_⟩
  intro hdoc
  rw [List.append_assoc, List.drop_left]
  exact stripWs_ws_append (spaces_all_ws _) hdoc

/-- when the backend has already finished at the first poll of the future, no white space is sent at all:
    the body is the initial frame followed directly by the document -/
theorem C03_keepalive_ready_at_first_poll (initial : Option Bytes) (first dr : List PollInput) (fin : PollInput)
    (post : List PollInput) (r : Resp)
    (hfirst : first.length = initial.toList.length)
    (hrdy : ∃ rdy tl, dr ++ [fin] = rdy :: tl ∧ rdy.inner = .readyOk r)
    (hdr : ∀ i ∈ dr, i.body ≠ .eos) (hfin : fin.body = .eos) :
    dataOf (run (KA.new initial) (first ++ (dr ++ [fin] ++ post))).2
      = initial.getD [] ++ bodyData (dr.map (·.body)) := by
  have h := (C03_keepalive_ok_schedule initial first [] dr fin post r hfirst (by simp) hrdy hdr hfin).2.1
  simpa [spaces] using h

/-- the future itself failing (`Err`, e.g. the output could not be serialized) at any poll: initial frame,
    a space per fired tick, one transport error, then end; nothing but white space follows the initial
    frame; `is_end_stream` holds afterwards -/
theorem C03_keepalive_future_error (initial : Option Bytes) (first pre : List PollInput) (bad : PollInput)
    (post : List PollInput)
    (hfirst : first.length = initial.toList.length)
    (hpre : ∀ i ∈ pre, i.inner = .pending) (hbad : bad.inner = .readyErr) :
    let res := run (KA.new initial) (first ++ (pre ++ bad :: post))
    res.2 = initial.toList.map .data ++ pre.map waitOut ++ [.error] ++ post.map (fun _ => .eos)
    ∧ dataOf res.2 = initial.getD [] ++ spaces (pre.countP (·.tick))
    ∧ trailersOf res.2 = []
    ∧ res.1.isEndStream = true := by
  simp only
  rw [← List.append_assoc, run_append, run_new initial first pre hfirst hpre, run_waiting_err hbad]
  refine ⟨by simp only [List.append_assoc, List.singleton_append], ?_, ?_, rfl⟩
  · rw [dataOf_waiting]
    simp [dataOf_eos, dataOf]
  · rw [trailersOf_waiting]
    simp [trailersOf_eos, trailersOf]

/-- Late backend error. `CompleteMultipartUpload::call` turns a backend `Err(e)` into the future's
    `Ok(serialize_error(e, no_decl = true))`, whose body is the one-frame error document `errDoc`. For every
    number of pending polls and every tick pattern the client receives
    `xmlDecl ++ spaces k ++ errDoc` — an S3 error document after white space — and the error's headers as
    trailers; the error's HTTP status (`st`) cannot be delivered (the 200 status line is already sent):
    the frames are the same for every `st`. -/
theorem C03_keepalive_late_error (st st' : Option Nat) (errHdrs : Option Hdrs) (errDoc : Bytes)
    (i0 : PollInput) (pre : List PollInput) (rdy fin : PollInput) (post : List PollInput)
    (tickR tickF : Bool) (innerF : InnerPoll)
    (hpre : ∀ i ∈ pre, i.inner = .pending)
    (hrdy : rdy = { inner := .readyOk (serializeError st errHdrs), tick := tickR, body := .data errDoc })
    (hfin : fin = { inner := innerF, tick := tickF, body := .eos }) :
    let outs := (run (KA.new (some xmlDecl)) ([i0] ++ (pre ++ ([rdy] ++ [fin] ++ post)))).2
    dataOf outs = xmlDecl ++ spaces (pre.countP (·.tick)) ++ errDoc
    ∧ trailersOf outs = [(serializeError st errHdrs).headers]
    ∧ outs = (run (KA.new (some xmlDecl))
        ([i0] ++ (pre ++ ([{ rdy with inner := .readyOk (serializeError st' errHdrs) }] ++ [fin] ++ post)))).2 := by
  subst hrdy hfin
  -- the schedule theorem at either status
  have key := fun s : Option Nat => C03_keepalive_ok_schedule (some xmlDecl) [i0] pre
    [{ inner := .readyOk (serializeError s errHdrs), tick := tickR, body := .data errDoc }]
    { inner := innerF, tick := tickF, body := .eos } post (serializeError s errHdrs) rfl hpre
    ⟨_, _, rfl, rfl⟩ (by simp) rfl
  simp only at key ⊢
  refine ⟨?_, ?_, ?_⟩
  · rw [(key st).2.1]; simp [bodyData]
  · rw [(key st).2.2.1]; simp [bodyTrailers]
  · rw [(key st).1, (key st').1]; simp [serializeError]

/-- once the future has completed (a response is stored, or `done`) or while the initial frame is still
    to be sent, `poll_frame` does not poll the future: its result is independent of `inner`/`tick`, and
    both conditions persist — so a completed future is never polled again -/
theorem C03_keepalive_future_not_polled_after_ready (s : KA) (i j : PollInput) (hb : i.body = j.body)
    (h : s.done = true ∨ s.initial.isSome = true ∨ s.response.isSome = true) :
    step s i = step s j ∧ (reads s i).1 = false
    ∧ (s.done = true → (step s i).1.done = true)
    ∧ (s.response.isSome = true → (step s i).1.response.isSome = true) := by
  obtain ⟨ini, resp, done⟩ := s
  cases done with
  | true => simp [step, reads]
  | false =>
    cases ini with
    | some b => simp [step, reads]
    | none =>
      cases resp with
      | none => simp at h
      | some r =>
        -- the stored response's body is polled, with the same result for `i` and `j`
        simp only [step, reads, hb, Bool.false_eq_true, if_false, true_and, Option.isSome_some, forall_const]
        cases j.body <;> simp [drain]

/-- the executable judge of the correspondence check is the declarative clause of the spec -/
theorem C03_keepalive_reference_is_spec (pre emitted doc : Bytes) :
    judgeBody pre emitted doc = true ↔ WsThenDoc pre emitted doc :=
  judgeBody_iff pre emitted doc

/-! ## the wrapper in `CompleteMultipartUpload::call` -/

/-- Header-bound members travel as declared trailers. Every header-bound member the backend set
    (`some v` at the member's position) is, unless an extra header of the same name overrides it, present in
    the completed response's headers — which by `C03_keepalive_ok_schedule` are the trailers — with exactly
    its value; and its name is one of the field names the immediate response declares in `Trailer`. -/
theorem C03_keepalive_trailers_carry_header_members (vals : List (Option HVal)) (st : Option Nat) (s3hdrs : Hdrs)
    (hn : (s3hdrs.map (·.1)).Nodup) (n : HName) (v : HVal)
    (hmem : (n, some v) ∈ cmuHeaderMembers.zip vals) (hno : n ∉ s3hdrs.map (·.1)) :
    hGetAll (cmuInnerOk vals st s3hdrs).headers n = [v]
    ∧ hGetAll cmuOuter.headers hTrailer = [joinComma cmuTrailerNames]
    ∧ n ∈ declaredTrailers (joinComma cmuTrailerNames) := by
  have hnodup : cmuHeaderMembers.Nodup := by decide +kernel
  have hzip : ((cmuHeaderMembers.zip vals).map (·.1)).Nodup := nodup_map_fst_zip vals hnodup
  have hmemNames : n ∈ cmuHeaderMembers := (List.of_mem_zip hmem).1
  refine ⟨?_, by decide +kernel, ?_⟩
  · simp only [cmuInnerOk]
    rw [hGetAll_hExtend_of_not_mem hno, cmuSerializeHeaders, HttpSerThm.hGetAll_foldl_addOptHeader_of_mem hzip hmem]
  · have hall : ∀ m ∈ cmuHeaderMembers, m ∈ declaredTrailers (joinComma cmuTrailerNames) := by decide +kernel
    exact hall n hmemNames

/-- extra headers the backend attached to `S3Response.headers` of CompleteMultipartUpload arrive in the
    trailers too (they override a header-bound member of the same name). LIMITATION inherent to the
    keep-alive design, not covered by this theorem: their names cannot be listed in the `Trailer` header
    (it is sent before the backend has answered; `cmuTrailerNames` is fixed), and an HTTP/1.1 server that
    transmits only declared trailer fields (hyper 1.x does) will not put them on the wire. -/
theorem C03_keepalive_extra_headers_in_trailers (vals : List (Option HVal)) (st : Option Nat) (s3hdrs : Hdrs)
    (hn : (s3hdrs.map (·.1)).Nodup) (n : HName) (vs : List HVal) (hmem : (n, vs) ∈ s3hdrs) :
    hGetAll (cmuInnerOk vals st s3hdrs).headers n = vs :=
  hGetAll_hExtend_of_mem hn hmem _

/-- By design, not a finding: for CompleteMultipartUpload a status override cannot apply — the immediate
    response is 200 before the backend has answered, `S3Response.status` does not influence the completed
    response, and the completed response's own status never influences a frame of the body -/
theorem C03_keepalive_status_override_not_applicable (vals : List (Option HVal)) (st st' : Option Nat)
    (s3hdrs : Hdrs) (s : KA) (r : Resp) (code : Nat) (b : BodyPoll) :
    cmuOuter.status = 200
    ∧ cmuInnerOk vals st s3hdrs = cmuInnerOk vals st' s3hdrs
    ∧ (drain s r b).2 = (drain s { r with status := code } b).2 := by
  refine ⟨rfl, rfl, ?_⟩
  cases b <;> rfl

/-! ## `http/ser.rs`, the tail of `Operation::call`, `get_object.rs` -/

/-- `add_opt_header`: `Some v` makes the name carry exactly `[v]` (replacing earlier values), `None`
    changes nothing, other names are never affected -/
theorem C03_ser_add_opt_header (h : Hdrs) (n m : HName) (v : HVal) :
    hGetAll (addOptHeader h n (some v)) n = [v]
    ∧ addOptHeader h n none = h
    ∧ (m ≠ n → hGetAll (addOptHeader h n (some v)) m = hGetAll h m) := by
  refine ⟨by simp [addOptHeader, hInsert, hGetAll_hSetAll], rfl, ?_⟩
  intro hne
  simp [addOptHeader, hInsert, hGetAll_hSetAll, hne]

/-- Every extra header is present. For an ordinary operation every header the backend attached to
    `S3Response.headers` appears in the HTTP response with exactly the backend's values (replacing a
    same-named header produced from the output), and every other header keeps its serialized values. -/
theorem C03_ser_extra_headers_present (ser : Resp) (st : Option Nat) (s3hdrs : Hdrs)
    (hn : (s3hdrs.map (·.1)).Nodup) :
    (∀ n vs, (n, vs) ∈ s3hdrs → hGetAll (opCall ser st s3hdrs).headers n = vs)
    ∧ (∀ m, m ∉ s3hdrs.map (·.1) → hGetAll (opCall ser st s3hdrs).headers m = hGetAll ser.headers m) :=
  ⟨fun _ _ hmem => hGetAll_hExtend_of_mem hn hmem _, fun _ hm => hGetAll_hExtend_of_not_mem hm _⟩

/-- The GetObject merge rule, exactly as coded: backend headers win over `response-*` overrides, which
    win over the headers serialized from the output; then, iff the first `transfer-encoding` value of the
    merged map is byte-for-byte `chunked`, `content-length` is removed (whoever supplied it). -/
theorem C03_ser_getobject_merge_rule (ser : Resp) (overridden : Hdrs) (st : Option Nat) (s3hdrs : Hdrs)
    (hs : (ser.headers.map (·.1)).Nodup) (ho : (overridden.map (·.1)).Nodup)
    (hn : (s3hdrs.map (·.1)).Nodup) (m : HName) :
    hGetAll (getObjectCall ser overridden st s3hdrs).headers m =
      if m = hContentLength ∧ (getObjectMerged ser overridden s3hdrs hTransferEncoding).head? = some vChunked
      then [] else getObjectMerged ser overridden s3hdrs m := by
  rw [getObjectCall, HttpSerThm.hGetAll_mergeCustomHeaders_eq (nodup_hExtend (nodup_hExtend hs _) _), hGet,
    hGetAll_hExtend_hExtend ser ho hn, hGetAll_hExtend_hExtend ser ho hn]

/-- hence for GetObject too every extra header of the backend is present, the single exception being a
    backend `content-length` when the merged `transfer-encoding` is `chunked` -/
theorem C03_ser_getobject_extra_headers_present (ser : Resp) (overridden : Hdrs) (st : Option Nat) (s3hdrs : Hdrs)
    (hs : (ser.headers.map (·.1)).Nodup) (ho : (overridden.map (·.1)).Nodup)
    (hn : (s3hdrs.map (·.1)).Nodup) (n : HName) (vs : List HVal) (hmem : (n, vs) ∈ s3hdrs)
    (hex : ¬ (n = hContentLength ∧ (getObjectMerged ser overridden s3hdrs hTransferEncoding).head? = some vChunked)) :
    hGetAll (getObjectCall ser overridden st s3hdrs).headers n = vs := by
  rw [C03_ser_getobject_merge_rule ser overridden st s3hdrs hs ho hn, if_neg hex]
  simp [getObjectMerged, srcLookup_of_mem hn hmem]

/-- The backend's explicit status wins (code after commit 936e8a0): the response status of an ordinary
    operation, GetObject included, is `S3Response.status` when set and the status chosen by
    `serialize_http` otherwise -/
theorem C03_ser_status_override (ser : Resp) (overridden : Hdrs) (st : Option Nat) (s3hdrs : Hdrs) :
    (opCall ser st s3hdrs).status = st.getD ser.status
    ∧ (getObjectCall ser overridden st s3hdrs).status = st.getD ser.status := ⟨rfl, rfl⟩

/-! ## non-vacuity: concrete schedules and header maps -/

private def pend (tick : Bool) : PollInput := { inner := .pending, tick := tick, body := .pending }
private def respEx : Resp := { status := 200, headers := [(hVersionId, [[118, 49]])] }

/-- decl, tick, no tick, tick, ready with a data frame, a second data frame, end, two more polls -/
example :
    (run (KA.new (some xmlDecl))
      [pend false, pend true, pend false, pend true,
       { inner := .readyOk respEx, tick := false, body := .data [60, 82] },
       { inner := .pending, tick := true, body := .data [47, 62] },
       { inner := .pending, tick := true, body := .eos }, pend true, pend true]).2
    = [.data xmlDecl, .data space, .pending, .data space, .data [60, 82], .data [47, 62],
       .trailers [(hVersionId, [[118, 49]])], .eos, .eos] := by decide +kernel

/-- the hypotheses of `C03_keepalive_ok_schedule` are met by that schedule -/
example : ∃ rdy tl,
    [({ inner := .readyOk respEx, tick := false, body := .data [60, 82] } : PollInput)] ++
      [{ inner := .pending, tick := true, body := .eos }] = rdy :: tl ∧ rdy.inner = .readyOk respEx :=
  ⟨_, _, rfl, rfl⟩

/-- ready at the very first poll of the future, empty body: decl then trailers at once -/
example :
    (run (KA.new (some xmlDecl)) [pend true, { inner := .readyOk respEx, tick := true, body := .eos }]).2
    = [.data xmlDecl, .trailers respEx.headers] := by decide +kernel

/-- a body error does not end the stream (`done` stays false): the next poll polls the body again -/
example :
    (run (KA.new none) [{ inner := .readyOk respEx, tick := false, body := .err },
                        { inner := .pending, tick := false, body := .eos }]).2
    = [.error, .trailers respEx.headers] := by decide +kernel

example : hGetAll (opCall { status := 200, headers := [(hContentType, [vApplicationXml])] } (some 202)
    [(hContentType, [[116]]), (hVersionId, [[49], [50]])]).headers hVersionId = [[49], [50]] := by decide +kernel

example : (getObjectCall { status := 200, headers := [(hContentLength, [[53]])] } [] none
    [(hTransferEncoding, [vChunked])]).headers = [(hTransferEncoding, [vChunked])] := by decide +kernel

example : (hVersionId, some [118, 49]) ∈ cmuHeaderMembers.zip [none, none, none, none, none, some [118, 49]] := by
  decide +kernel

end S3V.C03
