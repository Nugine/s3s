import S3V.Thm.Body
import S3V.Thm.MultipartFile
import S3V.Thm.MultipartSpec
import S3V.Thm.MultipartScan
import S3V.Thm.MultipartCompose
import S3V.Props.C08
/-!
# C09 — results do not depend on how the request body is framed or when frames arrive

Clauses (a) plain streamed bodies, (b) buffered bodies, (d) multipart/form-data.
Clause (c) chunk-signed uploads: theorem `C09c_framing_independent` in `S3V/Props/C08.lean` (component
`chunked`), restated below as `C09c_chunk_signed_framing_independent`.

A transport body is a list of frames, `some bytes` or `none` (a transport error; nothing after it is
read). Quantifier: every list of frames — every split point, empty frames, any number of frames — no
bound on sizes. "When frames arrive" (Pending/ready schedules) is not visible to the models: only the
hand-written `poll_*` functions are modelled, the async glue is trusted (DESIGN §4.6) and validated by the
harness, which injects `Poll::Pending` at PRNG-chosen polls.
-/
namespace S3V.C09
open S3V S3V.Multipart S3V.MultipartSpec

/-! ## (a) plain streamed bodies -/

/-- clause (a): a streamed body hands on exactly the data frames in front of the first transport error —
    their concatenation is `dataBeforeError frames` — and then reports the error iff there is one -/
theorem C09a_plain_identity (frames : List (Option Bytes)) :
    ((Body.streamBody frames).1.flatten, (Body.streamBody frames).2) = specPlain frames :=
  Body.streamBody_spec frames

/-- clause (a), two framings: same bytes, same error flag, same delivery -/
theorem C09a_plain_framing_independent (fr₁ fr₂ : List (Option Bytes))
    (hd : dataBeforeError fr₁ = dataBeforeError fr₂) (he : hasError fr₁ = hasError fr₂) :
    (Body.streamBody fr₁).1.flatten = (Body.streamBody fr₂).1.flatten ∧
    (Body.streamBody fr₁).2 = (Body.streamBody fr₂).2 :=
  Prod.mk.inj (Body.independent_of_refines (g := fun d e => (d, e)) C09a_plain_identity hd he)

/-! ## (b) buffered bodies -/

/-- clause (b): `extract_full_body` (with `store_all_unlimited`) depends only on the concatenation of the
    frames, the error flag and the declared length — and it is the specified function of them -/
theorem C09b_buffered_depends_on_concat (declared : Option Nat) (frames : List (Option Bytes)) :
    (Body.extractFullBody declared frames).toSpec
      = specBuffered declared (dataBeforeError frames) (hasError frames) :=
  Body.extractFullBody_spec declared frames

/-- clause (b), two framings -/
theorem C09b_buffered_framing_independent (declared : Option Nat) (fr₁ fr₂ : List (Option Bytes))
    (hd : dataBeforeError fr₁ = dataBeforeError fr₂) (he : hasError fr₁ = hasError fr₂) :
    Body.extractFullBody declared fr₁ = Body.extractFullBody declared fr₂ :=
  Body.Full.toSpec_injective (Body.independent_of_refines (C09b_buffered_depends_on_concat declared) hd he)

/-! ## (c) chunk-signed uploads — proved by the `chunked` component in `S3V/Props/C08.lean`; restated -/

/-- clause (c): two framings of the same chunk-signed byte string give the same delivered bytes and the
    same end, for every chunk-signature function (`S3V.C08.C09c_framing_independent`; the variant with
    transport errors is `S3V.C08.C09c_framing_independent_faulty`) -/
theorem C09c_chunk_signed_framing_independent (sig : Bytes → Bytes → Bytes) (seed : Bytes) (declared : Nat)
    (fs₁ fs₂ : List Bytes) (h : fs₁.flatten = fs₂.flatten) :
    (S3V.Chunked.decodeStream sig seed declared (fs₁.map S3V.Chunked.Frame.data)).delivered.flatten =
      (S3V.Chunked.decodeStream sig seed declared (fs₂.map S3V.Chunked.Frame.data)).delivered.flatten ∧
    (S3V.Chunked.decodeStream sig seed declared (fs₁.map S3V.Chunked.Frame.data)).terminal =
      (S3V.Chunked.decodeStream sig seed declared (fs₂.map S3V.Chunked.Frame.data)).terminal :=
  S3V.C08.C09c_framing_independent sig seed declared fs₁ fs₂ h

/-! ## (d) multipart/form-data -/

/-- full prefix stability of `try_parse`. It is false of the current code (`S3V/Findings/C09.lean`,
    `C09d_try_parse_prefix_stable_counterexample`): `CrlfLines::split_to` takes an unterminated trailing
    `--boundary` for the delimiter line, so a buffer ending there can fail early on a non-UTF-8 value. -/
def C09d_try_parse_prefix_stable_full : Prop :=
  ∀ b p q : Bytes, (tryParse b p).definitive = true → p <+: q → tryParse b q = tryParse b p

/-- excluded region of the partial theorem: the buffer ends in `--boundary` -/
def endsInBareDelimiter (b p : Bytes) : Bool := (dashBoundary b).isSuffixOf p

/-- clause (d), reparse-from-start: once `try_parse` has given a definitive answer on the accumulated
    buffer it gives the same answer (same fields, same file name and type, same start of the file part)
    on every longer buffer — unless the buffer ends in an unterminated `--boundary` -/
theorem C09d_try_parse_prefix_stable_partial (b p q : Bytes) (hex : endsInBareDelimiter b p = false)
    (hdef : (tryParse b p).definitive = true) (hpq : p <+: q) : tryParse b q = tryParse b p := by
  obtain ⟨t, rfl⟩ := hpq
  have hns : ¬ dashBoundary b <:+ p := fun h => by
    rw [endsInBareDelimiter, List.isSuffixOf_iff_suffix.mpr h] at hex
    cases hex
  cases hp : tryParse b p with
  | needMore =>
    rw [hp] at hdef
    cases hdef
  | parsed f n c s => exact (tryParse_parsed_ext t hp).2
  | invalid => exact (tryParse_invalid_ext t hp).2 hns

/-- clause (d): a successful parse is stable without any exclusion -/
theorem C09d_try_parse_parsed_stable (b p q : Bytes) (f : List (Bytes × Bytes)) (n c : Bytes) (s : Nat)
    (hp : tryParse b p = .parsed f n c s) (hpq : p <+: q) : tryParse b q = .parsed f n c s := by
  obtain ⟨t, rfl⟩ := hpq
  exact (tryParse_parsed_ext t hp).2

/-- clause (d), the file part: for every left-over `rest` of the parser and every list of frames, the
    `FileStream` DFA hands on exactly the bytes in front of the first `CRLF--boundary` of
    `rest ++ (data before the first transport error)` and ends `ok`; if there is none it ends
    `incomplete` (`underlying` after a transport error), having handed on everything except a trailing
    proper prefix of the delimiter -/
theorem C09d_filestream_refines (b rest : Bytes) (frames : List (Option Bytes)) :
    ((fileStream b rest frames).1.flatten, (fileStream b rest frames).2.toSpec)
      = specFile (crlfPat b) (rest ++ dataBeforeError frames) (hasError frames) :=
  fileStream_spec b rest frames

/-- the executable reference in `specFile` is the declarative "before the first occurrence" -/
theorem C09d_reference_is_first_occurrence (pat d before : Bytes) :
    (beforeFirst pat d = some before ↔ FirstOcc pat d before) ∧
    (beforeFirst pat d = none ↔ ∀ b', ¬ OccursAt pat d b') :=
  ⟨beforeFirst_eq_some_iff pat d before, beforeFirst_eq_none_iff pat d⟩

/-- clause (d), file part, two framings of the same bytes -/
theorem C09d_filestream_framing_independent (b rest : Bytes) (fr₁ fr₂ : List (Option Bytes))
    (hd : dataBeforeError fr₁ = dataBeforeError fr₂) (he : hasError fr₁ = hasError fr₂) :
    (fileStream b rest fr₁).1.flatten = (fileStream b rest fr₂).1.flatten ∧
    (fileStream b rest fr₁).2 = (fileStream b rest fr₂).2 := by
  have h := Prod.mk.inj (Body.independent_of_refines (g := fun d => specFile (crlfPat b) (rest ++ d))
    (C09d_filestream_refines b rest) hd he)
  exact ⟨h.1, FTerm.toSpec_injective h.2⟩

/-- clause (d): where `try_parse` is not stable (`Findings/C09.lean`) it still never turns a failure into
    a success: `InvalidFormat` on a buffer means no longer buffer parses -/
theorem C09d_try_parse_invalid_never_parsed (b p q : Bytes) (hp : tryParse b p = .invalid) (hpq : p <+: q) :
    ∀ f n c s, tryParse b q ≠ .parsed f n c s := by
  obtain ⟨t, rfl⟩ := hpq
  exact (tryParse_invalid_ext t hp).1

/-- clause (d), composition, general form (transport errors included): the observable outcome of
    `transform_multipart` + draining the file stream — form fields, file name, content type, delivered
    bytes, and how it ends — is the single-frame semantics of (data before the first error, error flag):
    one `try_parse` of the whole data, then the bytes before the first `CRLF--boundary` after the part
    headers. No hypothesis on the framing. -/
theorem C09d_multipart_refines_single_frame (b : Bytes) (frames : List (Option Bytes)) :
    observe (run b frames) = specOutcome (oneShot b) b (dataBeforeError frames) (hasError frames) :=
  run_spec b frames

/-- … in particular the run on any framing equals the run on the single frame holding the concatenation -/
theorem C09d_multipart_equals_single_frame_run (b : Bytes) (frames : List Bytes) :
    observe (run b (frames.map some)) = observe (run b [some frames.flatten]) := by
  rw [run_spec, run_spec, dataBeforeError_map_some, hasError_map_some]
  simp [dataBeforeError, hasError]

/-- clause (d), composition with transport errors: same data before the error and same error flag give
    the same observable outcome -/
theorem C09d_multipart_framing_independent_err (b : Bytes) (fr₁ fr₂ : List (Option Bytes))
    (hd : dataBeforeError fr₁ = dataBeforeError fr₂) (he : hasError fr₁ = hasError fr₂) :
    observe (run b fr₁) = observe (run b fr₂) :=
  Body.independent_of_refines (run_spec b) hd he

/-- clause (d), composition, error-free framings: two framings of the same bytes give the same parsed
    form (fields, file name, content type), the same delivered file bytes and the same exact terminal
    (`ok | incomplete | invalidFormat`) -/
theorem C09d_multipart_framing_independent (b : Bytes) (frames₁ frames₂ : List Bytes)
    (h : frames₁.flatten = frames₂.flatten) :
    (run b (frames₁.map some)).form = (run b (frames₂.map some)).form ∧
    (run b (frames₁.map some)).chunks.flatten = (run b (frames₂.map some)).chunks.flatten ∧
    (run b (frames₁.map some)).terminal = (run b (frames₂.map some)).terminal := by
  have hobs : observe (run b (frames₁.map some)) = observe (run b (frames₂.map some)) := by
    apply C09d_multipart_framing_independent_err
    · rw [dataBeforeError_map_some, dataBeforeError_map_some, h]
    · rw [hasError_map_some, hasError_map_some]
  rw [observe_run b _ (hasError_map_some _), observe_run b _ (hasError_map_some _), Obs.mk.injEq] at hobs
  exact ⟨hobs.1, hobs.2.1, Terminal.toEnd_injective hobs.2.2⟩

/-- model hygiene for clause (d): the fuel given to the two `loop`s of the model (`try_parse`'s part loop,
    `split_to`) never runs out — any fuel above the slice length gives the same answer, so their
    `fuel = 0` branches are dead and `tryParse` mirrors the unbounded Rust loops -/
theorem C09d_fuel_irrelevant (b s : Bytes) (fields : List (Bytes × Bytes)) (n : Nat) (h : s.length < n) :
    partsLoop b n s fields = partsLoop b (s.length + 1) s fields ∧
    splitToLoop (dashBoundary b) s n s 0 = splitTo (dashBoundary b) s :=
  ⟨partsLoop_fuel b n _ s fields h (Nat.lt_succ_self _), splitToLoop_fuel _ s h⟩

/-! ## non-vacuity

The form of the repaired finding (boundary `9431149156168`, field `key=acl`, file `MyFilename.jpg`,
`image/jpg`, content `file_content`), cut after 5 bytes — the framing that used to be rejected. -/

def exBoundary : Bytes := [57, 52, 51, 49, 49, 52, 57, 49, 53, 54, 49, 54, 56]
def exBody : Bytes := [45, 45, 57, 52, 51, 49, 49, 52, 57, 49, 53, 54, 49, 54, 56, 13, 10, 67, 111, 110, 116, 101, 110, 116, 45, 68, 105, 115, 112, 111, 115, 105, 116, 105, 111, 110, 58, 32, 102, 111, 114, 109, 45, 100, 97, 116, 97, 59, 32, 110, 97, 109, 101, 61, 34, 107, 101, 121, 34, 13, 10, 13, 10, 97, 99, 108, 13, 10, 45, 45, 57, 52, 51, 49, 49, 52, 57, 49, 53, 54, 49, 54, 56, 13, 10, 67, 111, 110, 116, 101, 110, 116, 45, 68, 105, 115, 112, 111, 115, 105, 116, 105, 111, 110, 58, 32, 102, 111, 114, 109, 45, 100, 97, 116, 97, 59, 32, 110, 97, 109, 101, 61, 34, 102, 105, 108, 101, 34, 59, 32, 102, 105, 108, 101, 110, 97, 109, 101, 61, 34, 77, 121, 70, 105, 108, 101, 110, 97, 109, 101, 46, 106, 112, 103, 34, 13, 10, 67, 111, 110, 116, 101, 110, 116, 45, 84, 121, 112, 101, 58, 32, 105, 109, 97, 103, 101, 47, 106, 112, 103, 13, 10, 13, 10, 102, 105, 108, 101, 95, 99, 111, 110, 116, 101, 110, 116, 13, 10, 45, 45, 57, 52, 51, 49, 49, 52, 57, 49, 53, 54, 49, 54, 56, 45, 45, 13, 10]

theorem exBody_parsed : tryParse exBoundary exBody =
    .parsed [([107, 101, 121], [97, 99, 108])] [77, 121, 70, 105, 108, 101, 110, 97, 109, 101, 46, 106, 112, 103] [105, 109, 97, 103, 101, 47, 106, 112, 103] 184 := by decide +kernel

/-- hypotheses of `C09d_try_parse_prefix_stable_partial` / `_parsed_stable`: the whole body is a
    definitive success and does not end in a bare delimiter -/
example : tryParse exBoundary exBody =
    .parsed [([107, 101, 121], [97, 99, 108])] [77, 121, 70, 105, 108, 101, 110, 97, 109, 101, 46, 106, 112, 103] [105, 109, 97, 103, 101, 47, 106, 112, 103] 184 := exBody_parsed
example : endsInBareDelimiter exBoundary exBody = false := by decide +kernel
/-- … while its first five bytes only ask for more data (the repaired behaviour) -/
example : tryParse exBoundary (exBody.take 5) = .needMore := by decide +kernel
/-- hypothesis of `C09d_try_parse_invalid_never_parsed`: a wrong first boundary line is a definitive failure -/
example : tryParse exBoundary ([45, 45, 57, 52, 51, 120] ++ [13, 10]) = .invalid := by decide +kernel
/-- hypothesis and conclusion of `C09d_multipart_framing_independent` on the two framings -/
example : [exBody.take 5, exBody.drop 5].flatten = [exBody].flatten := by simp
example : (run exBoundary ([exBody.take 5, exBody.drop 5].map some)).chunks.flatten = [102, 105, 108, 101, 95, 99, 111, 110, 116, 101, 110, 116] ∧
    (run exBoundary ([exBody.take 5, exBody.drop 5].map some)).terminal = .ok := by
  have hd : dataBeforeError ([exBody.take 5, exBody.drop 5].map some) = exBody := by
    rw [dataBeforeError_map_some]
    simp
  exact (run_parsed_exact exBoundary _ _ _ _ 184 _ (by rw [hd]; exact exBody_parsed)
    (by rw [hd]; decide +kernel)).2
/-- hypotheses of the clause (a)/(b) independence theorems: a body in one and in three frames, one empty -/
example : dataBeforeError [some [1, 2, 3]] = dataBeforeError [some [1], some [], some [2, 3]] ∧
    hasError [some [1, 2, 3]] = hasError [some [1], some [], some [2, 3]] := by decide

end S3V.C09
