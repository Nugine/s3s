import S3V.Thm.HttpLabel
import S3V.Props.C01Prepare
/-!
# C02 — the LABEL members (bucket / key bound to the URI path) at every operation (property theorems only)

`C02AllOps.lean` covers the header and query rows of the binding table, `C02Payload.lean` the payload and
`x-amz-meta-*` rows. This file covers the rows with location `label`.

* Table half (re-decided by the kernel on the regenerated tables `Gen/Bindings.lean`, `Gen/Labels.lean`, `Gen/Route.lean`
  for all 96 operations): the label rows are exactly the Smithy `httpLabel` members, which are exactly the labels of
  the operation's URI pattern (`Bucket`; `Key` with the greedy mark), every pattern is one of four shapes, and the one
  label statement of `deserialize_http` is the helper for that shape with the variables in the order of the pattern.
* Semantic half: the helpers `unwrap_bucket` / `unwrap_object` and the statements are modelled
  (`S3V/Model/HttpLabel.lean`), composed with the first block and the middle of `ops::prepare` (`callLabels` =
  C12's `classify`, then `S3V.Prepare.prepare`, then the label statements of the selected operation). With C12's
  theorems on `classify` and C01's on `prepare` / the router: whatever operation is reached, its label members are
  the addressed bucket and key, byte for byte, for every percent-spelling of the path, in both addressing styles.

Quantifiers: every host configuration, every valid bucket name, every UTF-8 key of 1..1024 bytes, every
percent-spelling, every method / query string / headers / signature-check result / access hook / custom route.
-/
namespace S3V.C02
open S3V S3V.Net S3V.Host S3V.Path S3V.PathSpec S3V.Gen S3V.Route S3V.RouteSpec S3V.RouteCompose
open S3V.Prepare S3V.HttpLabel S3V.HttpLabelSpec S3V.C01 S3V.C12

/-! ## the table half -/

/-- the rows of a binding list with location `label` -/
def labelRows (l : List Binding) : List Binding := l.filter fun b => b.loc == .label

/-- for every operation: the members `deserialize_http` takes from the path, the members the Smithy model marks
    `httpLabel`, and the labels of the operation's Smithy URI pattern are the same names in the same order; every one
    is required; the pattern is well-formed (only its last segment may be greedy, no label twice) -/
theorem C02_label_rows_are_uri_labels : ∀ op : Op,
    (labelRows (implInputs op)).map (·.member) = (labels (smithyUriPath op)).map (·.1) ∧
    (labelRows (smithyInputs op)).map (·.member) = (labels (smithyUriPath op)).map (·.1) ∧
    (labelRows (implInputs op)).all (·.required) = true ∧
    wellFormed (smithyUriPath op) = true :=
  Op.forall_of_all (by decide +kernel)

/-- the label statement a URI pattern calls for: `/{Bucket}` — `let bucket = unwrap_bucket(req)`;
    `/{Bucket}/{Key+}` — `let (bucket, key) = unwrap_object(req)`; no label — none -/
def expectedStmts : List UriSeg → List (PK × List (List UInt8))
  | [.label b false] => [(.bucket, [b])]
  | [.label b false, .label k true] => [(.object, [b, k])]
  | _ => []

/-- for every operation: `deserialize_http` has exactly the label statement its URI pattern calls for, with the
    variables of the `let` pattern in the order of the labels in the URI (so the first component `unwrap_object`
    returns goes to `Bucket`, the second to `Key`), and `unwrapsKind` (the table C01 uses) names that helper -/
theorem C02_label_statements_match_uri : ∀ op : Op,
    implLabelStmts op = expectedStmts (smithyUriPath op) ∧
    unwrapsKind op = (match implLabelStmts op with | [] => .root | st :: _ => st.1) :=
  Op.forall_of_all (by decide +kernel)

/-- every operation's URI pattern has one of four shapes: `/{Bucket}/{Key+}` (`Key` greedy: it takes the whole rest
    of the path), `/{Bucket}`, `/` (`ListBuckets`) and the literal `/WriteGetObjectResponse` — the two operations
    without a label, listed -/
theorem C02_label_uri_shapes : ∀ op : Op,
    smithyUriPath op = [.label mBucket false, .label mKey true] ∨
    smithyUriPath op = [.label mBucket false] ∨
    (op = .ListBuckets ∧ smithyUriPath op = []) ∨
    (op = .WriteGetObjectResponse ∧ smithyUriPath op =
      [.lit [87, 114, 105, 116, 101, 71, 101, 116, 79, 98, 106, 101, 99, 116, 82, 101, 115, 112, 111, 110, 115, 101]]) :=
  Op.forall_of_all (by decide +kernel)

/-- how many of each (pinned tree: 24 with a `Key` label, 70 with `Bucket` only, 2 without) -/
theorem C02_label_class_sizes :
    (Op.all.filter fun op => smithyUriPath op == [.label mBucket false, .label mKey true]).length = 24 ∧
    (Op.all.filter fun op => smithyUriPath op == [.label mBucket false]).length = 70 ∧
    (Op.all.filter fun op => (labels (smithyUriPath op)).isEmpty) = [.ListBuckets, .WriteGetObjectResponse] := by
  decide +kernel

/-- the POST-object form: `deserialize_http_multipart` of `formOp` has the one label statement
    `let bucket = unwrap_bucket(req)`, and `bucket` is the only member it takes from the path (`key` is a form field:
    C10) -/
theorem C02_label_form_statement :
    implFormLabelStmts = [(.bucket, [mBucket])] ∧
    (implFormInputs.filter fun f => f.src == .pathBucket).map (·.member) = [mBucket] := by
  decide +kernel

/-! ## the semantic half -/

/-- the core: for every request whose path the first block of `prepare` classifies as `p`, whatever operation
    `prepare` hands on (through the router or the POST-form branch), the label statements of that operation's
    `deserialize_http` do not panic and bind exactly the label members of the operation's Smithy URI pattern to the
    components of `p`, position by position -/
theorem C02_label_members_of_classified_path {I E : Type} (cfg : HostCfg) (host : Option Bytes) (e : Bytes)
    (p : S3Path) (hc : classify cfg host e = .ok p) (ctx : Ctx I E) (r : Request I E) (hpost : FormOnlyForPost r) :
    ∃ x, callLabels cfg host e ctx r = .ok x ∧
      ∀ op ls, x = some (op, ls) → ls = some (assign (smithyUriPath op) (components p)) :=
  callLabels_components hc ctx r hpost

/-- the `Key` label, path style. For every valid bucket `b`, every UTF-8 key `k` of 1..1024 bytes and every
    percent-spelling `e` of the path `/b/k`, handled path-style, and every request around it: the path is
    classified, and whatever operation is reached has the URI pattern `/{Bucket}/{Key+}` and receives
    `bucket = b`, `key = k` — exactly, both members, no other label member; this is what the Smithy pattern
    prescribes (`labelValues`). Every operation with a `Key` label is reached only this way
    (`C02_label_operations_reached`). -/
theorem C02_label_members_exact_every_operation {I E : Type} (cfg : HostCfg) (host : Option Bytes)
    (b k e : Bytes) (hps : PathStyleChosen cfg host) (hb : checkBucketName b = true)
    (hk0 : 0 < k.length) (hk : k.length ≤ 1024) (hu : utf8Valid k = true)
    (hsp : Spelling e (slash :: (b ++ slash :: k)))
    (ctx : Ctx I E) (r : Request I E) (hpost : FormOnlyForPost r) :
    ∃ x, callLabels cfg host e ctx r = .ok x ∧
      ∀ op ls, x = some (op, ls) →
        ls = some [(mBucket, b), (mKey, k)] ∧ ls = some (labelValues op b k) ∧
        smithyUriPath op = [.label mBucket false, .label mKey true] :=
  callLabels_object (C12_key_verbatim cfg host b k e hps hb hk0 hk hu hsp) ctx r hpost

/-- the `Key` label, virtual-hosted style: host `b.t` (`t` a configured base domain in any ASCII case), every
    percent-spelling `e` of `/k` — the same conclusion -/
theorem C02_label_members_exact_every_operation_vhost {I E : Type} (cfg : HostCfg) (d t b k e : Bytes)
    (hcd : ConfiguredDomain cfg d) (ht : toAsciiLower t = toAsciiLower d)
    (hs : headerToStrOk (b ++ dot :: t) = true) (hip : isSocketAddrOrIpAddr (b ++ dot :: t) = false)
    (hb : checkBucketName b = true) (hk0 : 0 < k.length) (hk : k.length ≤ 1024)
    (hu : utf8Valid k = true) (hsp : Spelling e (slash :: k))
    (ctx : Ctx I E) (r : Request I E) (hpost : FormOnlyForPost r) :
    ∃ x, callLabels cfg (some (b ++ dot :: t)) e ctx r = .ok x ∧
      ∀ op ls, x = some (op, ls) →
        ls = some [(mBucket, b), (mKey, k)] ∧ ls = some (labelValues op b k) ∧
        smithyUriPath op = [.label mBucket false, .label mKey true] :=
  callLabels_object (C12_key_verbatim_vhost cfg d t b k e hcd ht hs hip hb hk0 hk hu hsp) ctx r hpost

/-- the `Bucket` label alone, all three spellings of a bucket address: path style `/b` and `/b/` (any percent-spelling),
    virtual-hosted style `/`: whatever operation is reached receives `bucket = b` and no other label member if its
    pattern has a label at all — a `/{Bucket}` operation, or `PutObject` through the POST form (its `key` is the form
    field) — and no label member if it has none (`WriteGetObjectResponse`, whose literal path segment stands where
    the bucket would); in every case this is the URI pattern matched against the one component `b` -/
theorem C02_label_members_exact_bucket_operations {I E : Type} (cfg cfg' : HostCfg) (host' : Option Bytes)
    (d t b e₁ e₂ e₃ : Bytes)
    (hcd : ConfiguredDomain cfg d) (ht : toAsciiLower t = toAsciiLower d)
    (hs : headerToStrOk (b ++ dot :: t) = true) (hip : isSocketAddrOrIpAddr (b ++ dot :: t) = false)
    (hps : PathStyleChosen cfg' host') (hb : checkBucketName b = true)
    (hsp₁ : Spelling e₁ (slash :: b)) (hsp₂ : Spelling e₂ (slash :: (b ++ [slash]))) (hsp₃ : Spelling e₃ [slash])
    (ctx : Ctx I E) (r : Request I E) (hpost : FormOnlyForPost r) :
    ∀ e host c, (e, host, c) ∈ [(e₁, host', cfg'), (e₂, host', cfg'), (e₃, some (b ++ dot :: t), cfg)] →
      ∃ x, callLabels c host e ctx r = .ok x ∧
        ∀ op ls, x = some (op, ls) →
          (ls = some [(mBucket, b)] ∨ (ls = some [] ∧ labels (smithyUriPath op) = [])) ∧
          ls = some (assign (smithyUriPath op) [b]) := by
  have hc₁ := classify_path_bucket hps hb hsp₁
  have hc₂ : classify cfg' host' e₂ = .ok (.bucket b) :=
    classify_path_target (k := []) hps hb (by decide) (by decide) hsp₂
  have hc₃ : classify cfg (some (b ++ dot :: t)) e₃ = .ok (.bucket b) :=
    classify_host_target (k := []) (hostBucket_sub hcd ht hs hip) hb (by decide) (by decide) hsp₃
  intro e host c hm
  simp only [List.mem_cons, Prod.mk.injEq, List.mem_nil_iff, or_false] at hm
  rcases hm with ⟨rfl, rfl, rfl⟩ | ⟨rfl, rfl, rfl⟩ | ⟨rfl, rfl, rfl⟩
  · exact callLabels_bucket hc₁ ctx r hpost
  · exact callLabels_bucket hc₂ ctx r hpost
  · exact callLabels_bucket hc₃ ctx r hpost

/-- no label: the root path `/` reaches only an operation without label members (`ListBuckets`) -/
theorem C02_label_members_root {I E : Type} (cfg : HostCfg) (host : Option Bytes) (e : Bytes)
    (hps : PathStyleChosen cfg host) (hsp : Spelling e [slash])
    (ctx : Ctx I E) (r : Request I E) (hpost : FormOnlyForPost r) :
    ∃ x, callLabels cfg host e ctx r = .ok x ∧ ∀ op ls, x = some (op, ls) → ls = some [] :=
  callLabels_root (classify_root (hostBucket_pathStyle hps) hsp) ctx r hpost

/-- every operation is reached: the request for bucket `b` and key `k` (`k = ""`: the bucket itself) that denotes
    `op` per the Smithy model, sent path-style as any percent-spelling of `/b/k` or virtual-hosted-style as any
    percent-spelling of `/k` under host `b.t`, whose signature check passed, that is not a POST form, that no custom
    route claims and that the `events` refusal, the access check and the body check let through: in both forms
    `op` — and no other operation — runs its label statements, and they bind exactly what `op`'s URI pattern
    prescribes for (`b`, `k`): `bucket = b`, `key = k` for the operations with a `Key` label (then `k` is not empty),
    `bucket = b` for those with `Bucket` only -/
theorem C02_label_operations_reached {I E : Type} (op : Op) (cfg cfg' : HostCfg)
    (host' : Option Bytes) (d t b k e₁ e₂ : Bytes)
    (hcd : ConfiguredDomain cfg d) (ht : toAsciiLower t = toAsciiLower d)
    (hs : headerToStrOk (b ++ dot :: t) = true)
    (hip : isSocketAddrOrIpAddr (b ++ dot :: t) = false) (hps : PathStyleChosen cfg' host')
    (hb : checkBucketName b = true) (hk : k.length ≤ 1024) (hu : utf8Valid k = true)
    (hsp₁ : Spelling e₁ (slash :: (b ++ slash :: k))) (hsp₂ : Spelling e₂ (slash :: k))
    (ctx : Ctx I E) (r : Request I E) (s : SigResult I) (hsig : r.sig = .ok s)
    (hform : s.multipart = none) (hroute : routeClaims ctx r s = false)
    (hden : Denotes (smithySpec op) (intended (restOf r) k))
    (hev : eventsHack op (extractQs r.rawQuery) = false)
    (hacc : accessCheck ctx s.credentials (target b k) op = .ok ())
    (hbody : usesBufferedBody op = true →
      extractFullBody (prepare ctx (target b k) r).contentLength r.body = .ok ()) :
    callLabels cfg' host' e₁ ctx r = .ok (some (op, some (labelValues op b k))) ∧
    callLabels cfg (some (b ++ dot :: t)) e₂ ctx r = .ok (some (op, some (labelValues op b k))) ∧
    (labelValues op b k = [(mBucket, b), (mKey, k)] ∧ k ≠ [] ∨ labelValues op b k = [(mBucket, b)] ∧ k = [] ∨
      labelValues op b k = [] ∧ k = []) := by
  have h := C01_intended_operation_reached_through_prepare cfg cfg' host' d t b k e₁ e₂ hcd ht hs hip hps hb hk hu
    hsp₁ hsp₂ ctx r s hsig (Or.inl hform) hroute
  obtain ⟨h1, h2, h3, _⟩ := h
  have ho := (h3 op hden).2.2 hev hacc hbody
  have hc₁ : classify cfg' host' e₁ = .ok (target b k) := classify_path_target hps hb hk hu hsp₁
  have hc₂ : classify cfg (some (b ++ dot :: t)) e₂ = .ok (target b k) :=
    classify_host_target (hostBucket_sub hcd ht hs hip) hb hk hu hsp₂
  have hform_false : hasForm r = false := by simp only [hasForm, hsig, hform]; rfl
  obtain ⟨hl, hshape⟩ := deserLabels_target (op := op) b (k := k)
    (RouteThm.resolve_answer (C01_route_complete op _ hden)).2
  refine ⟨?_, ?_, hshape⟩
  · rw [callLabels_reached hc₁ ho, hform_false, hl]
  · rw [callLabels_reached hc₂ ho, hform_false, hl]

/-! ## non-vacuity -/

/-- `GetObject` of key `a/ %é` in bucket `my.bucket-1`, path style under an IP host with every byte but lower-case
    letters, digits, `.`, `-`, `/` escaped (and the letter `a` too), and virtual-hosted style under `S3.Example.COM`:
    both reach `GetObject` with `bucket = my.bucket-1`, `key = a/ %é` -/
example :
    callLabels (.single exDomain) (some exIpHost)
        (pctEncode exMask (slash :: (exBucket ++ slash :: exKey))) exCtx exGet =
      .ok (some (.GetObject, some [(mBucket, exBucket), (mKey, exKey)])) ∧
    callLabels (.single exDomain) (some (exBucket ++ dot :: exDomainMixed)) (slash :: exRest) exCtx exGet =
      .ok (some (.GetObject, some [(mBucket, exBucket), (mKey, exKey)])) := by
  have h := C02_label_operations_reached (I := Nat) (E := Unit) .GetObject (.single exDomain) (.single exDomain)
    (some exIpHost) exDomain exDomainMixed exBucket exKey
    (pctEncode exMask (slash :: (exBucket ++ slash :: exKey))) (slash :: exRest) (Or.inl rfl)
    exDomainMixed_lower exMixedHost_str exMixedHost_not_ip exIpHost_pathStyle exBucket_ok (by decide +kernel)
    exKey_utf8 (C12_pctEncode_is_spelling exMask _) exSpelling_rest exCtx exGet ⟨none, false, none⟩ rfl
    rfl rfl exPlainGet_denotes rfl rfl (fun h => by cases h)
  exact ⟨h.1, h.2.1⟩

/-- the hypothesis `FormOnlyForPost` holds of a request without a form and of the POST form of `C01Prepare` -/
example : FormOnlyForPost exGet := fun s hs hm => by
  have : s = ⟨none, false, none⟩ := by injection hs with hs; exact hs.symm
  rw [this] at hm; cases hm
example : FormOnlyForPost exForm := fun _ _ _ => rfl

/-- the POST form reaches `PutObject` with `bucket` from the path (hypotheses of
    `C02_label_members_of_classified_path` met by the form of `C01Prepare`) -/
example : callLabels (.single exDomain) (some exIpHost) (pctEncode exMask (slash :: exBucket)) exFormCtx exForm =
    .ok (some (.PutObject, some [(mBucket, exBucket)])) := by
  have hc : classify (.single exDomain) (some exIpHost) (pctEncode exMask (slash :: exBucket)) =
      .ok (.bucket exBucket) :=
    classify_path_bucket exIpHost_pathStyle exBucket_ok (C12_pctEncode_is_spelling exMask _)
  rw [callLabels_reached hc (op := .PutObject) (full := false) rfl]
  rfl

/-- the tables are not degenerate: 118 label rows in all, `PutObject` has two -/
example : (Op.all.map fun op => (labelRows (implInputs op)).length).sum = 118 := by decide +kernel
example : (labelRows (implInputs .PutObject)).map (·.member) = [mBucket, mKey] := by decide +kernel

end S3V.C02

#print axioms S3V.C02.C02_label_rows_are_uri_labels
#print axioms S3V.C02.C02_label_statements_match_uri
#print axioms S3V.C02.C02_label_uri_shapes
#print axioms S3V.C02.C02_label_class_sizes
#print axioms S3V.C02.C02_label_form_statement
#print axioms S3V.C02.C02_label_members_of_classified_path
#print axioms S3V.C02.C02_label_members_exact_every_operation
#print axioms S3V.C02.C02_label_members_exact_every_operation_vhost
#print axioms S3V.C02.C02_label_members_exact_bucket_operations
#print axioms S3V.C02.C02_label_members_root
#print axioms S3V.C02.C02_label_operations_reached
