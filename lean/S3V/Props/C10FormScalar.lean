import S3V.Model.FormScalar
import S3V.Props.C02Scalar
import S3V.Props.C10Form
/-!
# C10 — the scalar form members of the POST-object form

`C10Form.lean` proves which text each member of `PutObjectInput` is filled from; here, what the scalar parsers (`FromStr`
of the non-string member types) make of that text: the form-field readers `parse_field_value` /
`parse_field_value_timestamp` are modelled (`S3V/Model/FormScalar.lean`) by the kind of the member's Rust type, which
the translator reads from `dto/generated.rs` on every run (`S3V.Gen.implFormScalars`), and the analogues of
`C02_scalar_int_iff` / `C02_scalar_strbool_iff` are proved for form members.

Outside: `mime::Mime::from_str` for the `content-type` field (a parameter here; model on a subset and theorems in
`S3V/Props/C14ContentType.lean`). Timestamps are C14's model `Ts.parse` — its theorems apply as they stand.
-/
namespace S3V.C10FormScalar
open S3V S3V.Gen S3V.HttpScalar S3V.FormScalar S3V.C02Scalar

def isFieldRow (f : FormBinding) : Bool := match f.src with | FormSrc.field _ _ => true | _ => false

/-- every member read from a form field has a kind, in table order; the members that are not strings (or string
    enums), listed: `bucket_key_enabled` (bool), `content_type` (mime), `expires` (timestamp),
    `object_lock_retain_until_date` (timestamp), `write_offset_bytes` (i64); a member is read with
    `parse_field_value_timestamp` exactly when its type is `Timestamp` — `expires` as HTTP date,
    `object_lock_retain_until_date` as RFC 3339 date-time, which are the formats the Smithy model gives the header
    members (`C10_form_table_is_smithy`) -/
theorem C10_form_scalar_kinds :
    implFormScalars.map (·.1) = (implFormInputs.filter isFieldRow).map (·.member) ∧
    (implFormScalars.filter fun p => p.2 ≠ FormScalar.string ∧ p.2 ≠ FormScalar.strEnum) =
      ([([98, 117, 99, 107, 101, 116, 107, 101, 121, 101, 110, 97, 98, 108, 101, 100], .bool),
       ([99, 111, 110, 116, 101, 110, 116, 116, 121, 112, 101], .mime),
       ([101, 120, 112, 105, 114, 101, 115], .timestamp),
       ([111, 98, 106, 101, 99, 116, 108, 111, 99, 107, 114, 101, 116, 97, 105, 110, 117, 110, 116, 105, 108, 100,
         97, 116, 101], .timestamp),
       ([119, 114, 105, 116, 101, 111, 102, 102, 115, 101, 116, 98, 121, 116, 101, 115], .i64)] :
        List (List UInt8 × FormScalar)) ∧
    ((implFormInputs.filter isFieldRow).map fun f => decide (f.fmt ≠ TsFmt.none)) =
      implFormScalars.map (fun p => decide (p.2 = FormScalar.timestamp)) ∧
    ((implFormInputs.filter fun f => f.fmt ≠ TsFmt.none).map fun f => (f.member, f.fmt)) =
      ([([101, 120, 112, 105, 114, 101, 115], .httpDate),
       ([111, 98, 106, 101, 99, 116, 108, 111, 99, 107, 114, 101, 116, 97, 105, 110, 117, 110, 116, 105, 108, 100,
         97, 116, 101], .dateTime)] : List (List UInt8 × TsFmt)) := by
  decide +kernel

variable {M : Type} (mime : Bytes → Option M)

/-- **an absent field is an absent member**, whatever the type; a present field never is -/
theorem C10_form_scalar_absent (k : FormScalar) (fmt : TsFmt) (o : Option Bytes) :
    parseFieldValue mime k fmt o = .ok none ↔ o = none := by
  cases o with
  | none => simp [parseFieldValue]
  | some t =>
    simp only [parseFieldValue]
    cases parseFieldText mime k fmt t <;> simp

/-- **integer form members accept exactly the decimal numerals of their type** (`write_offset_bytes` is the one of
    the pinned tree): one optional sign, at least one digit, nothing before, between or after, the value within the
    type — and denote that value (`DenotesInt` is the specification of `C02_scalar_int_iff`). Any other text is the
    `InvalidArgument` error, never a default. -/
theorem C10_form_scalar_int_iff (fmt : TsFmt) (t : Bytes) (v : SVal M) :
    (parseFieldText mime .i64 fmt t = some v ↔
      ∃ i, v = .int i ∧ DenotesInt t i ∧ Xml.i64Min ≤ i ∧ i ≤ Xml.i64Max) ∧
    (parseFieldText mime .i32 fmt t = some v ↔
      ∃ i, v = .int i ∧ DenotesInt t i ∧ Xml.i32Min ≤ i ∧ i ≤ Xml.i32Max) := by
  have aux : ∀ lo hi, (Xml.parseInt lo hi t).map (SVal.int (M := M)) = some v ↔
      ∃ i, v = .int i ∧ DenotesInt t i ∧ lo ≤ i ∧ i ≤ hi := fun lo hi =>
    Option.map_eq_some_iff.trans
      ⟨fun ⟨i, hi, e⟩ => ⟨i, e.symm, (C02_scalar_int_iff _ _ t i).mp hi⟩,
       fun ⟨i, e, h⟩ => ⟨i, (C02_scalar_int_iff _ _ t i).mpr h, e.symm⟩⟩
  exact ⟨aux _ _, aux _ _⟩

/-- hence the whole reader on an integer member: the member is the value iff the field's text is a numeral of the
    type, and the request is refused iff a field is present whose text is not -/
theorem C10_form_scalar_int_refused_iff (fmt : TsFmt) (t : Bytes) :
    parseFieldValue mime .i64 fmt (some t) = .error () ↔
      ¬ ∃ i, DenotesInt t i ∧ Xml.i64Min ≤ i ∧ i ≤ Xml.i64Max := by
  simp only [parseFieldValue]
  cases h : parseFieldText mime .i64 fmt t with
  | none =>
    simp only [true_iff]
    rintro ⟨i, hi⟩
    have := ((C10_form_scalar_int_iff mime fmt t (.int i)).1).mpr ⟨i, rfl, hi⟩
    rw [h] at this; cases this
  | some v =>
    obtain ⟨i, _, hi⟩ := ((C10_form_scalar_int_iff mime fmt t v).1).mp h
    constructor
    · intro h'; cases h'
    · intro hn; exact absurd ⟨i, hi⟩ hn

/-- what a client writes for a value of the type is read back as that value -/
theorem C10_form_scalar_int_roundtrip (fmt : TsFmt) (i : Int) :
    (Xml.i64Min ≤ i → i ≤ Xml.i64Max → parseFieldValue mime .i64 fmt (some (Xml.fmtInt i)) = .ok (some (.int i))) ∧
    (Xml.i32Min ≤ i → i ≤ Xml.i32Max → parseFieldValue mime .i32 fmt (some (Xml.fmtInt i)) = .ok (some (.int i))) := by
  refine ⟨fun h1 h2 => ?_, fun h1 h2 => ?_⟩
  · simp only [parseFieldValue, parseFieldText, Xml.parseInt_fmtInt h1 h2, Option.map_some]
  · simp only [parseFieldValue, parseFieldText, Xml.parseInt_fmtInt h1 h2, Option.map_some]

/-- **Boolean form members accept exactly `true` and `false`** (`bool::from_str`; not `True` / `False`, which the
    header reader also takes: `C02_scalar_bool_iff`) — `bucket_key_enabled` in the pinned tree -/
theorem C10_form_scalar_bool_iff (fmt : TsFmt) (t : Bytes) (v : SVal M) :
    parseFieldText mime .bool fmt t = some v ↔
      (v = .bool true ∧ t = sTrue) ∨ (v = .bool false ∧ t = sFalse) := by
  simp only [parseFieldText, Option.map_eq_some_iff]
  constructor
  · rintro ⟨b, hb, rfl⟩
    rcases (C02_scalar_strbool_iff t b).mp hb with ⟨rfl, h⟩ | ⟨rfl, h⟩
    · exact Or.inl ⟨rfl, h⟩
    · exact Or.inr ⟨rfl, h⟩
  · rintro (⟨rfl, h⟩ | ⟨rfl, h⟩)
    · exact ⟨true, (C02_scalar_strbool_iff t true).mpr (Or.inl ⟨rfl, h⟩), rfl⟩
    · exact ⟨false, (C02_scalar_strbool_iff t false).mpr (Or.inr ⟨rfl, h⟩), rfl⟩

/-- **string and string-enum form members are the field's text itself**: every text is accepted — no trimming, no
    case folding, no restriction to visible ASCII (a header value has one: `C02_scalar_string_verbatim`) — so an
    enum member carries an unknown constant on to the backend as it was sent -/
theorem C10_form_scalar_string_verbatim (fmt : TsFmt) (t : Bytes) :
    parseFieldValue mime .string fmt (some t) = .ok (some (.str t)) ∧
    parseFieldValue mime .strEnum fmt (some t) = .ok (some (.str t)) := ⟨rfl, rfl⟩

/-- **timestamp form members are read by `Timestamp::parse` in the format of the table row**: the model of C14, whose
    theorems (which texts denote which instant, per format) apply unchanged; a row without a format cannot occur
    (`C10_form_scalar_kinds`) and would refuse every text -/
theorem C10_form_scalar_timestamp (t : Bytes) :
    parseFieldText mime .timestamp .httpDate t = (S3V.Dto.Ts.parse .httpDate t).map .ts ∧
    parseFieldText mime .timestamp .dateTime t = (S3V.Dto.Ts.parse .dateTime t).map .ts ∧
    parseFieldText mime .timestamp .epochSeconds t = (S3V.Dto.Ts.parse .epochSeconds t).map .ts ∧
    parseFieldText mime .timestamp .none t = none := ⟨rfl, rfl, rfl, rfl⟩

/-- `write_offset_bytes = -9223372036854775808` (the least value) is read; one less is refused; so are `12abc`, ` 7`;
    `True` is not a Boolean form value, `true` is -/
example : parseFieldValue (fun _ => (none : Option Unit)) .i64 .none (some [45, 57, 50, 50, 51, 51, 55, 50, 48, 51, 54, 56, 53, 52, 55, 55, 53, 56, 48, 56]) = .ok (some (.int (-9223372036854775808))) := rfl
example : parseFieldValue (fun _ => (none : Option Unit)) .i64 .none (some [45, 57, 50, 50, 51, 51, 55, 50, 48, 51, 54, 56, 53, 52, 55, 55, 53, 56, 48, 57]) = .error () := rfl
example : parseFieldValue (fun _ => (none : Option Unit)) .i64 .none (some [49, 50, 97, 98, 99]) = .error () := rfl
example : parseFieldValue (fun _ => (none : Option Unit)) .i64 .none (some [32, 55]) = .error () := rfl
example : parseFieldValue (fun _ => (none : Option Unit)) .bool .none (some [84, 114, 117, 101]) = .error () := rfl
example : parseFieldValue (fun _ => (none : Option Unit)) .bool .none (some [116, 114, 117, 101]) = .ok (some (.bool true)) := rfl

end S3V.C10FormScalar

#print axioms S3V.C10FormScalar.C10_form_scalar_kinds
#print axioms S3V.C10FormScalar.C10_form_scalar_absent
#print axioms S3V.C10FormScalar.C10_form_scalar_int_iff
#print axioms S3V.C10FormScalar.C10_form_scalar_int_refused_iff
#print axioms S3V.C10FormScalar.C10_form_scalar_int_roundtrip
#print axioms S3V.C10FormScalar.C10_form_scalar_bool_iff
#print axioms S3V.C10FormScalar.C10_form_scalar_string_verbatim
#print axioms S3V.C10FormScalar.C10_form_scalar_timestamp
