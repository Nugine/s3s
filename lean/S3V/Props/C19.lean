import S3V.Thm.FsWrite
import S3V.Thm.FsWriteConc
/-!
# C19 — object writes to the file-system backend are all-or-nothing (property theorems, their vocabulary, examples)

Model: `S3V/Model/FsWrite.lean` (steps of `prepare_file_write` / `copy_bytes` / checksum comparison / `done()` /
side-file writes / `Drop for FileWriter`, current tree = after 3229285, 0096ef4, 47e9b00, 156124b). A *fault after step `k`* is
`dropAfter k`: the request future is dropped there (client disconnect), which also covers an error return at that
point because both run the same `Drop`. `run` is the call running to its answer (with the injected body errors,
checksum mismatch, failing rename, failing side-file writes).

Quantifiers: every list of body frames (any number, any bytes, errors anywhere), every previous content or none,
every fault position `k` (no bound), every number of concurrent writers and every schedule.

Repaired (156124b): one fault position used to leave the temporary file — the future dropped after
`File::create(tmp)` was issued on the blocking pool and before the `FileWriter` existed (`tmp-leftover:drop-at-create`,
F-fswrite-2). The file is now created in the same poll in which the `FileWriter` is constructed (one step `create`), so
the theorems below hold at EVERY fault position.

What is **not** atomic (stated precisely, see `S3V/Findings/C19.lean` for kernel-checked witnesses, all replayed on
the real code by the correspondence run):
* the metadata and checksum side files are written after the rename, each by its own `fs::write`: a fault between
  leaves new content with old side files, and a failing side-file write answers an error although the content
  was replaced. `C19_sidefiles_never_ahead` is the half that does hold;
  `complete_multipart_upload` (since 0096ef4) has the same shape: it validates the part list and the part files, assembles
  the content, renames it into place and only then moves the upload's metadata, removes the part files and the upload
  record — so a complete that fails or is abandoned before the rename changes nothing at all
  (`C19_complete_all_or_nothing`, `C19_failed_complete_changes_nothing`), and what can lag after the rename is again only
  the side files.
-/
namespace S3V.C19
open S3V S3V.FsWrite

/-- the conclusion of all-or-nothing for `put_object` at fault position `k` (= the request future is dropped, or
    the call returns an error, after `k` steps of the program
    `create, frame₁ … frameₙ, flush, check, mkdirs, rename, saveMeta | dropMeta, saveInfo`).
    The positions inside `FileWriter::done()` are explicit: `k = n + 3` — `done()` entered, nothing awaited yet;
    `k = n + 4` — `create_dir_all(parent)` finished, rename not yet issued; `k = n + 5` — rename done. -/
def AllOrNothingAt (c : Cfg) (old : Option Bytes) (m i : Side) (k : Nat) : Prop :=
  let s := dropAfter k (putObjectProg c) (initSt old m i)
  s.tmp = false ∧
  (s.dest = old ∨ ∃ all, allBytes c.frames = some all ∧ s.dest = some all) ∧
  (k ≤ c.frames.length + 4 → s.dest = old)

/-- **All-or-nothing for `put_object`** — the full statement. For every body, every previous state and EVERY fault position
    `k` — also the one right after `File::create(tmp)`, at which the code before 156124b left the temporary file; in
    particular at every position inside `done()`, and whether `create_dir_all` / `rename` succeed or fail
    (`c.mkdirsFails`, `c.renameFails` are arbitrary) —: no temporary file remains; the destination holds the previous
    content or — only if no body item was an error — all body bytes in order; and at every position up to and
    including the last step before the rename (`k ≤ n + 4`) it still holds the previous content. -/
theorem C19_write_all_or_nothing (c : Cfg) (old : Option Bytes) (m i : Side) (k : Nat) : AllOrNothingAt c old m i k :=
  have ⟨ht, hd, hk, _⟩ := (putObject_faultOk c).allOrNothing old m i k
  ⟨ht, hd, hk⟩

/-- **Side files never run ahead of the content (`put_object`).** At every fault position: if the metadata or the
    checksum record differs from before, the content has been replaced
    by the complete new bytes. (The converse fails: `S3V.Findings.C19.sidefiles_lag_drop_after_rename`.) -/
theorem C19_sidefiles_never_ahead (c : Cfg) (old : Option Bytes) (m i : Side) (k : Nat) :
    let s := dropAfter k (putObjectProg c) (initSt old m i)
    (s.mdata ≠ m ∨ s.info ≠ i) → ∃ all, allBytes c.frames = some all ∧ s.dest = some all :=
  fun hne => ((putObject_faultOk c).allOrNothing old m i k).2.2.2 (hne.imp_right .inl)

/-- **A failed or rejected upload changes nothing (`put_object`).** If a body item is an error (transport error,
    chunk-signature error — both arrive as `Err` items), or the checksums differ, or `done()` fails at either of
    its two steps (`create_dir_all` of the parent, the rename), the call
    answers an error and destination, metadata, checksum record are exactly as before, with no temporary file. -/
theorem C19_failed_upload_changes_nothing (c : Cfg) (old : Option Bytes) (m i : Side)
    (h : allBytes c.frames = none ∨ c.checksumsEqual = false ∨ c.mkdirsFails = true ∨ c.renameFails = true) :
    (run (putObjectProg c) (initSt old m i)).1 ≠ .ok ∧
    (run (putObjectProg c) (initSt old m i)).2.dest = old ∧
    (run (putObjectProg c) (initSt old m i)).2.tmp = false ∧
    (run (putObjectProg c) (initSt old m i)).2.mdata = m ∧
    (run (putObjectProg c) (initSt old m i)).2.info = i :=
  have ⟨hc, hd, ht, hm, hi, _⟩ := (putObject_fails c h).unchanged old m i
  ⟨hc, hd, ht, hm, hi⟩

/-- **A successful `put_object` stores everything.** No fault: the answer is OK, the destination holds all body
    bytes, the checksum record is new, the metadata is the request's — new if it carried metadata, none otherwise
    (a previous object's metadata does not survive) —, no temporary file. -/
theorem C19_successful_write_complete (c : Cfg) (old : Option Bytes) (m i : Side) (all : Bytes)
    (hb : allBytes c.frames = some all) (h1 : c.checksumsEqual = true) (h2 : c.renameFails = false)
    (h3 : c.metaFails = false) (h4 : c.infoFails = false) (h5 : c.mkdirsFails = false) :
    (run (putObjectProg c) (initSt old m i)).1 = .ok ∧
    (run (putObjectProg c) (initSt old m i)).2.dest = some all ∧
    (run (putObjectProg c) (initSt old m i)).2.tmp = false ∧
    (run (putObjectProg c) (initSt old m i)).2.mdata = (if c.hasMeta then .new else .absent) ∧
    (run (putObjectProg c) (initSt old m i)).2.info = .new := by
  obtain ⟨r, _, hrun⟩ := putObject_run_ok c all hb h1 h2 h3 h4 h5 (s := initSt old m i) nofun
  rw [hrun]
  exact ⟨rfl, rfl, rfl, rfl, rfl⟩

/-- **All-or-nothing for `upload_part`** (destination = the part file), at every fault position. -/
theorem C19_upload_part_all_or_nothing (c : Cfg) (old : Option Bytes) (m i : Side) (k : Nat) :
    let s := dropAfter k (uploadPartProg c) (initSt old m i)
    s.tmp = false ∧ (s.dest = old ∨ ∃ all, allBytes c.frames = some all ∧ s.dest = some all) ∧
      (k ≤ c.frames.length + 3 → s.dest = old) :=
  have ⟨ht, hd, hk, _⟩ := (uploadPart_faultOk c).allOrNothing old m i k
  ⟨ht, hd, hk⟩

/-- **All-or-nothing for `complete_multipart_upload`** — content, metadata, upload record and part files —, at every
    fault position (the program for `n ≥ 1` listed parts: `n` probes, the size rule, `create`, `n` parts, `mkdirs`, `rename`,
    then the side files, the part files, the upload record; without a part list or with an empty one, 0fcb858, the program is
    the refusal alone — `MalformedXML` — and nothing ever changes): no temporary file; the destination holds the previous content or —
    only if every part exists and passes
    the size rule — the parts concatenated in order; up to the last step before the rename (`k ≤ 2n + 3`) it holds the
    previous content; and as long as the destination has not been replaced by the complete new content nothing else
    has changed either: the metadata and the checksum record are the previous object's, the upload record exists and no
    part file has been removed (the code before 0096ef4 removed the upload record and replaced the metadata first; those
    faults are kept as facts in `S3V/Findings/C19.lean`). -/
theorem C19_complete_all_or_nothing (c : Cfg) (old : Option Bytes) (m i : Side) (k : Nat) :
    let s := dropAfter k (completeProg c) (initSt old m i)
    s.tmp = false ∧ (s.dest = old ∨ ∃ all, allParts c.parts = some all ∧ s.dest = some all) ∧
      (k ≤ 2 * c.parts.length + 3 → s.dest = old) ∧
      ((s.mdata ≠ m ∨ s.info ≠ i ∨ s.uploadRec = false ∨ s.partsGone ≠ 0) →
        ∃ all, allParts c.parts = some all ∧ s.dest = some all) :=
  (complete_faultOk c).allOrNothing old m i k

/-- **A failed `complete_multipart_upload` changes nothing.** If the part list is missing or empty (`MalformedXML`, 0fcb858;
    before, an empty list produced an empty object), a listed part was never uploaded (`InvalidPart`), a part
    other than the last is below the minimum size (`EntityTooSmall`), or `done()` fails at either of its two steps, the
    call answers an error and destination, metadata, checksum record, upload record and part files are exactly as
    before, with no temporary file: the upload can be completed later. -/
theorem C19_failed_complete_changes_nothing (c : Cfg) (old : Option Bytes) (m i : Side)
    (h : c.parts = [] ∨ allParts c.parts = none ∨ c.mkdirsFails = true ∨ c.renameFails = true) :
    (run (completeProg c) (initSt old m i)).1 ≠ .ok ∧
    (run (completeProg c) (initSt old m i)).2.dest = old ∧
    (run (completeProg c) (initSt old m i)).2.tmp = false ∧
    (run (completeProg c) (initSt old m i)).2.mdata = m ∧
    (run (completeProg c) (initSt old m i)).2.info = i ∧
    (run (completeProg c) (initSt old m i)).2.uploadRec = true ∧
    (run (completeProg c) (initSt old m i)).2.partsGone = 0 :=
  (complete_fails c h).unchanged old m i

/-- **A successful `complete_multipart_upload` stores everything.** The list names a part, every listed part exists and passes the size rule, no
    fault: the answer is OK, the destination holds the parts concatenated in order, the metadata is the upload's — none if it
    has none: a previous object's metadata does not survive (47e9b00) —, the checksum record is new (empty), the upload
    record and every listed part file are gone, no temporary file. -/
theorem C19_successful_complete (c : Cfg) (old : Option Bytes) (m i : Side) (all : Bytes)
    (hne : c.parts ≠ []) (hb : allParts c.parts = some all) (h1 : c.mkdirsFails = false) (h2 : c.renameFails = false)
    (h3 : c.metaFails = false) (h4 : c.infoFails = false) :
    (run (completeProg c) (initSt old m i)).1 = .ok ∧
    (run (completeProg c) (initSt old m i)).2.dest = some all ∧
    (run (completeProg c) (initSt old m i)).2.tmp = false ∧
    (run (completeProg c) (initSt old m i)).2.mdata = (if c.hasMeta then .new else .absent) ∧
    (run (completeProg c) (initSt old m i)).2.info = .new ∧
    (run (completeProg c) (initSt old m i)).2.uploadRec = false ∧
    (run (completeProg c) (initSt old m i)).2.partsGone = c.parts.length := by
  obtain ⟨r, ⟨⟨_, _, _, _, hgone⟩, _⟩, hrun⟩ := complete_run_ok c all hne hb h1 h2 h3 h4 (s := initSt old m i) nofun
  rw [hrun]
  exact ⟨rfl, rfl, rfl, rfl, rfl, rfl, by rw [show r.partsGone = 0 from hgone]; exact Nat.zero_add _⟩

/-- **`done()` is guarded to its end.** For all three writing operations: if `create_dir_all(parent)` fails (a parent
    of the destination is a plain file) or the rename fails (the destination is a directory), the call answers an
    error, the destination is untouched and the temporary file is gone — the `Drop` guard is disarmed only after
    the rename succeeded. -/
theorem C19_done_failure_guarded (c : Cfg) (old : Option Bytes) (m i : Side)
    (h : c.mkdirsFails = true ∨ c.renameFails = true) :
    ∀ prog ∈ [putObjectProg c, uploadPartProg c, completeProg c],
      (run prog (initSt old m i)).1 ≠ .ok ∧ (run prog (initSt old m i)).2.dest = old ∧
      (run prog (initSt old m i)).2.tmp = false := by
  have hf : ∀ prog ∈ [putObjectProg c, uploadPartProg c, completeProg c], Fails prog :=
    List.forall_mem_cons.mpr ⟨putObject_fails c (.inr (.inr h)), List.forall_mem_cons.mpr ⟨uploadPart_fails c (.inr h),
      List.forall_mem_cons.mpr ⟨complete_fails c (.inr (.inr h)), nofun⟩⟩⟩
  intro prog hp
  have ⟨hc, hd, ht, _⟩ := (hf prog hp).unchanged old m i
  exact ⟨hc, hd, ht⟩

/-- **Concurrent writers: exactly one writer's bytes.** `n` writers (any `n`, each with any frames) put to one
    key; the scheduler interleaves their atomic steps (draw a counter value — `fetch_add`; create the temporary
    file; append a frame; rename) in any order, for any length. Then
    1. at every moment the destination holds the previous content or the *whole* content of one writer — never a
       mixture, never a prefix;
    2. once every writer has finished, it holds exactly one writer's content (if there is a writer), and no
       temporary file exists. -/
theorem C19_concurrent_one_writer (old : Option Bytes) (contents : List (List Bytes)) (schedule : List Nat) :
    let w := runSched (initWorld old contents) schedule
    (w.dest = old ∨ ∃ c ∈ contents, w.dest = some c.flatten) ∧
    ((∀ wr ∈ w.writers, wr.done = true) →
      (contents ≠ [] → ∃ c ∈ contents, w.dest = some c.flatten) ∧ ∀ id, w.tmps id = none) := by
  intro w
  have hI : Inv old w := inv_runSched (inv_init old contents) schedule
  have hne' : contents ≠ [] → w.writers ≠ [] := fun hne e =>
    hne (by rw [← writers_frames_init old contents schedule]; exact congrArg (List.map (·.frames)) e)
  refine ⟨hI.dest_cases.imp_right fun ⟨wr, hwr, hd⟩ => ⟨wr.frames, writers_frames_mem hwr, hd⟩,
    fun hdone => ⟨fun hne => ?_, hI.no_tmp_of_done hdone⟩⟩
  obtain ⟨wr, hwr, hd⟩ := hI.dest_of_done (hne' hne) hdone
  exact ⟨wr.frames, writers_frames_mem hwr, hd⟩

/-! ## non-vacuity -/

/-- frames `ab`, `c` over previous content `z`: dropped at position 2 (one frame written) → previous content, no
    temporary file; run to the end → `abc` -/
example : (dropAfter 2 (putObjectProg { frames := [.ok [97, 98], .ok [99]] }) (initSt (some [122]) .old .old)).dest
    = some [122] := by decide +kernel
example : (run (putObjectProg { frames := [.ok [97, 98], .ok [99]], hasMeta := true }) (initSt (some [122]) .old .old))
    = (.ok, { dest := some [97, 98, 99], tmp := false, owned := false, acc := [97, 98, 99], mdata := .new, info := .new,
              uploadRec := true, partsGone := 0, pulled := 2, dirs := true }) := by decide +kernel
/-- dropped right after `create` (position 1: here the code before 156124b left the file): no temporary file, nothing changed -/
example : dropAfter 1 (putObjectProg { frames := [.ok [97, 98], .ok [99]] }) (initSt (some [122]) .old .old)
    = initSt (some [122]) .old .old := by decide +kernel
/-- dropped between `create_dir_all` and the rename (position n + 4 = 6): no temporary file -/
example : (dropAfter 6 (putObjectProg { frames := [.ok [97, 98], .ok [99]] }) (initSt (some [122]) .old .old)).tmp
    = false := by decide +kernel
/-- `create_dir_all` fails: no temporary file -/
example : (run (putObjectProg { frames := [.ok [97]], mkdirsFails := true }) (initSt none .absent .absent)).2.tmp
    = false := by decide +kernel
/-- two writers, a schedule in which both finish: the second rename wins -/
example : (runSched (initWorld none [[[1], [2]], [[3]]]) [0, 1, 0, 1, 0, 1, 0, 1, 0, 0]).dest = some [1, 2] := by
  decide +kernel

end S3V.C19
