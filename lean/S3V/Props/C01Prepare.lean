import S3V.Props.C01Compose
import S3V.Thm.Prepare
/-!
# C01 through the middle of `ops::prepare` (property theorems only)

`S3V/Props/C01.lean` is about the generated router on its own view `RReq`; `C01Compose.lean` puts C12's
path classification in front of it. This file is about what `ops::prepare` does *between* the two —
the model `S3V.Prepare.prepare` (S3V/Model/Prepare.lean, mirrored statement by statement):
query-string extraction, the signature check's result, the custom route, the POST-multipart branch,
the `events` refusal, the access check and the buffered-body check. The statements are written with `restOf` (the router's
view of a request apart from the path) and `routeClaims` (whether the custom route claims it), defined in
`S3V/Thm/Prepare.lean`.

Quantifiers: every method, every classified path, every raw query string (any bytes), every set of
discriminating headers, every result of the signature check (error, or credentials / transformed body /
multipart form in any combination — the check itself is C05/C06/C10/C11), every access hook, every
custom-route matcher, every identity type `I` and error type `E`. No bound on any length.

Outside: the signature check itself, `route.is_match` / the access hook as
code (they are parameters), the POST-object policy gate's own logic (C10; here its verdict per bucket),
`http`/`hyper` handing over method, query and headers as modelled, `atoi` of the Content-Length header.
-/
namespace S3V.C01
open S3V S3V.Net S3V.Host S3V.Path S3V.PathSpec S3V.Gen S3V.Route S3V.RouteSpec S3V.RouteCompose S3V.C12
open S3V.Prepare S3V.PostPolicyModel

/-! ## 1. the router's view of the query string -/

/-- `extract_qs` + the router's atoms: two raw query strings whose `form_urlencoded` decodings are the
    same (name, value) pairs up to order — any order of the parameters, any percent-spelling, `+` or
    `%20`, empty items — are indistinguishable for the router: `qs.has(name)` and `qs.get_unique(name)`
    (the only two ways `resolve_route` and the `events` test read the query) agree for every name, so the
    router's view `queryView` is the same function and `resolve_route` selects the same operation. -/
theorem C01_qs_view_spelling_independent (q₁ q₂ : Bytes)
    (h : (SigV4.formParse q₁).Perm (SigV4.formParse q₂)) :
    (∀ name, SigV4.qsHas (SigV4.orderedQs q₁) name = SigV4.qsHas (SigV4.orderedQs q₂) name ∧
             SigV4.getUnique (SigV4.orderedQs q₁) name = SigV4.getUnique (SigV4.orderedQs q₂) name) ∧
    queryView (extractQs (some q₁)) = queryView (extractQs (some q₂)) ∧
    (∀ method path hh, resolve (routerReq method path (extractQs (some q₁)) hh) =
                       resolve (routerReq method path (extractQs (some q₂)) hh)) := by
  have hv : queryView (extractQs (some q₁)) = queryView (extractQs (some q₂)) := by
    funext k
    exact presOf_perm h (keyBytes k)
  refine ⟨fun name => SigV4.lookups_perm h name, hv, fun method path hh => ?_⟩
  simp only [routerReq, hv]

/-- what the view is, from the decoded pairs alone: a name is `absent` when no decoded pair carries it,
    `once v` when exactly one does (with that pair's value), `many` otherwise — whatever the order -/
theorem C01_qs_view_of_decoded_pairs (q name : Bytes) :
    presOf (extractQs (some q)) name =
      match ((SigV4.formParse q).filter fun p => p.1 = name).map (·.2) with
      | [] => .absent
      | [v] => .once (valOf v)
      | _ => .many := by
  have hany : ((SigV4.formParse q).any fun p => decide (p.1 = name)) =
      ((SigV4.formParse q).filter fun p => p.1 = name).any fun _ => true := by
    rw [List.any_filter]
    simp only [Bool.and_true]
  simp only [extractQs, Option.map_some, SigV4.orderedQs, presOf, SigV4.qsHas_sortByFirst, SigV4.getUnique_sortByFirst, hany]
  cases ((SigV4.formParse q).filter fun p => p.1 = name) with
  | nil => rfl
  | cons a rest => cases rest <;> rfl

/-- a request without `?` is, for the router, a request with an empty query string -/
theorem C01_no_query_is_empty_query :
    queryView (extractQs none) = (fun _ => .absent) ∧ queryView (extractQs (some [])) = (fun _ => .absent) :=
  ⟨rfl, rfl⟩

/-- … and so is the whole of `prepare`: replacing the raw query string by another spelling / order of the
    same decoded pairs changes nothing in the result (the signature check's result being the same) -/
theorem C01_prepare_query_spelling_independent {I E : Type} (ctx : Ctx I E) (path : S3Path) (r : Request I E)
    (q₁ q₂ : Bytes) (h : (SigV4.formParse q₁).Perm (SigV4.formParse q₂)) :
    prepare ctx path { r with rawQuery := some q₁ } = prepare ctx path { r with rawQuery := some q₂ } := by
  obtain ⟨hl, hv, _⟩ := C01_qs_view_spelling_independent q₁ q₂ h
  have he : ∀ op, eventsHack op (extractQs (some q₁)) = eventsHack op (extractQs (some q₂)) := by
    intro op
    simp only [eventsHack, extractQs, Option.map_some]
    rw [(hl sEvents).1]
  exact prepare_congr_query ctx path r _ _ hv he

/-! ## 2. no form, no custom route: `prepare` resolves exactly `resolve_route` -/

/-- for a request whose signature check passed (`hsig`), that is not a POST form (`hform`: no multipart
    was parsed, or the method is not POST) and that no custom route claims (`hroute`): `unknown_operation`
    exactly when the generated router knows no operation, otherwise the router's operation and flag go
    through the three gates of `afterResolve` (the `events` refusal, the access check, the buffered-body
    check), which never exchange them (`C01_prepare_operation_is_the_routers`). -/
theorem C01_prepare_resolves_route {I E : Type} (ctx : Ctx I E) (path : S3Path) (r : Request I E)
    (s : SigResult I) (hsig : r.sig = .ok s) (hform : s.multipart = none ∨ r.method ≠ .POST)
    (hroute : routeClaims ctx r s = false) :
    (prepare ctx path r).outcome =
      match resolve (view (restOf r) path) with
      | none => .error (.code .notImplemented)
      | some (op, full) =>
        afterResolve ctx s.credentials path (extractQs r.rawQuery) (prepare ctx path r).contentLength r.body
          op full := by
  rw [prepare_not_routed ctx path r hsig hroute, resolveOp_router hform, viaRouter, routerReq_restOf]
  cases resolve (view (restOf r) path) with
  | none => rfl
  | some p => cases p; rfl

/-- under the same hypotheses, whatever operation `prepare` hands on is the one the router selected for
    `(method, path kind, query view, headers)`, with the router's body flag: all theorems of C01 about
    `resolve` (`C01_route_sound`, `C01_route_complete`, `C01_denotes_unique`) apply to it -/
theorem C01_prepare_operation_is_the_routers {I E : Type} (ctx : Ctx I E) (path : S3Path) (r : Request I E)
    (s : SigResult I) (hsig : r.sig = .ok s) (hform : s.multipart = none ∨ r.method ≠ .POST)
    (hroute : routeClaims ctx r s = false) (op : Op) (full : Bool)
    (h : (prepare ctx path r).outcome = .s3 op full) :
    resolve (view (restOf r) path) = some (op, full) ∧ WeaklyDenotes (smithySpec op) (view (restOf r) path) := by
  obtain ⟨s', hs', _, hres, _⟩ := prepare_s3 ctx path r h
  cases hsig.symm.trans hs'
  rw [resolveOp_router hform, viaRouter_ok, routerReq_restOf] at hres
  exact ⟨hres, C01_route_sound _ _ _ hres⟩

/-- the documented exception, exactly: the `events` refusal strikes iff the selected operation is
    `ListObjects` and some decoded query pair is named `events` (any value, any number of times) -/
theorem C01_events_refusal_iff (op : Op) (rawQuery : Option Bytes) :
    eventsHack op (extractQs rawQuery) = true ↔
      op = .ListObjects ∧ ∃ q, rawQuery = some q ∧ ∃ p ∈ SigV4.formParse q, p.1 = sEvents := by
  cases rawQuery with
  | none => simp [eventsHack, extractQs]
  | some q =>
    simp only [eventsHack, extractQs, Option.map_some, SigV4.orderedQs, SigV4.qsHas_sortByFirst, Bool.and_eq_true,
      decide_eq_true_eq, List.any_eq_true, Option.some.injEq, exists_eq_left']

/-- a request the router resolves to `ListObjects` that carries `events` is refused with `NotImplemented`
    before the access check; every other resolved request is handed on iff the access check and (for an
    operation with a buffered body) the body check pass -/
theorem C01_prepare_after_route {I E : Type} (ctx : Ctx I E) (path : S3Path) (r : Request I E)
    (s : SigResult I) (hsig : r.sig = .ok s) (hform : s.multipart = none ∨ r.method ≠ .POST)
    (hroute : routeClaims ctx r s = false) (op : Op) (full : Bool)
    (hres : resolve (view (restOf r) path) = some (op, full)) :
    (eventsHack op (extractQs r.rawQuery) = true →
        (prepare ctx path r).outcome = .error (.code .notImplemented)) ∧
    ((prepare ctx path r).outcome = .s3 op full ↔
        eventsHack op (extractQs r.rawQuery) = false ∧ accessCheck ctx s.credentials path op = .ok () ∧
        (full = true → extractFullBody (prepare ctx path r).contentLength r.body = .ok ())) := by
  rw [C01_prepare_resolves_route ctx path r s hsig hform hroute, hres]
  refine ⟨fun he => ?_, afterResolve_eq_s3_same⟩
  simp only [afterResolve, he, if_true]

/-- `C01_intended_operation_reached_in_both_styles` through `prepare`, for a request whose signature check
    passed, that is not a POST form and that no custom route claims: both forms leave `prepare` with the same
    result record; if the intended request denotes `op`, that result is `op` with the flag its decoder needs once
    the `events` refusal, the access check and the body check let it through — and never another operation; if
    it denotes no operation, it is `unknown_operation` (NotImplemented) in both forms. -/
theorem C01_intended_operation_reached_through_prepare {I E : Type} (cfg cfg' : HostCfg)
    (host' : Option Bytes) (d t b k e₁ e₂ : Bytes)
    (hc : ConfiguredDomain cfg d) (ht : toAsciiLower t = toAsciiLower d)
    (hs : headerToStrOk (b ++ dot :: t) = true)
    (hip : isSocketAddrOrIpAddr (b ++ dot :: t) = false) (hps : PathStyleChosen cfg' host')
    (hb : checkBucketName b = true) (hk : k.length ≤ 1024) (hu : utf8Valid k = true)
    (hsp₁ : Spelling e₁ (slash :: (b ++ slash :: k))) (hsp₂ : Spelling e₂ (slash :: k))
    (ctx : Ctx I E) (r : Request I E) (s : SigResult I) (hsig : r.sig = .ok s)
    (hform : s.multipart = none ∨ r.method ≠ .POST) (hroute : routeClaims ctx r s = false) :
    prepareAt cfg' host' e₁ ctx r = .ok (prepare ctx (target b k) r) ∧
    prepareAt cfg (some (b ++ dot :: t)) e₂ ctx r = .ok (prepare ctx (target b k) r) ∧
    (∀ op, Denotes (smithySpec op) (intended (restOf r) k) →
      (prepare ctx (target b k) r).outcome =
        afterResolve ctx s.credentials (target b k) (extractQs r.rawQuery)
          (prepare ctx (target b k) r).contentLength r.body op (usesBufferedBody op) ∧
      (∀ op' full', (prepare ctx (target b k) r).outcome = .s3 op' full' →
        op' = op ∧ full' = usesBufferedBody op) ∧
      (eventsHack op (extractQs r.rawQuery) = false →
        accessCheck ctx s.credentials (target b k) op = .ok () →
        (usesBufferedBody op = true →
          extractFullBody (prepare ctx (target b k) r).contentLength r.body = .ok ()) →
        (prepare ctx (target b k) r).outcome = .s3 op (usesBufferedBody op))) ∧
    ((∀ op, ¬ WeaklyDenotes (smithySpec op) (intended (restOf r) k)) →
      (prepare ctx (target b k) r).outcome = .error (.code .notImplemented)) := by
  have h1 : prepareAt cfg' host' e₁ ctx r = .ok (prepare ctx (target b k) r) := by
    simp only [prepareAt, classify_path_target hps hb hk hu hsp₁, Except.map]
  have h2 : prepareAt cfg (some (b ++ dot :: t)) e₂ ctx r = .ok (prepare ctx (target b k) r) := by
    simp only [prepareAt, classify_host_target (hostBucket_sub hc ht hs hip) hb hk hu hsp₂, Except.map]
  have hout := C01_prepare_resolves_route ctx (target b k) r s hsig hform hroute
  rw [view_target] at hout
  refine ⟨h1, h2, fun op hd => ?_, fun hn => ?_⟩
  · rw [C01_route_complete op _ hd] at hout
    refine ⟨hout, fun op' full' h' => ?_, fun he ha hb' => ?_⟩
    · rw [hout] at h'; exact afterResolve_s3_op h'
    · rw [hout]; exact afterResolve_eq_s3_same.mpr ⟨he, ha, hb'⟩
  · rw [C01_route_none _ hn] at hout; exact hout

/-! ## 3. the POST form -/

/-- a POST form (the signature check parsed a multipart body and the method is POST) addressed to a
    bucket, not claimed by a custom route: the policy gate decides. It reaches `PutObject` — with
    `needs_full_body = false`, through the access check — iff the gate passes; a refusing gate answers its
    own error code; no other operation is ever selected, whatever the query string and the headers say. -/
theorem C01_post_form_bucket {I E : Type} (ctx : Ctx I E) (b : Bytes) (r : Request I E) (s : SigResult I)
    (gate : Bytes → Gate) (hsig : r.sig = .ok s) (hmp : s.multipart = some gate) (hm : r.method = .POST)
    (hroute : routeClaims ctx r s = false) :
    ((prepare ctx (.bucket b) r).outcome = .s3 .PutObject false ↔
        gate b = .pass ∧ accessCheck ctx s.credentials (.bucket b) .PutObject = .ok ()) ∧
    (∀ op full, (prepare ctx (.bucket b) r).outcome = .s3 op full →
        op = .PutObject ∧ full = false ∧ gate b = .pass) ∧
    (gate b ≠ .pass → ∃ c, gateResult (gate b) = .error c ∧
        (prepare ctx (.bucket b) r).outcome = .error (.code c)) := by
  have hout := prepare_not_routed ctx (.bucket b) r hsig hroute
  simp only [hmp, resolveOp_form hm] at hout
  have hev : eventsHack .PutObject (extractQs r.rawQuery) = false := by simp [eventsHack]
  cases hg : gate b with
  | pass =>
    rw [hg] at hout
    simp only [gateResult] at hout
    refine ⟨?_, fun op full h => ?_, fun hne => absurd rfl hne⟩
    · rw [hout, afterResolve_eq_s3_same]
      simp [hev]
    · rw [hout] at h
      obtain ⟨h1, h2⟩ := afterResolve_s3_op h
      exact ⟨h1, h2, rfl⟩
  | invalidPolicyDocument | accessDenied | entityTooSmall | entityTooLarge =>
    rw [hg] at hout
    simp only [gateResult] at hout
    refine ⟨?_, fun op full h => ?_, fun _ => ⟨_, rfl, hout⟩⟩
    · rw [hout]; simp
    · rw [hout] at h; cases h

/-- a POST form addressed to an object is refused with `MethodNotAllowed`, one addressed to the root with
    `unknown_operation` (NotImplemented), whatever else the request carries (the `FIXME` of the code:
    `POST /bucket/key` forms are not served) -/
theorem C01_post_form_object_and_root {I E : Type} (ctx : Ctx I E) (r : Request I E) (s : SigResult I)
    (gate : Bytes → Gate) (hsig : r.sig = .ok s) (hmp : s.multipart = some gate) (hm : r.method = .POST)
    (hroute : routeClaims ctx r s = false) :
    (∀ b k, (prepare ctx (.object b k) r).outcome = .error (.code .methodNotAllowed)) ∧
    (prepare ctx .root r).outcome = .error (.code .notImplemented) := by
  refine ⟨fun b k => ?_, ?_⟩
  · rw [prepare_not_routed ctx _ r hsig hroute, hmp, resolveOp_form hm]
  · rw [prepare_not_routed ctx _ r hsig hroute, hmp, resolveOp_form hm]

/-- a parsed multipart form under any method other than POST does not enter the form branch: the request
    goes through the generated router like any other (instance of `C01_prepare_resolves_route`; in the code
    the signature check parses a form only for POST, so this case does not arise) -/
theorem C01_form_with_other_method_is_routed {I E : Type} (ctx : Ctx I E) (path : S3Path) (r : Request I E)
    (s : SigResult I) (hsig : r.sig = .ok s) (hm : r.method ≠ .POST) (hroute : routeClaims ctx r s = false) :
    (prepare ctx path r).outcome =
      match resolve (view (restOf r) path) with
      | none => .error (.code .notImplemented)
      | some (op, full) =>
        afterResolve ctx s.credentials path (extractQs r.rawQuery) (prepare ctx path r).contentLength r.body
          op full :=
  C01_prepare_resolves_route ctx path r s hsig (Or.inr hm) hroute

/-! ## 4. the custom route -/

/-- `prepare` answers `Prepare::CustomRoute` exactly when the signature check passed and the configured
    route's `is_match` claims the request: the route is consulted after the signature check (a request
    whose check fails gets that error, route or not) and before any routing — a claimed request pre-empts
    every S3 operation, whatever method, path, query, form or access hook. -/
theorem C01_custom_route_preempts {I E : Type} (ctx : Ctx I E) (path : S3Path) (r : Request I E) :
    ((prepare ctx path r).outcome = .customRoute ↔ ∃ s, r.sig = .ok s ∧ routeClaims ctx r s = true) ∧
    (∀ e, r.sig = .error e → (prepare ctx path r).outcome = .error (.sig e)) ∧
    (∀ s, r.sig = .ok s → routeClaims ctx r s = true →
      ∀ op full, (prepare ctx path r).outcome ≠ .s3 op full) := by
  refine ⟨prepare_customRoute_iff ctx path r, fun e he => ?_, fun s hs hr op full h => ?_⟩
  · rw [prepare_sig_error ctx path r he]
  · rw [prepare_routed ctx path r hs hr] at h; cases h

/-- without a configured route, or with one whose `is_match` declines, `prepare` never answers
    `CustomRoute` -/
theorem C01_no_custom_route {I E : Type} (ctx : Ctx I E) (path : S3Path) (r : Request I E)
    (h : ctx.route = none ∨ ∃ m, ctx.route = some m ∧ ∀ v, m v = false) :
    (prepare ctx path r).outcome ≠ .customRoute := by
  intro hc
  obtain ⟨s, _, hr⟩ := (C01_custom_route_preempts ctx path r).1.mp hc
  unfold routeClaims at hr
  rcases h with h | ⟨m, h, hm⟩
  · rw [h] at hr; cases hr
  · rw [h] at hr; simp only [hm] at hr; cases hr

/-! ## non-vacuity -/

/-- `prefix=a%2Fb&list-type=2` and `list-type=2&&prefix=a/b`: two spellings and orders of the same pairs -/
def exQuery₁ : Bytes := b!"prefix=a%2Fb&list-type=2"
def exQuery₂ : Bytes := b!"list-type=2&&prefix=a/b"

theorem exQuery_perm : (SigV4.formParse exQuery₁).Perm (SigV4.formParse exQuery₂) := by
  have h1 : SigV4.formParse exQuery₁ = [(b!"prefix", b!"a/b"), (b!"list-type", b!"2")] := by decide +kernel
  have h2 : SigV4.formParse exQuery₂ = [(b!"list-type", b!"2"), (b!"prefix", b!"a/b")] := by decide +kernel
  rw [h1, h2]
  exact List.Perm.swap _ _ _

example : queryView (extractQs (some exQuery₁)) = queryView (extractQs (some exQuery₂)) :=
  (C01_qs_view_spelling_independent _ _ exQuery_perm).2.1

/-- an anonymous plain `GET` without query, no provider, no hook, no route -/
def exCtx : Ctx Nat Unit := ⟨false, none, none⟩
def exGet : Request Nat Unit :=
  { method := .GET, rawQuery := none, h := fun _ => false, clHeader := none, contentLength := none,
    decodedContentLength := none, sig := .ok ⟨none, false, none⟩, body := .buffered }

example : restOf exGet = exPlainGet := rfl

/-- escape the letter `a` and every byte other than lower-case letters, digits, `.`, `-`, `/` -/
def exMask : UInt8 → Bool := fun c => c = 97 || !(isLowerAlnum c || c = 46 || c = 45 || c = 47)

/-- `GetObject` of key `a/ %é`, both styles, through `prepare` -/
example :
    prepareAt (.single exDomain) (some exIpHost)
        (pctEncode exMask (slash :: (exBucket ++ slash :: exKey))) exCtx exGet =
      .ok (prepare exCtx (target exBucket exKey) exGet) ∧
    prepareAt (.single exDomain) (some (exBucket ++ dot :: exDomainMixed)) (slash :: exRest) exCtx exGet =
      .ok (prepare exCtx (target exBucket exKey) exGet) ∧
    (prepare exCtx (target exBucket exKey) exGet).outcome = .s3 .GetObject false := by
  have h := C01_intended_operation_reached_through_prepare (.single exDomain) (.single exDomain)
    (some exIpHost) exDomain exDomainMixed exBucket exKey
    (pctEncode exMask (slash :: (exBucket ++ slash :: exKey))) (slash :: exRest) (Or.inl rfl)
    exDomainMixed_lower exMixedHost_str exMixedHost_not_ip exIpHost_pathStyle exBucket_ok (by decide +kernel)
    exKey_utf8 (C12_pctEncode_is_spelling exMask _) exSpelling_rest exCtx exGet ⟨none, false, none⟩ rfl
    (Or.inl rfl) rfl
  exact ⟨h.1, h.2.1, (h.2.2.1 .GetObject exPlainGet_denotes).2.2 rfl rfl (fun h => by cases h)⟩

/-- a POST form whose gate passes for the bucket `my.bucket-1` only, presented by signer `7`, behind a
    provider without hook -/
def exFormCtx : Ctx Nat Unit := ⟨true, none, none⟩
def exForm : Request Nat Unit :=
  { method := .POST, rawQuery := some b!"uploads", h := fun _ => false, clHeader := some b!"1234",
    contentLength := some 1234, decodedContentLength := none,
    sig := .ok ⟨some 7, false, some fun b => if b = exBucket then .pass else .accessDenied⟩,
    body := .buffered }

example : (prepare exFormCtx (.bucket exBucket) exForm).outcome = .s3 .PutObject false :=
  (C01_post_form_bucket exFormCtx exBucket exForm _ _ rfl rfl rfl rfl).1.mpr ⟨by decide +kernel, rfl⟩

example : (prepare exFormCtx (.bucket b!"other-bucket") exForm).outcome = .error (.code .accessDenied) := by
  obtain ⟨c, hc, h⟩ := (C01_post_form_bucket exFormCtx b!"other-bucket" exForm _ _ rfl rfl rfl rfl).2.2
    (by decide +kernel)
  have : c = .accessDenied := by
    have h' : gateResult .accessDenied = .error c := hc
    injection h' with h'; exact h'.symm
  rw [this] at h; exact h

/-- a route that claims every request -/
def exRouteCtx : Ctx Nat Unit := ⟨true, none, some fun _ => true⟩

example : (prepare exRouteCtx (.bucket exBucket) exForm).outcome = .customRoute :=
  (C01_custom_route_preempts exRouteCtx _ exForm).1.mpr ⟨_, rfl, rfl⟩

end S3V.C01

#print axioms S3V.C01.C01_qs_view_spelling_independent
#print axioms S3V.C01.C01_qs_view_of_decoded_pairs
#print axioms S3V.C01.C01_no_query_is_empty_query
#print axioms S3V.C01.C01_prepare_query_spelling_independent
#print axioms S3V.C01.C01_prepare_resolves_route
#print axioms S3V.C01.C01_prepare_operation_is_the_routers
#print axioms S3V.C01.C01_events_refusal_iff
#print axioms S3V.C01.C01_prepare_after_route
#print axioms S3V.C01.C01_intended_operation_reached_through_prepare
#print axioms S3V.C01.C01_post_form_bucket
#print axioms S3V.C01.C01_post_form_object_and_root
#print axioms S3V.C01.C01_form_with_other_method_is_routed
#print axioms S3V.C01.C01_custom_route_preempts
#print axioms S3V.C01.C01_no_custom_route
#print axioms S3V.C01.exQuery_perm
