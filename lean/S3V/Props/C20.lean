import S3V.Thm.Pattern
/-!
# C20 — wildcard matching follows its documented semantics

Quantifier: every pattern and every input over an arbitrary alphabet (`Sym = Nat`, so bytes and
Unicode scalar values alike), no length bound.
-/
namespace S3V.C20
open S3V S3V.Pattern S3V.PatternSpec

/-- the loop of `match_pattern` answers `true` exactly on the strings the documented semantics
    define (`*` any possibly empty sequence, `?` one symbol, anything else itself) -/
theorem C20_match_correct (p s : List Sym) : matchPattern p s = true ↔ Matches p s :=
  run_correct ⟨p, s, none⟩ _ (fun _ _ h => nomatch h)

/-- a pattern set matches iff one of its patterns does -/
theorem C20_set_any (ps : List (List Sym)) (s : List Sym) :
    isMatch ps s = true ↔ ∃ p ∈ ps, Matches p s := by
  simp [isMatch, List.any_eq_true, C20_match_correct]

/-- construction succeeds iff no pattern is empty, and then keeps the patterns as written -/
theorem C20_empty_refused (ps : List (List Sym)) :
    (patternSetNew ps = none ↔ [] ∈ ps) ∧ (∀ ps', patternSetNew ps = some ps' → ps' = ps) := by
  rw [patternSetNew_eq]
  by_cases h : [] ∈ ps
  · simp [h]
  · simp [h, eq_comm]

/-- the executable reference used by the correspondence check to judge the implementation is
    itself the documented semantics -/
theorem C20_reference_is_spec (p s : List Sym) : specMatch p s = true ↔ Matches p s :=
  specMatch_iff p s

/-- hence model and reference agree on every input (what `AGREE` lines sample) -/
theorem C20_model_eq_reference (p s : List Sym) : matchPattern p s = specMatch p s :=
  Bool.eq_iff_iff.mpr ((C20_match_correct p s).trans (C20_reference_is_spec p s).symm)

/-! non-vacuity: concrete patterns on both sides of the iff -/
example : Matches [97, star, 99] [97, 98, 98, 99] :=
  .lit (by decide) (.starTake (.starTake (.starSkip (.lit (by decide) .nil))))
example : matchPattern [97, star, 99, qm, 98] [97, 99, 100, 99, 98] = false := by
  rw [C20_model_eq_reference]; simp [specMatch, star, qm]
example : patternSetNew [[97], []] = none := by decide

end S3V.C20
