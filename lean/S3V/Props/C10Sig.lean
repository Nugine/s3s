import S3V.Thm.SigV4Verdict
import S3V.Spec.PostPolicy
/-!
# C10 (signature clause) — a POST form is accepted only if its policy is signed (property theorems only)

The clause "only while the upload satisfies that policy" is `S3V/Props/C10Policy.lean` (the signature check alone does
not enforce it, `S3V/Findings/C10.lean`; the POST-object gate of `ops::prepare` does since commit 64704af). Field mapping
and exact content are in `S3V/Props/C10.lean`.
-/
namespace S3V.C10
open S3V S3V.SigV4

/-- the verdict logic of `v4_check_post_signature`, exactly, for an arbitrary MAC (the SIGNATURE clause of C10; the
    policy-compliance clause is `C10_post_policy_enforced` in `S3V/Props/C10Policy.lean`): the form is accepted as
    (access key, region, service) iff the five signature fields are present (the last duplicate of a name counts),
    the policy is base64, the algorithm is AWS4-HMAC-SHA256, credential and date parse, the key is known and the
    `x-amz-signature` field is the specified signature of the base64 policy text under that key's secret and the
    scope (day of `x-amz-date`, region, service) -/
theorem C10_post_accept_iff (hmac : Bytes → Bytes → Bytes) (look : Bytes → Option Bytes)
    (fields : List (Bytes × Bytes)) (ak region service : Bytes) :
    v4CheckPostSignature hmac (some look) fields = .accept ak region service ↔
      ∃ policy sig c d secret, PostChecks look fields policy sig c d secret ∧
        c.accessKey = ak ∧ c.region = region ∧ c.service = service ∧
        sig = SigV4Spec.postSignature hmac secret ⟨d.fmtDate, region, service⟩ policy := by
  simp only [post_accept_iff_provider, Option.some.injEq, exists_eq_left']

/-- accepted ⇒ the policy the form carries is signed with the provider's secret for the named access key -/
theorem C10_post_accept_implies_policy_signed (hmac : Bytes → Bytes → Bytes) (look : Bytes → Option Bytes)
    (fields : List (Bytes × Bytes)) (ak region service : Bytes)
    (h : v4CheckPostSignature hmac (some look) fields = .accept ak region service) :
    ∃ (policy sig : Bytes) (d : AmzDate) (secret : Bytes), findFieldValue fields b!"policy" = some policy ∧
      findFieldValue fields b!"x-amz-signature" = some sig ∧ look ak = some secret ∧
      sig = SigV4Spec.postSignature hmac secret ⟨d.fmtDate, region, service⟩ policy := by
  obtain ⟨policy, sig, c, d, secret, hc, h1, _, _, hs⟩ := (C10_post_accept_iff hmac look fields ak region service).mp h
  exact ⟨policy, sig, d, secret, hc.hasPolicy, hc.hasSignature, h1 ▸ hc.knownKey, hs⟩

/-- the scope under which the policy is signed is the scope of `x-amz-credential`: the code refuses a form whose
    credential names another day than `x-amz-date` (4011296) -/
theorem C10_post_scope_is_credential_scope (hmac : Bytes → Bytes → Bytes) (look : Bytes → Option Bytes)
    (fields : List (Bytes × Bytes)) (ak region service : Bytes)
    (h : v4CheckPostSignature hmac (some look) fields = .accept ak region service) :
    ∃ policy sig c d secret, PostChecks look fields policy sig c d secret ∧ c.date = d.fmtDate ∧
      sig = SigV4Spec.postSignature hmac secret ⟨c.date, region, service⟩ policy := by
  obtain ⟨policy, sig, c, d, secret, hc, _, _, _, hs⟩ := (C10_post_accept_iff hmac look fields ak region service).mp h
  exact ⟨policy, sig, c, d, secret, hc, hc.scopeDate, by rw [hc.scopeDate]; exact hs⟩

/-- without an authentication provider nothing is accepted -/
theorem C10_post_no_provider (hmac : Bytes → Bytes → Bytes) (fields : List (Bytes × Bytes)) :
    v4CheckPostSignature hmac none fields = .err .NotImplemented := rfl

/-! examples for the policy clause (`S3V/Props/C10Policy.lean`, enforced since 64704af): a compliant form passes `formCompliant`,
    each variant meets its defect -/

/-- base64 of `{''expiration'':''2099-01-01T00:00:00.000Z'',''conditions'':[{''bucket'':''bkt''},[''starts-with'',''$key'',''up/''],[''eq'',''$Content-Type'',''text/plain''],{''x-amz-meta-note'':''n''},{''x-amz-algorithm'':''AWS4-HMAC-SHA256''},{''x-amz-credential'':''AK/20130524/r/s3/aws4_request''},{''X-Amz-Date'':''20130524T000000Z''},[''content-length-range'',1,10]]}` -/
def examplePolicyB64 : Bytes := b!"eyJleHBpcmF0aW9uIjoiMjA5OS0wMS0wMVQwMDowMDowMC4wMDBaIiwiY29uZGl0aW9ucyI6W3siYnVja2V0IjoiYmt0In0sWyJzdGFydHMtd2l0aCIsIiRrZXkiLCJ1cC8iXSxbImVxIiwiJENvbnRlbnQtVHlwZSIsInRleHQvcGxhaW4iXSx7IngtYW16LW1ldGEtbm90ZSI6Im4ifSx7IngtYW16LWFsZ29yaXRobSI6IkFXUzQtSE1BQy1TSEEyNTYifSx7IngtYW16LWNyZWRlbnRpYWwiOiJBSy8yMDEzMDUyNC9yL3MzL2F3czRfcmVxdWVzdCJ9LHsiWC1BbXotRGF0ZSI6IjIwMTMwNTI0VDAwMDAwMFoifSxbImNvbnRlbnQtbGVuZ3RoLXJhbmdlIiwxLDEwXV19"

def exampleFields : List (Bytes × Bytes) :=
  [(b!"key", b!"up/a.txt"), (b!"Content-Type", b!"text/plain"), (b!"x-amz-meta-note", b!"n"),
   (b!"X-Amz-Algorithm", b!"AWS4-HMAC-SHA256"), (b!"x-amz-credential", b!"AK/20130524/r/s3/aws4_request"), (b!"x-amz-date", b!"20130524T000000Z"),
   (b!"x-ignore-me", b!"whatever"), (b!"Policy", b!"eyJleHBpcmF0aW9uIjoiMjA5OS0wMS0wMVQwMDowMDowMC4wMDBaIiwiY29uZGl0aW9ucyI6W3siYnVja2V0IjoiYmt0In0sWyJzdGFydHMtd2l0aCIsIiRrZXkiLCJ1cC8iXSxbImVxIiwiJENvbnRlbnQtVHlwZSIsInRleHQvcGxhaW4iXSx7IngtYW16LW1ldGEtbm90ZSI6Im4ifSx7IngtYW16LWFsZ29yaXRobSI6IkFXUzQtSE1BQy1TSEEyNTYifSx7IngtYW16LWNyZWRlbnRpYWwiOiJBSy8yMDEzMDUyNC9yL3MzL2F3czRfcmVxdWVzdCJ9LHsiWC1BbXotRGF0ZSI6IjIwMTMwNTI0VDAwMDAwMFoifSxbImNvbnRlbnQtbGVuZ3RoLXJhbmdlIiwxLDEwXV19"), (b!"x-amz-signature", b!"")]

/-- 2013-05-24T00:00:00Z -/
def exampleNow : Int := 1369353600

theorem C10_policy_compliant_examples :
    -- the compliant form (file of 5 bytes, posted to bucket `bkt`)
    PostPolicy.formCompliant exampleNow examplePolicyB64 exampleFields b!"bkt" 5 = true ∧
    -- after the expiration instant (2099-01-01T00:00:00Z = 4070908800)
    PostPolicy.formDefect 4070908801 examplePolicyB64 exampleFields b!"bkt" 5 = some .expired ∧
    -- another bucket
    PostPolicy.formDefect exampleNow examplePolicyB64 exampleFields b!"other" 5 = some .exactViolated ∧
    -- a key outside the prefix
    PostPolicy.formDefect exampleNow examplePolicyB64 ((b!"KEY", b!"elsewhere/a") :: exampleFields) b!"bkt" 5 =
      some .startsWithViolated ∧
    -- file too long / empty
    PostPolicy.formDefect exampleNow examplePolicyB64 exampleFields b!"bkt" 11 = some .lengthRange ∧
    PostPolicy.formDefect exampleNow examplePolicyB64 exampleFields b!"bkt" 0 = some .lengthRange ∧
    -- a field no condition covers
    PostPolicy.formDefect exampleNow examplePolicyB64 ((b!"acl", b!"public-read") :: exampleFields) b!"bkt" 5 =
      some .fieldUncovered ∧
    -- a text that is no policy
    PostPolicy.formDefect exampleNow b!"bm90IGpzb24=" exampleFields b!"bkt" 5 = some .malformed := by
  decide +kernel

end S3V.C10
