import S3V.Gen.Emit
import S3V.Thm.Secrets
import S3V.Spec.Secrets
/-!
# C16 — secret access keys never appear in any output

Two kinds of statement, labelled on each theorem:

* **[table]** — SYNTACTIC obligations over `S3V/Gen/Emit.lean`, which `translate/emit_sites.py` regenerates
  from the Rust sources on every run (all logging / printing / error-message / formatting / `#[instrument]`
  sites, all `.expose()` calls with their data flow, the impls of `SecretKey`, every type that contains one).  They are decided by
  kernel evaluation on the regenerated tables; an edit that adds a site, an `.expose()`, an impl, a derive
  re-opens them.
* **[model]** — SEMANTIC theorems about the rendering and emission model of `S3V/Model/Secrets.lean`, for
  all secrets (no bound), with crypto as a parameter.  `C16_secret_render_constant` is about the `Debug` /
  `Serialize` bodies the translator extracted, so it is re-proved against the source text on every run.

What neither covers is named in `bin/registry.d/C16.json`: what `tracing` and a derived `Debug` do at run time is
observed by the capture harness (`h_secrets`), not proved.
-/
namespace S3V.C16
open S3V S3V.Secrets S3V.SecretsSpec S3V.Gen.Emit

/-! ## rendering of `SecretKey` -/

/-- **[model, on the extracted bodies]** for every secret `s`, `{:?}` of `SecretKey(s)` is the constant
    `SecretKey("<placeholder>")`, its serde rendering in a human-readable format (JSON) is the constant
    `"<placeholder>"`, and its rendering in a format that is not human readable (strings as length-prefixed
    bytes) is the constant length-prefixed `<placeholder>` — where `<placeholder>` is the literal of
    `const PLACEHOLDER` in `auth/secret_key.rs` -/
theorem C16_secret_render_constant (s : Bytes) :
    renderDebug secretKeyDebug s
      = [83, 101, 99, 114, 101, 116, 75, 101, 121, 40] ++ debugStr placeholder ++ [41]   -- SecretKey( … )
    ∧ secretKeySerialize.map (fun b => renderSerializeJson b s) = some (jsonStr placeholder)
    ∧ secretKeySerialize.map (fun b => renderSerializeBinary b s) = some (lenPrefixed placeholder) :=
  -- the extracted bodies have only `.const` arguments (no `self.0`), so each side evaluates without looking at `s`
  ⟨rfl, rfl, rfl⟩

/-- **[model]** hence all three renderings are constant functions of the secret -/
theorem C16_secret_render_independent :
    Constant (renderDebug secretKeyDebug)
    ∧ ∀ b, secretKeySerialize = some b → Constant (renderSerializeJson b) ∧ Constant (renderSerializeBinary b) := by
  refine ⟨fun s₁ s₂ => ?_, fun b hb => ?_⟩
  · rw [(C16_secret_render_constant s₁).1, (C16_secret_render_constant s₂).1]
  · cases hb
    have hj := fun s => Option.some.inj (C16_secret_render_constant s).2.1
    have hbin := fun s => Option.some.inj (C16_secret_render_constant s).2.2
    exact ⟨fun s₁ s₂ => (hj s₁).trans (hj s₂).symm, fun s₁ s₂ => (hbin s₁).trans (hbin s₂).symm⟩

/-- **[model]** a derived `Debug` of any value built from strings, options, structs and secrets (the
    shape of `Credentials`, `Option<Credentials>`, `S3Request.credentials`, `SignatureCtx`) does not depend
    on the secrets inside it: two values that differ only in their secrets print the same text -/
theorem C16_holder_debug_ignores_secrets (v w : Val) (h : eraseVal v = eraseVal w) :
    debugVal secretKeyDebug v = debugVal secretKeyDebug w :=
  debugVal_erase secretKeyDebug C16_secret_render_independent.1 v w h

/-- instance: the `Credentials` the backend sees print the same whatever the secret -/
theorem C16_credentials_debug_constant (ak s₁ s₂ : Bytes) :
    debugVal secretKeyDebug (credentialsVal ak s₁) = debugVal secretKeyDebug (credentialsVal ak s₂) :=
  C16_holder_debug_ignores_secrets _ _ rfl

/-- **[model vs spec]** the renderings do not *disclose* the secret in the sense of the specification
    (`SecretsSpec.Leaks`: the secret raw, `AWS4`-prefixed, hex or base64, as a contiguous block), for every
    secret longer than the rendering itself (35 bytes; access keys' secrets have 40) and any encoders that do
    not shrink their input.  (A short "secret" such as `KEY` trivially occurs in the placeholder text; the
    property is about high-entropy keys.) -/
theorem C16_renderings_do_not_disclose (hex b64 : Bytes → Bytes)
    (hhex : ∀ b, b.length ≤ (hex b).length) (hb64 : ∀ b, b.length ≤ (b64 b).length)
    (s : Bytes) (hs : 35 < s.length) :
    ¬ Leaks hex b64 s (renderDebug secretKeyDebug s)
    ∧ ∀ b, secretKeySerialize = some b →
        ¬ Leaks hex b64 s (renderSerializeJson b s) ∧ ¬ Leaks hex b64 s (renderSerializeBinary b s) := by
  -- the three constant renderings are 35, 24 and 26 bytes long
  have hd : (renderDebug secretKeyDebug s).length = 35 := by
    rw [(C16_secret_render_constant s).1]; rfl
  refine ⟨not_leaks_of_short hhex hb64 (hd ▸ hs), fun b hb => ?_⟩
  cases hb
  have hj : (renderSerializeJson _ s).length = 24 :=
    congrArg List.length (Option.some.inj (C16_secret_render_constant s).2.1)
  have hbin : (renderSerializeBinary _ s).length = 26 :=
    congrArg List.length (Option.some.inj (C16_secret_render_constant s).2.2)
  exact ⟨not_leaks_of_short hhex hb64 (by omega), not_leaks_of_short hhex hb64 (by omega)⟩

/-! ## the site tables -/

/-- **[table]** no logging (`trace!`…`error!`), printing (`println!`…), error-message (`s3_error!`,
    `invalid_request!`, `try_!`, …), formatting (`format!`, `write!`, `panic!`, …) or `#[instrument]` site of the
    three crates captures an expression that calls `.expose()`, mentions a name derived from an exposed secret in
    its function, or mentions a `secret…`-named identifier that is not a parameter of a redacting type -/
theorem C16_taint_sites_clean : ∀ site ∈ logSites, siteClean taintEnv site = true := by
  decide +kernel

/-- the two functions allowed to read the secret -/
def signatureFns : List (Src × Option Id) :=
  [(.f_s3s_src_sig_v4_methods_rs, some .i_calculate_signature),
   (.f_s3s_src_sig_v2_methods_rs, some .i_calculate_signature)]

/-- **[table]** `.expose()` is called only inside `sig_v4::calculate_signature` and
    `sig_v2::calculate_signature` (free functions of `sig_v4/methods.rs`, `sig_v2/methods.rs`) -/
theorem C16_expose_only_in_signature_fns :
    ∀ c ∈ exposeSites, (c.file, c.fn) ∈ signatureFns ∧ c.owner = none := by
  decide +kernel

/-- callees that may handle data derived from the exposed secret: the MAC, the buffer it is staged in,
    wiping, and the encoders of the MAC output -/
def allowedCallees : List Id :=
  [.i_expose, .i_hmac_sha256, .i_hmac_sha1, .i_hex, .i_base64,
   .i_with_capacity, .i_len, .i_saturating_add, .i_extend_from_slice, .i_as_bytes, .i_as_slice,
   .i_zeroize, .i_drop]

/-- **[table]** inside those two functions, data derived from the secret is handed only to the MAC, to the
    staging buffer's methods, to `zeroize`/`drop` and to `hex`/`base64` of the MAC output — in particular to no
    formatting or logging macro -/
theorem C16_taint_flows_only_into_mac :
    ∀ c ∈ exposeSites, ∀ f ∈ c.callees, f ∈ allowedCallees := by
  decide +kernel

/-- **[table]** the crate-local helpers that receive key material (`utils/crypto.rs`: `hmac_sha256`,
    `hmac_sha1`, `hex`; `sig_v2/methods.rs`: `base64`) and the two signature functions contain no logging site -/
theorem C16_mac_helpers_do_not_log :
    ∀ site ∈ logSites,
      site.file ≠ .f_s3s_src_utils_crypto_rs
      ∧ ¬ (site.file = .f_s3s_src_sig_v2_methods_rs ∧ site.fn ∈ [some .i_base64, some .i_calculate_signature])
      ∧ ¬ (site.file = .f_s3s_src_sig_v4_methods_rs ∧ site.fn = some .i_calculate_signature) := by
  decide +kernel

/-- traits through which a `SecretKey` could hand out or print its string -/
def leakingTraits : List Id :=
  [.i_Display, .i_Deref, .i_DerefMut, .i_AsRef, .i_AsMut, .i_Borrow, .i_ToString, .i_Into, .i_ToOwned,
   .i_LowerHex, .i_UpperHex]

/-- **[table]** `SecretKey` has no `Display`/`Deref`/`AsRef`/`Borrow`/… impl, its `Debug` and `Serialize` are
    hand-written (not derived), and `expose` is its only inherent method that reads the inner string — so the
    `.expose()` inventory is the complete list of reads -/
theorem C16_secret_key_has_no_other_accessor :
    (∀ i ∈ secretKeyImpls, i.trait ∉ leakingTraits)
    ∧ (∀ i ∈ secretKeyImpls, i.trait ∈ [Id.i_Debug, .i_Serialize] → i.derived = false)
    ∧ (∀ m ∈ secretKeyMethods, m.touchesInner = true → m.name = .i_expose) := by
  decide +kernel

/-- **[table]** every type that contains a `SecretKey` gets `Debug` only by `derive` (which delegates to
    `SecretKey`'s redacting impl, `C16_holder_debug_ignores_secrets`), by an impl that prints no field, or not
    at all; none has `Display`; none has a hand-written `Serialize` -/
theorem C16_holders_render_by_delegation :
    ∀ h ∈ holders, h.debug ∈ [How.absent, .derive, .manualOpaque] ∧ h.display = .absent
      ∧ h.serialize ∈ [How.absent, .derive] := by
  decide +kernel

/-- **[table]** a struct that keeps the key as a plain string (today: the CLI options of the `s3s-fs`
    binary) is never rendered as a whole by a site of its file -/
theorem C16_raw_secret_holders_not_logged :
    ∀ r ∈ rawSecretFields,
      rawHolderNotLogged logSites [.i_clone, .i_to_owned, .i_as_ref, .i_borrow, .i_deref] r = true := by
  decide +kernel

/-! ## emission model of the signature check

`check c body v lookup r` carries a variant switch `v` (`logsComputedSig`): `true` is the code as it stands — on a
mismatch it records, at DEBUG, the MAC it computed — `false` the repaired form that records only what the client
sent.  The statements are proved for both settings; the driver detects which one the implementation exhibits. -/

/-- the full statement of the design: what is emitted depends on the secret table only through the verdict.
    For `v = true` (the code as it stands) it is FALSE of the model:
    `S3V.Findings.C16.C16_counterexample_mismatch_log`. -/
def C16_noninterference_full (v : Bool) : Prop :=
  ∀ (c : Crypto) (l₁ l₂ : Bytes → Option Bytes) (r : AuthReq),
    (check c secretKeyDebug v l₁ r).1 = (check c secretKeyDebug v l₂ r).1 →
    (check c secretKeyDebug v l₁ r).2 = (check c secretKeyDebug v l₂ r).2

/-- **[model]** the full statement holds for the repaired variant -/
theorem C16_noninterference_repaired : C16_noninterference_full false :=
  fun c l₁ l₂ r hv =>
    check_emitted_congr id c _ C16_secret_render_independent.1 false l₁ l₂ r (fun _ _ _ => rfl) hv

/-- **[model]** non-interference outside the one excluded field (`isComputedSigField`: field `signature`
    of the DEBUG record `signature mismatch`, which holds the MAC the server computed), for both variants: for
    every MAC, every two secret tables and every request, equal verdicts give equal emissions — log records,
    error code and message of the response, `Debug` rendering of the credentials handed on -/
theorem C16_noninterference_partial (v : Bool) (c : Crypto) (l₁ l₂ : Bytes → Option Bytes) (r : AuthReq)
    (hv : (check c secretKeyDebug v l₁ r).1 = (check c secretKeyDebug v l₂ r).1) :
    (check c secretKeyDebug v l₁ r).2.map maskEmission = (check c secretKeyDebug v l₂ r).2.map maskEmission := by
  -- the two mismatch records differ in the one field that is blanked
  refine check_emitted_congr (List.map maskEmission) c _ C16_secret_render_independent.1 v l₁ l₂ r (fun pre a b => ?_) hv
  cases v <;> simp [mismatchRecords, maskEmission, isComputedSigField, mismatchFields]

/-- **[model]** full non-interference (nothing masked), for both variants, for everything except DEBUG/TRACE
    records: the response (error code, message), the credentials' `Debug` rendering and every record at INFO or
    above (the ERROR event of `#[instrument(err)]` on `prepare` included) -/
theorem C16_noninterference_above_debug (v : Bool) (c : Crypto) (l₁ l₂ : Bytes → Option Bytes) (r : AuthReq)
    (hv : (check c secretKeyDebug v l₁ r).1 = (check c secretKeyDebug v l₂ r).1) :
    (check c secretKeyDebug v l₁ r).2.filter aboveDebug = (check c secretKeyDebug v l₂ r).2.filter aboveDebug := by
  -- the mismatch record is a DEBUG record
  refine check_emitted_congr (List.filter aboveDebug) c _ C16_secret_render_independent.1 v l₁ l₂ r (fun pre a b => ?_) hv
  simp [mismatchRecords, List.filter, aboveDebug]

/-- **[model]** the secret enters the emissions only through the MAC: there is one function `g`, fixed
    before crypto, table and request are chosen, such that everything emitted is `g` of the request and of the
    signature computed for it (`computeSig` = the HMAC chain of `calculate_signature`) -/
theorem C16_emissions_factor_through_mac (v : Bool) :
    ∃ g : AuthReq → Option Bytes → List Emission,
      ∀ (c : Crypto) (l : Bytes → Option Bytes) (r : AuthReq),
        (check c secretKeyDebug v l r).2 = g r ((l r.accessKey).map fun s => computeSig c s r) :=
  ⟨emittedFromSig secretKeyDebug v, fun c l r =>
    congrArg Prod.snd (check_eq c secretKeyDebug C16_secret_render_independent.1 v l r)⟩

/-! non-vacuity -/

/-- the tables are not empty, and the taint checker does reject: a site of `calculate_signature` that
    captured `signing_key` would not be clean -/
example : logSites.length > 50 ∧ exposeSites.length = 2 ∧ holders.length ≥ 5 := by decide +kernel
example : siteClean taintEnv
    { file := .f_s3s_src_sig_v4_methods_rs, line := 0, fn := some .i_calculate_signature, owner := none,
      kind := .debug, inTest := false,
      captures := [{ sigil := .dbg, idents := [.i_signing_key] }] } = false := by decide +kernel
example : siteClean taintEnv
    { file := .f_s3s_src_ops_signature_rs, line := 0, fn := some .i_check, owner := none,
      kind := .debug, inTest := false,
      captures := [{ sigil := .disp, idents := [.i_secret_key, .i_expose] }] } = false := by decide +kernel
/-- a `Serialize` body that redacts only for human-readable formats is recognised and is NOT constant -/
example : renderSerializeBinary (.strIf (.const [88]) .inner) [97] ≠ renderSerializeBinary (.strIf (.const [88]) .inner) [98] := by
  decide
/-- a `Debug` body that printed the inner string would not be constant -/
example : renderDebug (.tuple [83] [.inner]) [97] ≠ renderDebug (.tuple [83] [.inner]) [98] := by decide
/-- both verdicts occur in the emission model (accepted when the client's signature is the MAC, rejected otherwise) -/
example (c : Crypto) (l : Bytes → Option Bytes) (r : AuthReq) (s : Bytes) (hp : r.pre = none)
    (hl : l r.accessKey = some s) (hs : r.provided = computeSig c s r) :
    (check c secretKeyDebug true l r).1 = .accept r.accessKey := by
  simp [check, hp, hl, hs]
/-- `C16_renderings_do_not_disclose` applies to 40-byte secrets and to encoders that do not shrink -/
example : 35 < (List.replicate 40 (65 : UInt8)).length ∧ (∀ b : Bytes, b.length ≤ (b ++ b).length) := by
  constructor
  · decide
  · intro b; simp

end S3V.C16
