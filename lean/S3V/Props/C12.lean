import S3V.Thm.Path
import S3V.Thm.PathBucket
import S3V.Thm.PathHost
import S3V.Thm.PathKey
import S3V.Thm.PathClassify
/-!
# C12 — both addressing styles resolve to the same bucket/key; keys arrive verbatim

Quantifier: all byte strings (bucket names, keys, paths, hosts, domains) and all host
configurations; no bound on any length. The models are `S3V.Path` (`path.rs`, `urlencoding::decode`,
the first block of `ops::prepare`), `S3V.Host` (`host.rs`), `S3V.Net` (`core::net::parser`); the
specification is `S3V.PathSpec`.

Vocabulary of the statements: `Outside`, `HostName`, `DecimalPort`, `Overlap` / `OverlapCI` (defined in `S3V/Thm/PathHost.lean`),
`PathStyleChosen`, `ConfiguredDomain`, `pathStyleOutcome`, `BaseDomain` (in `S3V/Thm/PathClassify.lean`; `BaseDomain` is
`S3V.C12.BaseDomain`).
-/
namespace S3V.C12
open S3V S3V.Net S3V.Host S3V.Path S3V.PathSpec

/-! ## both styles resolve alike -/

/-- path-style `/b/k` and virtual-hosted-style (`b` from the host, path `/k`) give the same
    result — the same `S3Path` or the same error — for all byte strings `b` without a slash and
    all `k` (including `k = ""`, the form `/b/`) -/
theorem C12_style_equiv (b k : Bytes) (h : slash ∉ b) :
    parsePathStyle (slash :: (b ++ slash :: k)) = parseVirtualHostedStyle (some b) (slash :: k) :=
  style_equiv b k h

/-- the bucket-only form `/b` against virtual-hosted-style `/` (for `b = ""` there is no bucket
    in the path-style form: `/` is the root) -/
theorem C12_style_equiv_bucket (b : Bytes) (h : slash ∉ b) (hne : b ≠ []) :
    parsePathStyle (slash :: b) = parseVirtualHostedStyle (some b) [slash] :=
  style_equiv_bucket b h hne

/-- end to end at the glue of `prepare`: the virtual-hosted-style request (host `b.t`, `t` being
    a configured base domain `d` written in any ASCII case, path `/e`) and the path-style request
    (`/b/e`, handled path-style) have the same outcome — same bucket and key or same error — for
    *every* raw path rest `e` (well-formed escapes or not) and every ASCII label `b` without `%`
    and `/` -/
theorem C12_classify_style_equiv (cfg cfg' : HostCfg) (host' : Option Bytes) (d t b e : Bytes)
    (hc : ConfiguredDomain cfg d) (ht : toAsciiLower t = toAsciiLower d)
    (hs : headerToStrOk (b ++ dot :: t) = true)
    (hip : isSocketAddrOrIpAddr (b ++ dot :: t) = false) (hps : PathStyleChosen cfg' host')
    (hb1 : ∀ c ∈ b, c.toNat < 128) (hb2 : pct ∉ b) (hb3 : slash ∉ b) :
    classify cfg (some (b ++ dot :: t)) (slash :: e) =
      classify cfg' host' (slash :: (b ++ slash :: e)) :=
  classify_style_equiv (hostBucket_sub hc ht hs hip) (hostBucket_pathStyle hps) hb1 hb2 hb3 e

/-! ## keys arrive verbatim, decoded exactly once -/

/-- path-style: for a valid bucket `b`, a UTF-8 key `k` of 1..1024 bytes and *every*
    percent-spelling `e` of the path `/b/k` (any byte may be written `%XY` in either hex case,
    `%` itself always is), the glue of `prepare` resolves to `Object b k` — whenever the request is
    handled path-style (no `Host`, or no host parser, or an IP / socket-address host) -/
theorem C12_key_verbatim (cfg : HostCfg) (host : Option Bytes) (b k e : Bytes)
    (hps : PathStyleChosen cfg host) (hb : checkBucketName b = true)
    (hk0 : 0 < k.length) (hk : k.length ≤ 1024) (hu : utf8Valid k = true)
    (hsp : Spelling e (slash :: (b ++ slash :: k))) :
    classify cfg host e = .ok (.object b k) := by
  rw [classify_path_target hps hb hk hu hsp, target_of_pos hk0]

/-- virtual-hosted-style: host `b.t` where `t` is a configured base domain `d` (the single domain,
    or a member of an accepted list) written in any ASCII case, the host not being an IP / socket
    address; every percent-spelling `e` of `/k` resolves to `Object b k` -/
theorem C12_key_verbatim_vhost (cfg : HostCfg) (d t b k e : Bytes) (hc : ConfiguredDomain cfg d)
    (ht : toAsciiLower t = toAsciiLower d)
    (hs : headerToStrOk (b ++ dot :: t) = true) (hip : isSocketAddrOrIpAddr (b ++ dot :: t) = false)
    (hb : checkBucketName b = true) (hk0 : 0 < k.length) (hk : k.length ≤ 1024)
    (hu : utf8Valid k = true) (hsp : Spelling e (slash :: k)) :
    classify cfg (some (b ++ dot :: t)) e = .ok (.object b k) := by
  rw [classify_host_target (hostBucket_sub hc ht hs hip) hb hk hu hsp, target_of_pos hk0]

/-- keys longer than 1024 bytes are refused, path-style … -/
theorem C12_key_too_long (cfg : HostCfg) (host : Option Bytes) (b k e : Bytes)
    (hps : PathStyleChosen cfg host) (hb : checkBucketName b = true)
    (hk : 1024 < k.length) (hu : utf8Valid k = true)
    (hsp : Spelling e (slash :: (b ++ slash :: k))) :
    classify cfg host e = .error .keyTooLongError := by
  rw [classify_path_result hps hb hu hsp, if_neg (Nat.not_le.mpr hk)]

/-- … and virtual-hosted-style -/
theorem C12_key_too_long_vhost (cfg : HostCfg) (d t b k e : Bytes) (hc : ConfiguredDomain cfg d)
    (ht : toAsciiLower t = toAsciiLower d)
    (hs : headerToStrOk (b ++ dot :: t) = true) (hip : isSocketAddrOrIpAddr (b ++ dot :: t) = false)
    (hb : checkBucketName b = true) (hk : 1024 < k.length)
    (hu : utf8Valid k = true) (hsp : Spelling e (slash :: k)) :
    classify cfg (some (b ++ dot :: t)) e = .error .keyTooLongError := by
  rw [classify_host_result (hostBucket_sub hc ht hs hip) hb hu hsp, if_neg (Nat.not_le.mpr hk)]

/-- percent-decoding a spelling gives the text back: exactly once (`%2541` is `%41`, not `A`) -/
theorem C12_decode_exactly_once (e k : Bytes) (h : Spelling e k) : pctDecodeBytes e = k :=
  pctDecodeBytes_spelling h

/-- `pctEncode` with any mask (it always encodes `%`) produces a spelling, so the theorems above
    hold for every client-side encoding policy -/
theorem C12_pctEncode_is_spelling (mask : UInt8 → Bool) (k : Bytes) : Spelling (pctEncode mask k) k :=
  pctEncode_spelling mask k

/-! ## IP / socket-address hosts -/

/-- a `Host` that is an IP or socket address is handled path-style whatever host parser is
    configured: the outcome is that of decoding the path and `parse_path_style` -/
theorem C12_ip_host_is_path_style (cfg : HostCfg) (h p : Bytes) (hs : headerToStrOk h = true)
    (hip : isSocketAddrOrIpAddr h = true) :
    classify cfg (some h) p = pathStyleOutcome p ∧ classify cfg (some h) p = classify .none none p := by
  have hps : PathStyleChosen cfg (some h) := Or.inr ⟨h, rfl, hs, Or.inr hip⟩
  exact ⟨classify_pathStyle hps p, classify_congr_host (hostBucket_pathStyle hps) rfl p⟩

/-! ## multi-domain configurations -/

/-- `MultiDomain::new` accepts exactly the non-empty lists of valid domains no two of which
    overlap — one `ends_with` the other once both are ASCII-lower-cased, as the code tests it and
    as hosts are resolved — and keeps the list as given -/
theorem C12_multidomain_new_iff (ds : List Bytes) :
    (∃ v, multiNew ds = .ok v) ↔
      ds ≠ [] ∧ (∀ d ∈ ds, isValidDomain d = true) ∧
        ds.Pairwise (fun a b => ¬ (toAsciiLower a <:+ toAsciiLower b ∨ toAsciiLower b <:+ toAsciiLower a)) := by
  constructor
  · rintro ⟨v, hv⟩
    exact ((multiNew_ok ds v).mp hv).2
  · intro h
    exact ⟨ds, (multiNew_ok ds ds).mpr ⟨rfl, h⟩⟩

/-- in particular a configuration that lists a domain twice, or a domain together with one of its
    sub-domains (`x.d` with `d`), in either order and whatever the ASCII case either is written in
    (`x.COM` with `com`), is refused -/
theorem C12_multidomain_refuses_subdomains (ds : List Bytes) (d1 d2 : Bytes)
    (hsub : [d1, d2].Sublist ds)
    (hov : toAsciiLower d1 = toAsciiLower d2 ∨ (46 :: toAsciiLower d2) <:+ toAsciiLower d1 ∨
      (46 :: toAsciiLower d1) <:+ toAsciiLower d2) : ∀ v, multiNew ds ≠ .ok v := by
  intro v hv
  obtain ⟨_, _, _, hp⟩ := (multiNew_ok ds v).mp hv
  have h2 := hp.sublist hsub
  rw [List.pairwise_cons] at h2
  apply h2.1 d2 (by simp)
  rcases hov with h | h | h
  · exact Or.inl (h ▸ List.suffix_refl _)
  · exact Or.inr ((List.suffix_cons 46 _).trans h)
  · exact Or.inl ((List.suffix_cons 46 _).trans h)

/-- … and what it stores is the list it was given -/
theorem C12_multidomain_new_keeps (ds v : List Bytes) (h : multiNew ds = .ok v) : v = ds :=
  ((multiNew_ok ds v).mp h).1

/-- in an accepted configuration a host belongs to at most one base domain, whatever ASCII case
    the domains and the host are written in (hosts are matched without regard to ASCII case, and
    `MultiDomain::new` tests overlap without regard to it) -/
theorem C12_multidomain_unique_match (ds v : List Bytes) (h : multiNew ds = .ok v)
    (d1 d2 host : Bytes) (v1 v2 : VirtualHost) (m1 : d1 ∈ v) (m2 : d2 ∈ v)
    (h1 : parseHostHeader d1 host = some v1) (h2 : parseHostHeader d2 host = some v2) : d1 = d2 :=
  unique_match (pairwiseCI_of_accepted h) m1 m2 h1 h2

/-- the answer does not depend on the order in which the domains were configured: every
    reordering of an accepted configuration is accepted and resolves every host alike -/
theorem C12_multidomain_order_independent (ds ds' v : List Bytes) (h : multiNew ds = .ok v)
    (hperm : ds'.Perm ds) (host : Bytes) :
    multiNew ds' = .ok ds' ∧ multiParse ds' host = multiParse v host := by
  cases C12_multidomain_new_keeps ds v h
  exact ⟨multiNew_perm h hperm, multiParse_perm (pairwiseCI_of_accepted h) hperm host⟩

/-! ## a host is resolved against the configured base domain it belongs to -/

/-- a host that is base domain `d` written in any ASCII case is the domain itself; a host `b.t`
    with `t` = `d` in any ASCII case (starting at a character boundary, as every `str` does) is
    resolved against `d` with the label `b` verbatim as bucket -/
theorem C12_host_resolution (d : Bytes) :
    (∀ host, toAsciiLower host = toAsciiLower d → parseHostHeader d host = some ⟨d, none⟩) ∧
    (∀ b t, toAsciiLower t = toAsciiLower d → (∀ c ∈ t.head?, c.toNat < 128 ∨ 192 ≤ c.toNat) →
      parseHostHeader d (b ++ dot :: t) = some ⟨d, some b⟩) :=
  ⟨fun _ h => parseHostHeader_self h, fun b t => parseHostHeader_sub b t d⟩

/-- conversely, whatever `parse_host_header` answers names the base domain it was asked about,
    and the host does belong to it (ASCII case ignored) -/
theorem C12_host_resolution_sound (d host : Bytes) (vh : VirtualHost)
    (h : parseHostHeader d host = some vh) :
    vh.domain = d ∧ toAsciiLower d <:+ toAsciiLower host :=
  ⟨(parseHostHeader_some h).1, suffix_of_parseHostHeader h⟩

/-- through the configured parsers: under a single domain, and under every accepted multi-domain
    list, `b.t` resolves to bucket `b` of domain `d` -/
theorem C12_host_resolution_configured (cfg : HostCfg) (d b t : Bytes) (hc : ConfiguredDomain cfg d)
    (ht : toAsciiLower t = toAsciiLower d) (hb : ∀ c ∈ t.head?, c.toNat < 128 ∨ 192 ≤ c.toNat) :
    ∃ parse, cfg.parser = some parse ∧ parse (b ++ dot :: t) = some ⟨d, some b⟩ :=
  parser_of_match hc (parseHostHeader_sub b t d ht hb)

/-! ## a host outside the base domains: the port of the `Host` value is no part of the bucket -/

/-- a `Host` value `h:port` (RFC 9110 §7.2: `uri-host [":" port]`) that is outside every base
    domain of the configuration — not a base domain, not a sub-domain of one, ASCII case ignored,
    a base domain with a port being compared as the whole `host:port` — names the bucket `h` in
    lower case: for every host name `h`, every decimal port, every single- or multi-domain
    configuration. The port is not part of the bucket; the same host sent without a port names
    the same bucket. -/
theorem C12_host_port_not_in_bucket (cfg : HostCfg) (parse : Bytes → Option VirtualHost)
    (hp : cfg.parser = some parse) (h port : Bytes) (hn : HostName h) (hport : DecimalPort port)
    (ho : ∀ d, BaseDomain cfg d → Outside d (h ++ colon :: port)) :
    parse (h ++ colon :: port) = some ⟨h ++ colon :: port, some (toAsciiLower h)⟩ ∧
    ((∀ d, BaseDomain cfg d → Outside d h) → parse h = some ⟨h, some (toAsciiLower h)⟩) :=
  ⟨by rw [parser_of_outside hp ho, fallback_name_port hn hport],
    fun ho' => by rw [parser_of_outside hp ho', fallback_name hn]⟩

/-- whatever the two host parsers derive from a host outside the base domains holds no `:` — for
    every `Host` value whatsoever (so `check_bucket_name` never refuses such a bucket for a port) -/
theorem C12_host_fallback_bucket_has_no_port (cfg : HostCfg) (parse : Bytes → Option VirtualHost)
    (hp : cfg.parser = some parse) (host : Bytes) (vh : VirtualHost)
    (ho : ∀ d, BaseDomain cfg d → parseHostHeader d host = none) (hv : parse host = some vh) :
    vh.domain = host ∧ vh.bucket = some (bucketOfHost host) ∧ colon ∉ bucketOfHost host := by
  cases fallback_some (vh := vh) (by rw [← parser_of_none hp ho, hv])
  exact ⟨rfl, rfl, bucketOfHost_no_colon host⟩

/-- end to end at the glue of `prepare`: a request with `Host: h:port` outside the base domains
    (the CNAME style of the AWS documentation, `Host: static.example.com:8080`) and every
    percent-spelling `e` of `/k` is resolved to `Object (lower h) k` -/
theorem C12_key_verbatim_host_with_port (cfg : HostCfg) (parse : Bytes → Option VirtualHost)
    (hp : cfg.parser = some parse) (h port k e : Bytes) (hn : HostName h) (hport : DecimalPort port)
    (ho : ∀ d, BaseDomain cfg d → Outside d (h ++ colon :: port))
    (hs : headerToStrOk (h ++ colon :: port) = true)
    (hip : isSocketAddrOrIpAddr (h ++ colon :: port) = false)
    (hb : checkBucketName (toAsciiLower h) = true) (hk0 : 0 < k.length) (hk : k.length ≤ 1024)
    (hu : utf8Valid k = true) (hsp : Spelling e (slash :: k)) :
    classify cfg (some (h ++ colon :: port)) e = .ok (.object (toAsciiLower h) k) := by
  rw [classify_host_target (hostBucket_name_port hp hn hport ho hs hip) hb hk hu hsp, target_of_pos hk0]

/-! ## bucket names -/

/-- whatever `check_bucket_name` accepts obeys the core naming rules ("not formatted as an IP
    address" read as: not four non-empty digit groups separated by periods) -/
theorem C12_accept_implies_core (n : Bytes) (h : checkBucketName n = true) : CoreRules n :=
  accept_implies_core h

/-- every name valid under the complete S3 naming rules is accepted -/
theorem C12_full_implies_accept (n : Bytes) (h : FullRules n) : checkBucketName n = true :=
  full_implies_accept h

/-- the executable references with which the correspondence check judges the implementation are
    the declarative rules -/
theorem C12_reference_is_spec (n : Bytes) :
    (coreRulesB n = true ↔ CoreRules n) ∧ (fullRulesB n = true ↔ FullRules n) ∧
    (ipv4FormattedB n = true ↔ Ipv4Formatted n) :=
  ⟨coreRulesB_iff n, fullRulesB_iff n, ipv4FormattedB_iff n⟩

/-! ## non-vacuity: realistic inputs meet the hypotheses -/

/-- `my.bucket-1` -/
def exBucket : Bytes := [109, 121, 46, 98, 117, 99, 107, 101, 116, 45, 49]
/-- `s3.example.com` -/
def exDomain : Bytes := [115, 51, 46, 101, 120, 97, 109, 112, 108, 101, 46, 99, 111, 109]
/-- `example.org` -/
def exDomain2 : Bytes := [101, 120, 97, 109, 112, 108, 101, 46, 111, 114, 103]
/-- the key `a/ %é` (slash, space, percent, two-byte UTF-8) -/
def exKey : Bytes := [97, 47, 32, 37, 0xC3, 0xA9]
/-- `/a/%20%25%c3%A9`: one spelling of `/` ++ exKey -/
def exSpelling : Bytes := [47, 97, 47, 37, 50, 48, 37, 50, 53, 37, 99, 51, 37, 65, 57]

theorem exBucket_ok : checkBucketName exBucket = true := by decide +kernel
theorem exKey_utf8 : utf8Valid exKey = true := by decide +kernel
/-- `my.bucket-1.s3.example.com` is a readable `Host` value and no IP or socket address -/
theorem exHost_str : headerToStrOk (exBucket ++ dot :: exDomain) = true := by decide +kernel
theorem exHost_not_ip : isSocketAddrOrIpAddr (exBucket ++ dot :: exDomain) = false := by decide +kernel

example : checkBucketName exBucket = true := exBucket_ok
example : FullRules exBucket := (fullRulesB_iff _).mp (by decide +kernel)
example : utf8Valid exKey = true := exKey_utf8
theorem exSpelling_ok : Spelling exSpelling (slash :: exKey) :=
  .lit (by decide +kernel) (.lit (by decide +kernel) (.lit (by decide +kernel)
    (.enc (x := 2) (y := 0) (by decide +kernel) (by decide +kernel) (by decide +kernel)
    (.enc (x := 2) (y := 5) (by decide +kernel) (by decide +kernel) (by decide +kernel)
    (.enc (x := 12) (y := 3) (by decide +kernel) (by decide +kernel) (by decide +kernel)
    (.enc (x := 10) (y := 9) (by decide +kernel) (by decide +kernel) (by decide +kernel) .nil))))))
example : Spelling exSpelling (slash :: exKey) := exSpelling_ok
example : ConfiguredDomain (.single exDomain) exDomain := Or.inl rfl
theorem exMulti_configured : ConfiguredDomain (.multi [exDomain2, exDomain]) exDomain :=
  Or.inr ⟨_, rfl, by decide +kernel, rfl⟩
example : ConfiguredDomain (.multi [exDomain2, exDomain]) exDomain := exMulti_configured
/-- `S3.Example.COM` is `s3.example.com` up to ASCII case -/
example : toAsciiLower [83, 51, 46, 69, 120, 97, 109, 112, 108, 101, 46, 67, 79, 77] = toAsciiLower exDomain := by
  decide +kernel
example : headerToStrOk (exBucket ++ dot :: exDomain) = true := exHost_str
example : isSocketAddrOrIpAddr (exBucket ++ dot :: exDomain) = false := exHost_not_ip
/-- `127.0.0.1:9000` and `[::1]:9000` are socket addresses, `::ffff:10.0.0.1` an IP address -/
example : isSocketAddrOrIpAddr [49, 50, 55, 46, 48, 46, 48, 46, 49, 58, 57, 48, 48, 48] = true := by decide +kernel
example : isSocketAddrOrIpAddr [91, 58, 58, 49, 93, 58, 57, 48, 48, 48] = true := by decide +kernel
example : isSocketAddrOrIpAddr [58, 58, 102, 102, 102, 102, 58, 49, 48, 46, 48, 46, 48, 46, 49] = true := by decide +kernel
example : PathStyleChosen (.single exDomain) (some [49, 50, 55, 46, 48, 46, 48, 46, 49, 58, 57, 48, 48, 48]) :=
  Or.inr ⟨_, rfl, by decide +kernel, Or.inr (by decide +kernel)⟩
example : ∃ v, multiNew [exDomain2, exDomain] = .ok v := ⟨_, rfl⟩
example : multiNew [exDomain, exDomain2 ++ dot :: exDomain] = .error .overlappingSubdomains := rfl
/-- `S3.Example.COM` -/
def exMixedCase : Bytes := [83, 51, 46, 69, 120, 97, 109, 112, 108, 101, 46, 67, 79, 77]
/-- `example.com` -/
def exPlainCom : Bytes := [101, 120, 97, 109, 112, 108, 101, 46, 99, 111, 109]
/-- an accepted configuration written in mixed case (hypothesis of `C12_multidomain_unique_match`
    and `C12_multidomain_order_independent`): `S3.Example.COM` with `example.org` -/
example : multiNew [exMixedCase, exDomain2] = .ok [exMixedCase, exDomain2] := rfl
/-- `S3.Example.COM` is a sub-domain of `example.com` up to ASCII case (hypothesis of
    `C12_multidomain_refuses_subdomains`), and the pair is refused in either order -/
example : (46 :: toAsciiLower exPlainCom) <:+ toAsciiLower exMixedCase := by decide +kernel
example : multiNew [exMixedCase, exPlainCom] = .error .overlappingSubdomains := rfl
example : multiNew [exPlainCom, exMixedCase] = .error .overlappingSubdomains := rfl

/-- `static.example.com` (the Upload example of the AWS REST-authentication document) -/
def exCname : Bytes := [115, 116, 97, 116, 105, 99, 46, 101, 120, 97, 109, 112, 108, 101, 46, 99, 111, 109]
/-- `8080` -/
def exPort : Bytes := [56, 48, 56, 48]
/-- `db-backup.dat.gz` -/
def exCnameKey : Bytes := [100, 98, 45, 98, 97, 99, 107, 117, 112, 46, 100, 97, 116, 46, 103, 122]
/-- hypotheses of `C12_host_port_not_in_bucket` / `C12_key_verbatim_host_with_port`: the host
    `static.example.com:8080` under the base domains `s3.example.com` and `example.org` -/
example : HostName exCname := by decide +kernel
example : DecimalPort exPort := by decide +kernel
example : DecimalPort [54, 53, 53, 51, 53] := by decide +kernel
example : ¬ DecimalPort [54, 53, 53, 51, 54] := by decide +kernel
example : Outside exDomain (exCname ++ colon :: exPort) ∧ Outside exDomain2 (exCname ++ colon :: exPort) ∧
    Outside exDomain exCname := by decide +kernel
example : headerToStrOk (exCname ++ colon :: exPort) = true := by decide +kernel
example : isSocketAddrOrIpAddr (exCname ++ colon :: exPort) = false := by decide +kernel
example : checkBucketName (toAsciiLower exCname) = true := by decide +kernel
/-- a host under a base domain that carries a port is not outside it (it is matched as a whole):
    `b.example.org:9000` under `example.org:9000`, while under `example.org:9001` it is outside -/
example : ¬ Outside (exDomain2 ++ colon :: [57, 48, 48, 48]) (98 :: dot :: exDomain2 ++ colon :: [57, 48, 48, 48]) := by
  decide +kernel
example : Outside (exDomain2 ++ colon :: [57, 48, 48, 49]) (98 :: dot :: exDomain2 ++ colon :: [57, 48, 48, 48]) := by
  decide +kernel

end S3V.C12
