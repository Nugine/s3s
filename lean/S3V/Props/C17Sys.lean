import S3V.Props.C17
import S3V.Model.FsPathSys
import S3V.Thm.BytesText
/-!
# C17 at the system-call level: what the model predicts for component `fspathsys` is confined

`FsPath.sysPredicted` reads the may-touch table `plan` as a set of path-taking system calls (table entries with a compatible
access, plus the named rules `probe-before-change`, `enumerate-before-delete`, `mkdir-root`). The driver reports DISAGREE for every
system call of the real backend that this prediction does not contain; the theorems below say that everything it does contain
is confined, for all inputs.
-/
namespace S3V.C17
open S3V S3V.FsPath

/-- a predicted system call is anchored at a table entry that covers the node, or is the `mkdir`/`stat` of the root itself -/
theorem C17_syscall_predicted_anchored (e : Env) (touches : List Touch) (k : SysKind) (q : List Comp) (r : String)
    (h : sysPredicted e touches k q = some r) :
    (∃ t ∈ touches, covers e t.tgt q = true) ∨ q = components e.root := by
  -- the table and the first two rules all ask for an entry that covers the node
  have hit : ∀ f : Touch → Bool, touches.any (fun t => f t && covers e t.tgt q) = true →
      ∃ t ∈ touches, covers e t.tgt q = true := fun f h =>
    have ⟨t, ht, hc⟩ := List.any_eq_true.mp h
    ⟨t, ht, (Bool.and_eq_true_iff.mp hc).2⟩
  unfold sysPredicted at h
  split at h
  · exact .inl (hit _ ‹_›)
  split at h
  · exact .inl (hit _ ‹_›)
  split at h
  · exact .inl (hit _ ‹_›)
  split at h
  · next h1 =>
    obtain ⟨t, _, hc⟩ := List.any_eq_true.mp h1
    right
    unfold mkdirRoot at hc
    split at hc
    · exact eq_of_beq (Bool.and_eq_true_iff.mp hc).2
    · exact eq_of_beq (Bool.and_eq_true_iff.mp hc).2
    · cases hc
  · cases h

/-- **Every predicted system call stays under the root.** For every operation and all inputs: a path-taking system call that
    the model predicts (table or named rule) concerns the root directory or a node below it. -/
theorem C17_syscall_predicted_under_root (e : Env) (enc : Bytes → Bytes) (hr : RootOk e.root) (he : EncNoSlash enc)
    (op : Op) (hop : OpOk op) (k : SysKind) (q : List Comp) (r : String)
    (h : sysPredicted e (plan e enc op).touches k q = some r) : components e.root <+: q := by
  rcases C17_syscall_predicted_anchored e _ k q r h with ⟨t, ht, hc⟩ | rfl
  · exact (C17_touched_under_root e enc hr he op hop t ht).2 q hc
  · exact List.prefix_refl _

/-- **Every predicted system call stays in the operation's own bucket(s) and bookkeeping.** The node is one the property
    allows the operation to touch (`Allowed`, under the access of the table entry that anchors the prediction), or it is the
    root directory itself (`mkdir-root`: a `mkdir` that cannot succeed and the `stat` that follows it). -/
theorem C17_syscall_predicted_in_own_bucket (e : Env) (enc : Bytes → Bytes) (hr : RootOk e.root) (he : EncNoSlash enc)
    (op : Op) (hop : OpOk op) (k : SysKind) (q : List Comp) (r : String)
    (h : sysPredicted e (plan e enc op).touches k q = some r) :
    (∃ acc, Allowed e enc op acc q) ∨ q = components e.root := by
  rcases C17_syscall_predicted_anchored e _ k q r h with ⟨t, ht, hc⟩ | rfl
  · exact .inl ⟨t.acc, C17_touched_in_own_bucket e enc hr he op hop t ht q hc⟩
  · exact .inr rfl

/-- **Construction is confined.** What the model lets `FileSystem::new` do: look at the root and its ancestors, enumerate the
    root, remove a child of the root whose name starts with `.tmp.` — never a write, never anything else. -/
theorem C17_construction_confined (e : Env) (k : SysKind) (q : List Comp) (h : newAllows e k q = true) :
    (k = .read ∧ q <+: components e.root) ∨ (k = .list ∧ q = components e.root) ∨
      (k = .delete ∧ ∃ name, q.getLast? = some (.normal name) ∧ q.dropLast = components e.root ∧ sTmpDot <+: name) := by
  unfold newAllows at h
  cases k with
  | read => exact .inl ⟨rfl, List.isPrefixOf_iff_prefix.mp h⟩
  | list => exact .inr (.inl ⟨rfl, eq_of_beq h⟩)
  | delete =>
    refine .inr (.inr ⟨rfl, ?_⟩)
    simp only at h
    split at h
    · rename_i name hl
      simp only [Bool.and_eq_true] at h
      exact ⟨name, hl, eq_of_beq h.1.1, bytes_isPrefixOf_iff.mp h.1.2⟩
    · exact absurd h (by simp)
  | write => exact absurd h (by simp)
  | create => exact absurd h (by simp)

/-! non-vacuity: root `/r`; `head_object` predicts the probe of the bucket directory; the construction may look at `/` -/
example : sysPredicted exEnv (plan exEnv id (.headObject [98, 107] [97])).touches .read (components [47, 114, 47, 98, 107])
    = some "table" := by decide +kernel
example : newAllows exEnv .read (components [47]) = true := by decide +kernel

end S3V.C17
