import S3V.Thm.EvStream
import S3V.Thm.EvStreamXml
import S3V.Thm.EvStreamTrunc
import S3V.Thm.Itoa
import S3V.Thm.EvStreamWidth
/-!
# C15 — SelectObjectContent events are framed as valid AWS event-stream messages

Quantifier: every message / every list of backend items (events of the five kinds and `Err(S3Error)` items),
every payload, every Stats / Progress value, every error code and message — no bound on any size — and an
arbitrary checksum function `crc32 : Bytes → Nat` (the encoder writes, and the decoder compares, its low 32 bits).

`serialize`, `intoMessage`, `requestLevelError`, `wrapper` are the model of `dto/event_stream.rs`
(`S3V/Model/EvStream.lean`); `decodeFrame`, `decodeAll`, `interpret`, `readStream` are the independent decoder and
the S3 Select reading of a message (`S3V/Spec/EvStream.lean`). `sizesOk m` is the explicit decidable predicate
"every header name < 256 bytes, every header value < 65536 bytes, 16 + headers + payload < 2^32".
Since repair f8c01e3 (`truncate_header_value`) every error item meets it: `C15_error_always_framed` is full.
-/
namespace S3V.C15
open S3V S3V.EvStream S3V.EvStreamSpec S3V.EvStreamThm

/-- `Message::serialize` described completely: it fails with `LengthOverflow` exactly when the `usize` sum
    overflows, with `IntOverflow` exactly when a length does not fit its field (`¬ sizesOk`), and otherwise
    produces prelude ‖ prelude CRC ‖ headers ‖ payload ‖ message CRC (`frameOf`) -/
theorem C15_serialize_described (crc32 : Bytes → Nat) (m : Message) :
    serialize crc32 m =
      if usizeLimit ≤ 16 + hdrSize m.headers + (payloadBytes m).length then .error .lengthOverflow
      else if sizesOk m then .ok (frameOf crc32 m) else .error .intOverflow := by
  rw [← serializeW_usizeLimit]
  exact serializeW_eq usizeLimit (by decide) crc32 m

/-- serialisation succeeds exactly on the messages whose sizes fit the wire format's fields -/
theorem C15_serialize_ok_iff_sizesOk (crc32 : Bytes → Nat) (m : Message) :
    (∃ b, serialize crc32 m = .ok b) ↔ sizesOk m = true := by
  constructor
  · rintro ⟨b, h⟩; exact ((serialize_ok_iff crc32 m b).mp h).1
  · intro h; exact ⟨_, (serialize_ok_iff crc32 m _).mpr ⟨h, rfl⟩⟩

/-- the pointer width does not matter: `serializeW limit` is `Message::serialize` on a target with
    `usize::MAX + 1 = limit` (`serialize` itself is the instance `2^64`). On every target of at least 32 bits
    the same messages are framed and the frames are the same bytes; a message is refused on one target iff it is
    refused on the other (only the kind of the error can differ: from `limit` bytes on it is `LengthOverflow`) -/
theorem C15_serialize_width_independent (limit : Nat) (hl : 4294967296 ≤ limit) (crc32 : Bytes → Nat) (m : Message) :
    serializeW usizeLimit crc32 m = serialize crc32 m ∧
    (∀ b, serializeW limit crc32 m = .ok b ↔ serialize crc32 m = .ok b) ∧
    (serializeW limit crc32 m =
      if limit ≤ 16 + hdrSize m.headers + (payloadBytes m).length then .error .lengthOverflow
      else if sizesOk m then .ok (frameOf crc32 m) else .error .intOverflow) :=
  ⟨serializeW_usizeLimit crc32 m,
    fun b => by rw [serializeW_ok_iff limit hl, serialize_ok_iff],
    serializeW_eq limit (by omega) crc32 m⟩

/-- non-vacuity: the 32-bit target meets the hypothesis -/
example : (4294967296 : Nat) ≤ 4294967296 := by decide

/-- the frame: whatever `serialize` produces, the independent decoder reads back as exactly the message's
    headers (all string typed) and payload, consuming exactly the frame — for an arbitrary CRC function -/
theorem C15_decode_serialize (crc32 : Bytes → Nat) (m : Message) (hok : sizesOk m = true) :
    ∃ b, serialize crc32 m = .ok b ∧ ∀ rest, decodeFrame crc32 (b ++ rest) = some (toDecoded m, rest) :=
  ⟨frameOf crc32 m, (serialize_ok_iff crc32 m _).mpr ⟨hok, rfl⟩, decodeFrame_frameOf crc32 m hok⟩

/-- the same without a hypothesis on sizes: every successful serialisation decodes -/
theorem C15_decode_of_serialize_ok (crc32 : Bytes → Nat) (m : Message) (b rest : Bytes)
    (h : serialize crc32 m = .ok b) : decodeFrame crc32 (b ++ rest) = some (toDecoded m, rest) := by
  obtain ⟨hok, rfl⟩ := (serialize_ok_iff crc32 m b).mp h
  exact decodeFrame_frameOf crc32 m hok rest

/-- non-vacuity: a Records message with a payload and an error message meet `sizesOk` -/
example : sizesOk (intoMessage (.records (some [0x31, 0x2c, 0x61, 0x0a]))) = true := by decide
example : sizesOk (requestLevelError ⟨[73, 110, 116], some [111, 111, 112, 115]⟩) = true := by decide

/-- length fields: the first big-endian u32 of a frame is the frame's length, the second is the length of the
    headers block, and total = 16 + headers + payload -/
theorem C15_length_fields (crc32 : Bytes → Nat) (m : Message) (b : Bytes) (h : serialize crc32 m = .ok b) :
    b.length = 16 + hdrSize m.headers + (payloadBytes m).length ∧
    rdU32 b = some (b.length, b.drop 4) ∧
    rdU32 (b.drop 4) = some (hdrSize m.headers, b.drop 8) := by
  obtain ⟨hok, rfl⟩ := (serialize_ok_iff crc32 m b).mp h
  have hT := ((sizesOk_iff m).mp hok).2
  have hlen := frameOf_length crc32 m
  refine ⟨hlen, ?_, ?_⟩
  · rw [hlen, frameOf_eq, rdU32_be32, Nat.mod_eq_of_lt hT, drop4_be32]
  · rw [frameOf_eq, drop4_be32, drop8_be32, rdU32_be32, Nat.mod_eq_of_lt (by omega)]

/-- checksum fields: bytes 8..12 hold the CRC of the first 8 bytes, the last 4 bytes hold the CRC of everything
    before them (both as 32-bit big-endian numbers) -/
theorem C15_crc_fields (crc32 : Bytes → Nat) (m : Message) (b : Bytes) (h : serialize crc32 m = .ok b) :
    rdU32 (b.drop 8) = some (crc32 (b.take 8) % 4294967296, b.drop 12) ∧
    rdU32 (b.drop (b.length - 4)) = some (crc32 (b.take (b.length - 4)) % 4294967296, []) := by
  obtain ⟨hok, rfl⟩ := (serialize_ok_iff crc32 m b).mp h
  constructor
  · rw [frameOf_eq, take8_be32, drop8_be32, drop12_be32, rdU32_be32]
  · obtain ⟨buf, hf⟩ : ∃ buf, frameOf crc32 m = buf ++ be32 (crc32 buf) := ⟨_, rfl⟩
    rw [hf, List.length_append, be32_length, Nat.add_sub_cancel, List.take_left' rfl, List.drop_left' rfl]
    simpa using rdU32_be32 (crc32 buf) []

/-- the stream: when the byte stream yielded only frames, decoding their concatenation gives back one message
    per backend item, in order, each with the item's headers and payload (induction over the item list) -/
theorem C15_stream_roundtrip (crc32 : Bytes → Nat) (items : List Item) (frames : List Bytes)
    (h : wrapper crc32 items = frames.map .ok) :
    decodeAll crc32 frames.flatten = some (items.map fun it => toDecoded (itemMessage it)) := by
  obtain ⟨hok, rfl⟩ := (wrapper_ok_iff crc32 items frames).mp h
  have := decodeAll_frames crc32 (items.map itemMessage) (by simpa using hok)
  simpa [List.map_map, Function.comp_def] using this

/-- … and that happens exactly when every item's message has encodable sizes -/
theorem C15_stream_framed_iff (crc32 : Bytes → Nat) (items : List Item) :
    (∃ frames : List Bytes, wrapper crc32 items = frames.map .ok) ↔ ∀ it ∈ items, sizesOk (itemMessage it) = true := by
  constructor
  · rintro ⟨frames, h⟩; exact ((wrapper_ok_iff crc32 items frames).mp h).1
  · intro h; exact ⟨_, (wrapper_ok_iff crc32 items _).mpr ⟨h, rfl⟩⟩

/-- the events: an S3 Select client that decodes the byte stream and reads every message as the response
    appendix prescribes recovers the same events and errors in the same order -/
theorem C15_events_recovered (crc32 : Bytes → Nat) (items : List Item) (frames : List Bytes)
    (h : wrapper crc32 items = frames.map .ok) :
    readStream crc32 frames.flatten = some (items.map abstractEvent) := by
  unfold readStream
  rw [C15_stream_roundtrip crc32 items frames h]
  exact interpret_items items

/-- non-vacuity: a typical response (records, progress, stats, end) and one ending in an error are framed -/
example : ∀ it ∈ ([.ok (.records (some [49, 10])), .ok .cont, .ok (.progress (some ⟨some 2, none, some 2⟩)),
    .ok (.stats (some ⟨some 2, some 2, some 2⟩)), .ok .endEv, .error ⟨[66, 117, 115, 121], none⟩] : List Item),
    sizesOk (itemMessage it) = true := by decide +kernel

/-- every item is framed on its own: what precedes an item (an error item, or an item whose serialisation
    failed) has no influence on its frame, and the stream continues after it -/
theorem C15_stream_itemwise (crc32 : Bytes → Nat) (pre post : List Item) (it : Item) :
    wrapper crc32 (pre ++ it :: post) = wrapper crc32 pre ++ eventIntoBytes crc32 it :: wrapper crc32 post := by
  simp [wrapper]

/-- header clause, events: the decoded message of every event has exactly the documented headers
    (`:message-type = event`, `:event-type`, and `:content-type` = `application/octet-stream` for Records,
    `text/xml` for Stats and Progress, none for Cont and End), all of value type 7 (string) -/
theorem C15_headers_named_and_string_typed (ev : Event) :
    eventHeadersOk (kindOf ev) (toDecoded (intoMessage ev)).headers := by
  refine ⟨allStringTyped_toDecoded _, ?_⟩
  cases ev with
  | cont => exact ⟨rfl, rfl, rfl, nofun, fun _ => by decide⟩
  | endEv => exact ⟨rfl, rfl, rfl, nofun, fun _ => by decide⟩
  | progress d => exact ⟨rfl, rfl, rfl, fun c hc => Option.some.inj hc ▸ rfl, nofun⟩
  | records p => exact ⟨rfl, rfl, rfl, fun c hc => Option.some.inj hc ▸ rfl, nofun⟩
  | stats d => exact ⟨rfl, rfl, rfl, fun c hc => Option.some.inj hc ▸ rfl, nofun⟩

/-- header clause, errors: an `Err(S3Error)` item becomes a message with `:message-type = error`, `:error-code` =
    the error's code, `:error-message` = its message (empty when it has none) — each cut to a string header's
    capacity by `truncate_header_value` (the identity up to 65 535 bytes) — string typed, no payload -/
theorem C15_error_headers (e : S3Err) :
    errorHeadersOk (truncateHeaderValue e.code) ((e.message.map truncateHeaderValue).getD [])
      (toDecoded (requestLevelError e)).headers ∧
    (toDecoded (requestLevelError e)).payload = [] :=
  ⟨⟨allStringTyped_toDecoded _, rfl, rfl, rfl, rfl⟩, rfl⟩

/-- payload clause: the frame of a Records event decodes to a message whose payload is the event's payload,
    byte for byte (empty when the event has none) -/
theorem C15_payload_unchanged (crc32 : Bytes → Nat) (p : Option Bytes) (b rest : Bytes)
    (h : eventIntoBytes crc32 (.ok (.records p)) = .ok b) :
    ∃ dm, decodeFrame crc32 (b ++ rest) = some (dm, rest) ∧ dm.payload = p.getD [] :=
  ⟨_, C15_decode_of_serialize_ok crc32 _ b rest h, rfl⟩

/-- Stats / Progress clause: the payload of a Stats (Progress) event is an XML document that the spec's reader
    — root `Stats` (`Progress`), children `BytesScanned`, `BytesProcessed`, `BytesReturned` in any order, decimal
    values — reads back as exactly the event's counters, for every combination of absent members and every
    integer (in particular all of i64); an event without details has no payload -/
theorem C15_stats_progress_payload (d : Option Details) :
    readCounters tStats (payloadBytes (intoMessage (.stats d))) = some (d.map countersOf) ∧
    readCounters tProgress (payloadBytes (intoMessage (.progress d))) = some (d.map countersOf) := by
  cases d with
  | none => exact ⟨rfl, rfl⟩
  | some d => exact ⟨readCounters_xmlPayload vStats nameOk_stats d, readCounters_xmlPayload vProgress nameOk_progress d⟩

/-- the XML text itself: declaration, root element, the present members in the order BytesProcessed,
    BytesReturned, BytesScanned, each `<Name>decimal</Name>` -/
theorem C15_stats_xml_text (d : Details) :
    payloadBytes (intoMessage (.stats (some d))) =
      xmlDecl ++ xmlElem vStats (xmlOptLong nBytesProcessed d.bytesProcessed ++
        (xmlOptLong nBytesReturned d.bytesReturned ++ xmlOptLong nBytesScanned d.bytesScanned)) := rfl

example : readCounters tStats (payloadBytes (intoMessage (.stats (some ⟨some 1024, some (-1), none⟩))))
    = some (some ⟨none, some 1024, some (-1)⟩) := (C15_stats_progress_payload _).1

/-- `fmt_long` is `itoa::Buffer::format(i64)`. The literal model of itoa 1.0.15's `write` for `i64`
    (`S3V/Model/Itoa.lean`: two's-complement magnitude with `wrapping_add`, 4 digits per loop pass through the
    200-byte digit table, then 2, then 1 or 2, then `-`) produces, for every `i64`, exactly the decimal text the
    C15 model uses for the counters (`fmtLong`); that text has at most 20 bytes (`i64::MAX_STR_LEN`, so the
    backwards-filled 20-byte buffer is never overrun), and the spec's reader takes it back as the same number -/
theorem C15_itoa_is_decimal (v : Int) (hlo : -9223372036854775808 ≤ v) (hhi : v < 9223372036854775808) :
    Itoa.write v = fmtLong v ∧ (Itoa.write v).length ≤ 20 ∧ parseLong (Itoa.write v) = some v :=
  ⟨Itoa.write_eq_fmtLong v hlo hhi, Itoa.write_length_le v hlo hhi,
    by rw [Itoa.write_eq_fmtLong v hlo hhi]; exact parseLong_fmtLong v⟩

/-- non-vacuity: `i64::MIN` (whose magnitude does not fit an `i64`) and `i64::MAX` are in the range -/
example : (-9223372036854775808 : Int) ≤ -9223372036854775808 ∧ (-9223372036854775808 : Int) < 9223372036854775808 ∧
    (-9223372036854775808 : Int) ≤ 9223372036854775807 ∧ (9223372036854775807 : Int) < 9223372036854775808 := by decide
example : Itoa.magnitude (-9223372036854775808) = 9223372036854775808 := by decide

/-- events are always framed: an event item fails to serialise only if its payload does not fit the 32-bit
    total length (101 = 16 + the largest fixed header block, that of Records) -/
theorem C15_event_always_framed (crc32 : Bytes → Nat) (ev : Event)
    (h : (payloadBytes (intoMessage ev)).length + 101 < 4294967296) :
    ∃ b, eventIntoBytes crc32 (.ok ev) = .ok b := by
  apply (C15_serialize_ok_iff_sizesOk crc32 _).mpr
  obtain ⟨h1, h2⟩ := intoMessage_headers_fit ev
  rw [itemMessage, sizesOk, h1, Bool.true_and, decide_eq_true_eq]
  omega

/-- `truncate_header_value`: text of at most 65 535 bytes is unchanged; otherwise the result is a prefix of the
    text, at most 65 535 bytes long, ending at a character boundary (not inside a multi-byte sequence) -/
theorem C15_error_text_truncation (s : Bytes) :
    (s.length ≤ 65535 → truncateHeaderValue s = s) ∧ (truncateHeaderValue s).length ≤ 65535 ∧
    truncateHeaderValue s <+: s ∧ isCharBoundary s (truncateHeaderValue s).length = true :=
  ⟨truncateTo_eq_self 65535 s, truncateTo_length_le 65535 s, truncateTo_prefix 65535 s, truncateTo_boundary 65535 s⟩

/-- `str::is_char_boundary` means what its name says: for a text that is well-formed UTF-8 (every Rust `&str`)
    the prefix of `k` bytes is well-formed UTF-8 exactly when `k` is a character boundary (the model's one-byte
    test "not a continuation byte", `0` and `len` included) -/
theorem C15_prefix_valid_iff_char_boundary (s : Bytes) (hs : utf8Valid s = true) (k : Nat) (hk : k ≤ s.length) :
    utf8Valid (s.take k) = true ↔ isCharBoundary s k = true :=
  utf8Valid_take_iff_boundary hs k hk

/-- the `while !s.is_char_boundary(end) { end -= 1 }` loop started at `n` stops at the largest character
    boundary `≤ n` (any byte string), and in well-formed UTF-8 it steps back at most 3 bytes -/
theorem C15_cut_end_is_largest_boundary (s : Bytes) (n : Nat) :
    truncEnd s n ≤ n ∧ isCharBoundary s (truncEnd s n) = true ∧
    (∀ k, k ≤ n → isCharBoundary s k = true → k ≤ truncEnd s n) ∧
    (utf8Valid s = true → n ≤ s.length → n ≤ truncEnd s n + 3) :=
  ⟨truncEnd_le s n, truncEnd_boundary s n, truncEnd_max s n, fun hs hn => truncEnd_near hs n hn⟩

/-- the cut: for every error text that is well-formed UTF-8 — no bound on its length — what
    `truncate_header_value` keeps is a prefix of at most 65 535 bytes, is well-formed UTF-8, and every longer
    prefix of the text of at most 65 535 bytes is not well-formed UTF-8 -/
theorem C15_error_text_is_longest_valid_prefix (s : Bytes) (hs : utf8Valid s = true) :
    truncateHeaderValue s <+: s ∧ (truncateHeaderValue s).length ≤ 65535 ∧
    utf8Valid (truncateHeaderValue s) = true ∧
    ∀ p : Bytes, p <+: s → p.length ≤ 65535 → (truncateHeaderValue s).length < p.length → utf8Valid p = false := by
  -- `IsLongestValidPrefix` with its last clause contraposed
  obtain ⟨hp, hl, hv, hmax⟩ := truncateTo_isLongest 65535 hs
  exact ⟨hp, hl, hv, fun p hpp hpl hlt => Bool.eq_false_iff.mpr fun hpv => Nat.not_le.mpr hlt (hmax p hpp hpl hpv)⟩

/-- … which is the spec's declarative demand `IsLongestValidPrefix`, and that demand has no other answer -/
theorem C15_error_text_meets_spec_uniquely (s t : Bytes) (hs : utf8Valid s = true) :
    IsLongestValidPrefix maxHeaderValue s t ↔ t = truncateHeaderValue s :=
  ⟨fun h => isLongestValidPrefix_unique h (truncateTo_isLongest 65535 hs),
    fun h => h ▸ truncateTo_isLongest 65535 hs⟩

/-- the executable spec the driver judges with (`expectedHeaderText`: unchanged if it fits, else the first
    well-formed one of the prefixes of 65 535 … 65 532 bytes) equals `truncate_header_value` on every
    well-formed text -/
theorem C15_truncation_eq_spec (s : Bytes) (hs : utf8Valid s = true) :
    expectedHeaderText s = some (truncateHeaderValue s) :=
  expectedTextN_eq_truncateTo 65535 (by decide) hs

/-- non-vacuity, with the limit 5 in place of 65 535 (same lemmas, `truncateTo n` / `expectedTextN n`; the theorems
    above are their instances at 65 535): `ab😀c` is well-formed; a 4-byte character straddles byte 5, the cut
    steps back 3 bytes to `ab`, the three longer prefixes within the limit are not well-formed, and the spec's
    candidate search finds the same; a 3-byte and a 2-byte character straddling the limit likewise -/
example : utf8Valid [97, 98, 0xF0, 0x9F, 0x98, 0x80, 99] = true ∧
    truncateTo 5 [97, 98, 0xF0, 0x9F, 0x98, 0x80, 99] = [97, 98] ∧
    utf8Valid [97, 98, 0xF0] = false ∧ utf8Valid [97, 98, 0xF0, 0x9F] = false ∧
    utf8Valid [97, 98, 0xF0, 0x9F, 0x98] = false ∧
    expectedTextN 5 [97, 98, 0xF0, 0x9F, 0x98, 0x80, 99] = some [97, 98] := by decide
example : utf8Valid [97, 98, 99, 0xE2, 0x82, 0xAC, 100] = true ∧
    truncateTo 5 [97, 98, 99, 0xE2, 0x82, 0xAC, 100] = [97, 98, 99] ∧
    expectedTextN 5 [97, 98, 99, 0xE2, 0x82, 0xAC, 100] = some [97, 98, 99] := by decide
example : utf8Valid [97, 98, 99, 100, 0xC3, 0xA9, 101] = true ∧
    truncateTo 5 [97, 98, 99, 100, 0xC3, 0xA9, 101] = [97, 98, 99, 100] ∧
    truncateTo 6 [97, 98, 99, 100, 0xC3, 0xA9, 101] = [97, 98, 99, 100, 0xC3, 0xA9] := by decide
example : expectedTextN 5 [97, 98, 0xF0, 0x9F, 0x98, 0x80, 99] = some (truncateTo 5 [97, 98, 0xF0, 0x9F, 0x98, 0x80, 99]) :=
  expectedTextN_eq_truncateTo 5 (by decide) (by decide)
/-- the hypothesis matters: on text that is not UTF-8 (never a `&str`) the one-byte test and the decoder part -/
example : truncateTo 5 [97, 98, 99, 100, 0xFF, 0xFF] = [97, 98, 99, 100, 0xFF] ∧
    expectedTextN 5 [97, 98, 99, 100, 0xFF, 0xFF] = some [97, 98, 99, 100] := by decide

/-- since f8c01e3 every `Err(S3Error)` item is framed, whatever its code and message -/
theorem C15_error_always_framed (crc32 : Bytes → Nat) (e : S3Err) :
    ∃ b, eventIntoBytes crc32 (.error e) = .ok b := by
  apply (C15_serialize_ok_iff_sizesOk crc32 _).mpr
  apply (sizesOk_errorMessage _ _).mpr
  simp only [getD_map_truncateHeaderValue, truncateHeaderValue_eq_truncateTo]
  exact ⟨Nat.lt_succ_of_le (truncateTo_length_le 65535 _), Nat.lt_succ_of_le (truncateTo_length_le 65535 _)⟩

/-- what a client recovers from the frame of an error item: an error message carrying the code and the message,
    each cut as `C15_error_text_truncation` says -/
theorem C15_error_recovered (crc32 : Bytes → Nat) (e : S3Err) (b rest : Bytes)
    (h : eventIntoBytes crc32 (.error e) = .ok b) :
    ∃ dm, decodeFrame crc32 (b ++ rest) = some (dm, rest) ∧
      interpret dm = some (.error (truncateHeaderValue e.code) ((e.message.map truncateHeaderValue).getD [])) :=
  ⟨_, C15_decode_of_serialize_ok crc32 _ b rest h, interpret_item (.error e)⟩

/-- … and that text is the spec's: for an error whose code and message are well-formed UTF-8 (they are `&str` /
    `String` in Rust) of any length, the reader recovers exactly `expectedHeaderText` of the code and of the
    message — the condition `sameEvent` of the driver's judge, proved for the model -/
theorem C15_error_recovered_is_spec_cut (crc32 : Bytes → Nat) (e : S3Err) (b rest : Bytes)
    (hc : utf8Valid e.code = true) (hm : utf8Valid (e.message.getD []) = true)
    (h : eventIntoBytes crc32 (.error e) = .ok b) :
    ∃ dm c m, decodeFrame crc32 (b ++ rest) = some (dm, rest) ∧ interpret dm = some (.error c m) ∧
      expectedHeaderText e.code = some c ∧ expectedHeaderText (e.message.getD []) = some m ∧
      IsLongestValidPrefix maxHeaderValue e.code c ∧ IsLongestValidPrefix maxHeaderValue (e.message.getD []) m := by
  obtain ⟨dm, h1, h2⟩ := C15_error_recovered crc32 e b rest h
  rw [getD_map_truncateHeaderValue] at h2
  exact ⟨dm, _, _, h1, h2, C15_truncation_eq_spec _ hc, C15_truncation_eq_spec _ hm,
    (C15_error_text_meets_spec_uniquely _ _ hc).mpr rfl, (C15_error_text_meets_spec_uniquely _ _ hm).mpr rfl⟩

/-- non-vacuity: an error with a non-ASCII message meets the hypotheses (`Bad` / `né`) -/
example : utf8Valid (S3Err.mk [66, 97, 100] (some [110, 0xC3, 0xA9])).code = true ∧
    utf8Valid ((S3Err.mk [66, 97, 100] (some [110, 0xC3, 0xA9])).message.getD []) = true := by decide

/-- … hence unchanged code and message whenever both fit a string header -/
theorem C15_error_recovered_unchanged (crc32 : Bytes → Nat) (e : S3Err) (b rest : Bytes)
    (hc : e.code.length ≤ 65535) (hm : (e.message.getD []).length ≤ 65535)
    (h : eventIntoBytes crc32 (.error e) = .ok b) :
    ∃ dm, decodeFrame crc32 (b ++ rest) = some (dm, rest) ∧
      interpret dm = some (.error e.code (e.message.getD [])) := by
  obtain ⟨dm, h1, h2⟩ := C15_error_recovered crc32 e b rest h
  refine ⟨dm, h1, ?_⟩
  rw [h2, getD_map_truncateHeaderValue, truncateHeaderValue_eq_self _ hc, truncateHeaderValue_eq_self _ hm]

/-- a backend stream is framed item by item without ever failing, provided only that every
    event payload fits the 32-bit total length; errors need no proviso -/
theorem C15_stream_always_framed (crc32 : Bytes → Nat) (items : List Item)
    (h : ∀ ev, Except.ok ev ∈ items → (payloadBytes (intoMessage ev)).length + 101 < 4294967296) :
    ∃ frames : List Bytes, wrapper crc32 items = frames.map .ok := by
  apply (C15_stream_framed_iff crc32 items).mpr
  intro it hit
  apply (C15_serialize_ok_iff_sizesOk crc32 _).mp
  cases it with
  | error e => exact C15_error_always_framed crc32 e
  | ok ev => exact C15_event_always_framed crc32 ev (h ev hit)

end S3V.C15
