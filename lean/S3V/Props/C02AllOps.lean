import S3V.Props.C02
/-!
# C02 — `C02_decode_encode` at every operation of the generated binding table

`C02_decode_encode` (in `S3V/Props/C02.lean`) is about an arbitrary binding list of the hand-written model of the
helpers of `http/de.rs`. Here it is instantiated at the binding list of each of the operations of
`S3V.Gen.implInputs` (regenerated from `crates/s3s/src/ops/generated.rs` on every run): the conversion row →
helper-model statement is the one of `helperModelVerdict` in `S3V/Drv/Service.lean` (copied as
`S3V.HttpDeTable.opBinds`; with the decoder `fun _ => some` it is the list the driver runs against the real code),
and the hypothesis `Distinct` of the generic theorem follows from `C02_wire_names_distinct`, decided by the kernel on
the table.

Scope: the members bound to a **header** or to the **query string**. Members bound to the URI path (`label`),
to the `x-amz-meta-*` family (`pfx`, helper `parse_opt_metadata`) and to the payload are not statements of
`decodeAll` in the helper model and are dropped by the conversion, here exactly as in the driver; for them the
property rests on `C02_bindings_match_smithy` and on the end-to-end run (`svcinput`).
The list-valued header members (`parse_list_header`) are recognised the way the driver does it — member name ends
in `attributes` —; in the pinned tree these are the four `parse_list_header` calls of `generated.rs`
(`GetObjectAttributes`, `ListObjects`, `ListObjectsV2`, `ListObjectVersions`); that every member so recognised is bound to
a header is the obligation `C02_table_list_members_are_headers`, re-decided on every run.
-/
namespace S3V.C02
open S3V.Gen S3V.HttpDe S3V.HttpBinding S3V.HttpDeTable

/-- every row of the table is bound to one of five locations; the conversion keeps `query` and `header`
    (next theorem) and drops `label`, `pfx` and `payload` -/
theorem C02_table_locations : ∀ op : Op, ∀ b ∈ implInputs op,
    b.loc = .label ∨ b.loc = .query ∨ b.loc = .header ∨ b.loc = .pfx ∨ b.loc = .payload :=
  Op.forall_of_all (by decide +kernel)

/-- the conversion is total on the header / query rows: the converted list has exactly the wire names of the
    header and query members of the operation, in statement order — none dropped, none added (any operation,
    any codec assignment; holds by construction of the conversion) -/
theorem C02_table_rows_covered {V : Type} (c : Binding → Codec V) (op : Op) :
    (opEBs c op).map (·.bind.wire)
      = ((implInputs op).filter fun b => b.loc == .header || b.loc == .query).map (·.wire) :=
  opEBs_wires c (implInputs op)

/-- the binding list of `opEBs` is the list `binds` of `helperModelVerdict` (decoder of each row from the codec) -/
theorem C02_table_binds_are_driver_binds {V : Type} (c : Binding → Codec V) (op : Op) :
    (opEBs c op).map (·.bind) = opBinds (fun b => (c b).dec) op := by
  simp only [opEBs, opBinds, List.map_filterMap]
  congr 1
  funext b
  simp only [rowEB, rowKind]
  cases bindKind b <;> rfl

theorem table_list_members (op : Op) : listMembersAreHeaders op = true :=
  Op.forall_of_all (p := fun op => listMembersAreHeaders op = true) (by decide +kernel) op

/-- a member treated as list-valued (`Kind.listHeader`) is bound to a header, in every operation — so the header /
    query side of a converted row is the location of its table row -/
theorem C02_table_list_members_are_headers : ∀ op : Op, ∀ b ∈ implInputs op,
    isListMember b = true → b.loc = .header :=
  fun op _ hb hi => listMember_loc (table_list_members op) hb hi

/-! ## `Distinct` on the table: from `C02_wire_names_distinct` -/

theorem table_shape_nodup (op : Op) : (opShape op).Nodup := by
  apply opShape_nodup (table_list_members op)
  have h := C02_wire_names_distinct op
  rwa [show (fun b : Binding => b.loc == .query || b.loc == .header) = isHQ from
    funext fun b => Bool.or_comm _ _] at h

theorem table_shape_distinct (op : Op) : distinctB (opShape op) = true :=
  (distinctB_iff_nodup _).mpr (table_shape_nodup op)

/-- hypothesis `hd` of `C02_decode_encode` holds at every operation of the table, whatever the codecs: no two
    converted members of one operation share (header-or-query side, wire name) -/
theorem C02_table_bindings_distinct {V : Type} (c : Binding → Codec V) : ∀ op : Op, Distinct (opEBs c op) :=
  fun op => distinct_of_nodup _ (shape_opEBs c op ▸ table_shape_nodup op)

/-- for every operation of the table, every assignment of scalar codecs to its members, every list of slots
    conforming to the operation's header / query bindings (optional members present or absent, lists of any
    length, values of any size, each value's text decoding back: `Conf`) and any foreign headers / query pairs not
    named like a member: decoding the Smithy REST encoding with the operation's own generated binding list —
    `opBinds`, the list of `helperModelVerdict` — yields exactly those slots. No hypothesis on the table is left. -/
theorem C02_decode_encode_every_operation {V : Type} (op : Op) (c : Binding → Codec V) (ss : List (Slot V))
    (extraH extraQ : List (Name × Bytes))
    (hc : Conf (opEBs c op) ss)
    (hH : ∀ b ∈ opEBs c op, isHeaderKind b.bind.kind = true → getAll extraH b.bind.wire = [])
    (hQ : ∀ b ∈ opEBs c op, isHeaderKind b.bind.kind = false → getAll extraQ b.bind.wire = []) :
    decodeAll (encode extraH extraQ (opEBs c op) ss) (opBinds (fun b => (c b).dec) op) = .ok ss := by
  rw [← C02_table_binds_are_driver_binds]
  exact C02_decode_encode (opEBs c op) ss extraH extraQ hc (C02_table_bindings_distinct c op) hH hQ

/-- the same with the condition on the foreign names stated on the rows of the generated table: no foreign header
    is named like a header member of the operation, no foreign query pair like a query member -/
theorem C02_decode_encode_every_operation_table_names {V : Type} (op : Op) (c : Binding → Codec V)
    (ss : List (Slot V)) (extraH extraQ : List (Name × Bytes))
    (hc : Conf (opEBs c op) ss)
    (hH : ∀ b ∈ implInputs op, b.loc = .header → getAll extraH b.wire = [])
    (hQ : ∀ b ∈ implInputs op, b.loc = .query → getAll extraQ b.wire = []) :
    decodeAll (encode extraH extraQ (opEBs c op) ss) (opBinds (fun b => (c b).dec) op) = .ok ss := by
  apply C02_decode_encode_every_operation op c ss extraH extraQ hc
  · intro eb heb hk
    obtain ⟨b, hb, hw, hloc⟩ := mem_opEBs_row (table_list_members op) heb
    exact hw ▸ hH b hb (by rw [hloc, hk]; rfl)
  · intro eb heb hk
    obtain ⟨b, hb, hw, hloc⟩ := mem_opEBs_row (table_list_members op) heb
    exact hw ▸ hQ b hb (by rw [hloc, hk]; rfl)

/-! ## non-vacuity -/

/-- identity codec on byte strings for every member -/
def idCodec : Binding → Codec Bytes := fun _ => ⟨some, id⟩

/-- `ListObjectsV2` has ten header / query members, among them a list-valued header -/
example : (opEBs idCodec .ListObjectsV2).map (fun b => (b.bind.kind, b.bind.wire)) =
    [(.optQuery, [99, 111, 110, 116, 105, 110, 117, 97, 116, 105, 111, 110, 45, 116, 111, 107, 101, 110]),
     (.optQuery, [100, 101, 108, 105, 109, 105, 116, 101, 114]),
     (.optQuery, [101, 110, 99, 111, 100, 105, 110, 103, 45, 116, 121, 112, 101]),
     (.optHeader, [120, 45, 97, 109, 122, 45, 101, 120, 112, 101, 99, 116, 101, 100, 45, 98, 117, 99, 107, 101,
        116, 45, 111, 119, 110, 101, 114]),
     (.optQuery, [102, 101, 116, 99, 104, 45, 111, 119, 110, 101, 114]),
     (.optQuery, [109, 97, 120, 45, 107, 101, 121, 115]),
     (.listHeader false, [120, 45, 97, 109, 122, 45, 111, 112, 116, 105, 111, 110, 97, 108, 45, 111, 98, 106, 101,
        99, 116, 45, 97, 116, 116, 114, 105, 98, 117, 116, 101, 115]),
     (.optQuery, [112, 114, 101, 102, 105, 120]),
     (.optHeader, [120, 45, 97, 109, 122, 45, 114, 101, 113, 117, 101, 115, 116, 45, 112, 97, 121, 101, 114]),
     (.optQuery, [115, 116, 97, 114, 116, 45, 97, 102, 116, 101, 114])] := by
  decide +kernel

/-- the slots of a `ListObjectsV2` request: continuation-token `tok`, delimiter `/`, no encoding-type,
    expected-bucket-owner `123456789012`, fetch-owner `true`, max-keys `1000`, optional object attributes
    `[RestoreStatus]`, prefix `photos/2024/`, no request-payer, no start-after -/
def exSlots : List (Slot Bytes) :=
  [.opt (some [116, 111, 107]), .opt (some [47]), .opt none,
   .opt (some [49, 50, 51, 52, 53, 54, 55, 56, 57, 48, 49, 50]), .opt (some [116, 114, 117, 101]),
   .opt (some [49, 48, 48, 48]), .many [[82, 101, 115, 116, 111, 114, 101, 83, 116, 97, 116, 117, 115]],
   .opt (some [112, 104, 111, 116, 111, 115, 47, 50, 48, 50, 52, 47]), .opt none, .opt none]

/-- foreign headers `host: example.com`, `authorization: AWS4-HMAC-SHA256 x` -/
def exHeaders : List (Name × Bytes) :=
  [([104, 111, 115, 116], [101, 120, 97, 109, 112, 108, 101, 46, 99, 111, 109]),
   ([97, 117, 116, 104, 111, 114, 105, 122, 97, 116, 105, 111, 110],
    [65, 87, 83, 52, 45, 72, 77, 65, 67, 45, 83, 72, 65, 50, 53, 54, 32, 120])]

/-- foreign query pairs `list-type=2`, `x-id=ListObjectsV2` -/
def exQuery : List (Name × Bytes) :=
  [([108, 105, 115, 116, 45, 116, 121, 112, 101], [50]),
   ([120, 45, 105, 100], [76, 105, 115, 116, 79, 98, 106, 101, 99, 116, 115, 86, 50])]

/-- the hypotheses of `C02_decode_encode_every_operation_table_names` are met by a realistic `ListObjectsV2`
    request, so the theorem fires -/
example : decodeAll (encode exHeaders exQuery (opEBs idCodec .ListObjectsV2) exSlots)
    (opBinds (fun _ => some) .ListObjectsV2) = .ok exSlots := by
  apply C02_decode_encode_every_operation_table_names .ListObjectsV2 idCodec exSlots exHeaders exQuery
  · exact conf_of_confB _ _ (by decide +kernel)
  · decide +kernel
  · decide +kernel

/-- … and the encoded request is not degenerate: four header lines (two foreign, `x-amz-expected-bucket-owner`, one
    element of `x-amz-optional-object-attributes`) and seven query pairs (two foreign, five members sent) -/
example : (encode exHeaders exQuery (opEBs idCodec .ListObjectsV2) exSlots).headers.length = 4 ∧
    ((encode exHeaders exQuery (opEBs idCodec .ListObjectsV2) exSlots).query.map List.length) = some 7 := by
  decide +kernel

/-- a second instance with per-member codecs of different types: `fetch-owner` is a Boolean, the other members are
    strings (`V` = string or Boolean) -/
def mixedCodec : Binding → Codec (Bytes ⊕ Bool) := fun b =>
  if b.wire = [102, 101, 116, 99, 104, 45, 111, 119, 110, 101, 114] then
    ⟨fun t => if t = [116, 114, 117, 101] then some (.inr true)
        else if t = [102, 97, 108, 115, 101] then some (.inr false) else none,
     fun v => match v with
       | .inr true => [116, 114, 117, 101]
       | .inr false => [102, 97, 108, 115, 101]
       | .inl _ => []⟩
  else
    ⟨fun t => some (.inl t), fun v => match v with | .inl t => t | .inr _ => []⟩

def exSlotsMixed : List (Slot (Bytes ⊕ Bool)) :=
  [.opt none, .opt (some (.inl [47])), .opt none, .opt none, .opt (some (.inr true)),
   .opt (some (.inl [49, 48, 48, 48])),
   .many [.inl [82, 101, 115, 116, 111, 114, 101, 83, 116, 97, 116, 117, 115], .inl [69, 84, 97, 103]],
   .opt (some (.inl [112, 104, 111, 116, 111, 115, 47, 50, 48, 50, 52, 47])),
   .opt (some (.inl [114, 101, 113, 117, 101, 115, 116, 101, 114])), .opt none]

example : decodeAll (encode exHeaders exQuery (opEBs mixedCodec .ListObjectsV2) exSlotsMixed)
    (opBinds (fun b => (mixedCodec b).dec) .ListObjectsV2) = .ok exSlotsMixed := by
  apply C02_decode_encode_every_operation_table_names .ListObjectsV2 mixedCodec exSlotsMixed exHeaders exQuery
  · exact conf_of_confB _ _ (by decide +kernel)
  · decide +kernel
  · decide +kernel

/-- a required list header (`GetObjectAttributes`: `x-amz-object-attributes`) with two elements, everything
    else absent -/
example : decodeAll
    (encode exHeaders [] (opEBs idCodec .GetObjectAttributes)
      ((opEBs idCodec .GetObjectAttributes).map fun b =>
        if b.bind.kind = .listHeader true then .many [[69, 84, 97, 103], [79, 98, 106, 101, 99, 116, 83, 105, 122, 101]]
        else .opt none))
    (opBinds (fun _ => some) .GetObjectAttributes)
    = .ok ((opEBs idCodec .GetObjectAttributes).map fun b =>
        if b.bind.kind = .listHeader true then .many [[69, 84, 97, 103], [79, 98, 106, 101, 99, 116, 83, 105, 122, 101]]
        else .opt none) := by
  apply C02_decode_encode_every_operation_table_names .GetObjectAttributes idCodec _ exHeaders []
  · exact conf_of_confB _ _ (by decide +kernel)
  · decide +kernel
  · decide +kernel

/-- the table is not degenerate (pinned tree: 96 operations, 633 input members, 478 of them bound to a header or
    to the query string, up to 39 in one operation, every operation has at least one) -/
example : Op.all.length = 96 := by decide +kernel
example : (Op.all.map fun op => (opShape op).length).sum > 400 := by decide +kernel
example : (opShape .PutObject).length > 25 := by decide +kernel
example : Op.all.all (fun op => (opShape op).length > 0) = true := by decide +kernel

end S3V.C02

#print axioms S3V.C02.C02_table_locations
#print axioms S3V.C02.C02_table_rows_covered
#print axioms S3V.C02.C02_table_binds_are_driver_binds
#print axioms S3V.C02.C02_table_list_members_are_headers
#print axioms S3V.C02.C02_table_bindings_distinct
#print axioms S3V.C02.C02_decode_encode_every_operation
#print axioms S3V.C02.C02_decode_encode_every_operation_table_names
