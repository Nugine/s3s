import S3V.Model.HttpScalar
import S3V.Spec.Dto
import S3V.Thm.XmlEscape
import S3V.Thm.Decimal
/-!
# C02 — the scalar layer: which texts the typed members accept, and what they denote

`C02_decode_encode` and the rejection theorems are parametric in the scalar decoder. Here the scalar decoders
themselves, the header readers of `http/de.rs` (tied to the code by the `hscalar` cases of component `dto`, which call the real
`TryFromHeaderValue` impls on texts of every lexical shape):

* an integer member accepts exactly the decimal numerals — an optional single sign, then at least one digit, nothing
  before, between or after — whose value fits the type, and denotes that value (`C02_scalar_int_iff`): no prefix
  parse, no white space, no wrap-around;
* what the encoder writes for a value in range is read back as that value (`C02_scalar_int_roundtrip`);
* a Boolean member accepts exactly four spellings (`C02_scalar_bool_iff`), two as query / form member
  (`C02_scalar_strbool_iff`);
* a string member is the header text itself, and is refused only when the text is not visible ASCII
  (`C02_scalar_string_verbatim`).
-/
namespace S3V.C02Scalar
open S3V S3V.HttpScalar S3V.DtoSpec

/-- the text is a decimal numeral for `i`: `["+" | "-"] 1*DIGIT` -/
def DenotesInt (t : Bytes) (i : Int) : Prop :=
  ∃ ds v, Digits ds v ∧ ((t = ds ∧ i = (v : Int)) ∨ (t = 43 :: ds ∧ i = (v : Int)) ∨ (t = 45 :: ds ∧ i = -(v : Int)))

theorem body_iff (lo hi : Int) (neg : Bool) (body : Bytes) (i : Int) :
    Xml.parseIntBody lo hi neg body = some i ↔
      ∃ v, Digits body v ∧ i = (if neg then -(v : Int) else (v : Int)) ∧ lo ≤ i ∧ i ≤ hi :=
  Xml.parseIntBody_eq_some_iff lo hi neg body i

theorem digits_head_digit {ds : Bytes} {v : Nat} (h : Digits ds v) : ∃ c r, ds = c :: r ∧ isDigit c = true :=
  digits_cons h

theorem isDigit_ne_sign {c : UInt8} (h : isDigit c = true) : c ≠ 43 ∧ c ≠ 45 :=
  ⟨digit_ne c h 43 (by decide), digit_ne c h 45 (by decide)⟩

/-- **Integer members accept exactly the decimal numerals in range, and denote their value** -/
theorem C02_scalar_int_iff (lo hi : Int) (t : Bytes) (i : Int) :
    Xml.parseInt lo hi t = some i ↔ DenotesInt t i ∧ lo ≤ i ∧ i ≤ hi :=
  Xml.parseInt_eq_some_iff lo hi t i

/-- instances at the two integer member types of the header readers -/
theorem C02_scalar_i32_iff (t : Bytes) (i : Int) :
    hdrI32 t = some i ↔ DenotesInt t i ∧ Xml.i32Min ≤ i ∧ i ≤ Xml.i32Max := C02_scalar_int_iff _ _ t i

theorem C02_scalar_i64_iff (t : Bytes) (i : Int) :
    hdrI64 t = some i ↔ DenotesInt t i ∧ Xml.i64Min ≤ i ∧ i ≤ Xml.i64Max := C02_scalar_int_iff _ _ t i

/-- what the encoder writes for a value of the type is read back as that value -/
theorem C02_scalar_int_roundtrip (i : Int) :
    (Xml.i32Min ≤ i → i ≤ Xml.i32Max → hdrI32 (Xml.fmtInt i) = some i) ∧
    (Xml.i64Min ≤ i → i ≤ Xml.i64Max → hdrI64 (Xml.fmtInt i) = some i) :=
  ⟨fun h1 h2 => Xml.parseInt_fmtInt h1 h2, fun h1 h2 => Xml.parseInt_fmtInt h1 h2⟩

/-- nothing but the numeral: a text with a byte that is neither a digit nor a leading sign is refused, whatever the range -/
theorem C02_scalar_int_no_garbage (lo hi : Int) (t : Bytes) (i : Int) (h : Xml.parseInt lo hi t = some i) :
    ∀ c ∈ t.drop 1, isDigit c = true := by
  obtain ⟨⟨ds, v, hd, hcase⟩, _, _⟩ := (C02_scalar_int_iff lo hi t i).mp h
  have hall := S3V.digitsVal_all_digits hd.2
  rcases hcase with ⟨rfl, _⟩ | ⟨rfl, _⟩ | ⟨rfl, _⟩
  · intro c hc; exact hall c (List.mem_of_mem_drop hc)
  · simpa using hall
  · simpa using hall

/-- **Boolean header members: exactly four spellings** -/
theorem C02_scalar_bool_iff (t : Bytes) (b : Bool) :
    hdrBool t = some b ↔ (b = true ∧ (t = sTrue ∨ t = sTrueCap)) ∨ (b = false ∧ (t = sFalse ∨ t = sFalseCap)) := by
  unfold hdrBool
  by_cases h1 : t = sTrue ∨ t = sTrueCap
  · rw [if_pos h1]
    have hne : ¬ (t = sFalse ∨ t = sFalseCap) := by
      rcases h1 with rfl | rfl <;> decide
    cases b <;> simp [h1, hne]
  · rw [if_neg h1]
    by_cases h2 : t = sFalse ∨ t = sFalseCap
    · rw [if_pos h2]; cases b <;> simp [h1, h2]
    · rw [if_neg h2]; cases b <;> simp [h1, h2]

/-- Boolean query / form members (`bool::from_str`): exactly two spellings -/
theorem C02_scalar_strbool_iff (t : Bytes) (b : Bool) :
    strBool t = some b ↔ (b = true ∧ t = sTrue) ∨ (b = false ∧ t = sFalse) := by
  unfold strBool
  by_cases h1 : t = sTrue
  · subst h1; cases b <;> simp [sTrue, sFalse]
  · rw [if_neg h1]
    by_cases h2 : t = sFalse
    · subst h2; cases b <;> simp [sTrue, sFalse]
    · rw [if_neg h2]; cases b <;> simp [h1, h2]

/-- **String members are the header text itself**; the only refusal is a text `to_str` refuses -/
theorem C02_scalar_string_verbatim (t : Bytes) :
    (∀ s, hdrString t = some s → s = t) ∧ (hdrString t = none ↔ visible t = false) := by
  unfold hdrString
  by_cases h : visible t = true
  · simp [h]
  · simp [h]

/-- non-vacuity and the boundary cases, by evaluation -/
example : hdrI32 [43, 55] = some 7 ∧ hdrI32 [48, 48, 55] = some 7 ∧ hdrI32 [45, 48] = some 0 ∧
    hdrI32 [50, 49, 52, 55, 52, 56, 51, 54, 52, 55] = some 2147483647 ∧
    hdrI32 [50, 49, 52, 55, 52, 56, 51, 54, 52, 56] = none ∧
    hdrI32 [45, 50, 49, 52, 55, 52, 56, 51, 54, 52, 56] = some (-2147483648) ∧
    hdrI32 [49, 50, 97] = none ∧ hdrI32 [32, 55] = none ∧ hdrI32 [55, 32] = none ∧ hdrI32 [] = none ∧
    hdrI32 [43] = none ∧ hdrI32 [43, 45, 49] = none ∧
    hdrBool [84, 82, 85, 69] = none ∧ hdrBool sTrueCap = some true ∧ strBool sTrueCap = none := by decide

end S3V.C02Scalar
