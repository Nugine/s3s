import S3V.Thm.CallGlue
import S3V.Props.C04
/-!
# C04 — every error of every stage becomes the response (property theorems about the plumbing)

`S3V.Props.C04` proves what `serialize_error` writes.  This file proves that the hand-written `ops::call`, the
generated `Operation::call` bodies (templates matched line by line by the translator, `C01_call_shape`) and
`S3Service::call` hand *every* `S3Error` of *every* stage to it — whatever the stages are (they are parameters: any
request, any configuration, any backend) — so that the answer to a request whose processing fails anywhere is the
error document of the first failure, and `S3Service::call` never returns `Err`.

Outside the theorem (fuzzcall run only): that the stages themselves return instead of panicking.
-/
namespace S3V.C04
open S3V S3V.Gen.Errors S3V.ErrorDoc S3V.ErrorDocSpec S3V.ErrorDocThm S3V.CallGlue

/-- clause "every request gets an HTTP response": whatever the stages answer, `S3Service::call` returns `Ok` -/
theorem C04_call_total (prep : Except S3Error Prepared) : ∃ r, serviceCall prep = .ok r := by
  unfold serviceCall
  have h := opsCall_cases prep
  cases hf : firstError prep with
  | some e =>
    rw [hf] at h
    obtain ⟨r, hr⟩ := C04_serialize_error_total e false
    exact ⟨r, by rw [h, hr]⟩
  | none =>
    rw [hf] at h
    obtain ⟨r, -, ho⟩ := h
    exact ⟨r, by rw [ho]⟩

/-- clause "every error … is rendered as an S3 error document": if any stage fails, the response is
    `serialize_error` of the FIRST failure in execution order (prepare; deserialisation; typed access hook;
    GetObject's header pre-check; backend; serialisation — or the custom route's access check, then its handler),
    with the XML declaration -/
theorem C04_call_error_rendered (prep : Except S3Error Prepared) (e : S3Error) (h : firstError prep = some e) :
    opsCall prep = serializeError e false := by
  have := opsCall_cases prep
  rwa [h] at this

/-- no failure ⇒ the response is the operation's (or the route's) own, untouched -/
theorem C04_call_success_passthrough (prep : Except S3Error Prepared) (h : firstError prep = none) :
    ∃ r, successResponse prep = some r ∧ opsCall prep = some r := by
  have := opsCall_cases prep
  rwa [h] at this

/-- the composition with `S3V.Props.C04`: a request whose processing fails at any stage is answered with a
    response whose body an independent XML reader reads back to exactly the code, message and request id of the first
    failure, whose status is the override, else the table's, else 500 — a status AWS documents for the code —, and
    which carries the error's headers -/
theorem C04_call_error_document (prep : Except S3Error Prepared) (e : S3Error) (name : Bytes)
    (h : firstError prep = some e) (hname : asStr e.code = some name) (hc : Carriable name e) :
    ∃ r, serviceCall prep = .ok r ∧
      parseErrorDoc r.body = some { code := name, message := e.message, requestId := e.requestId } ∧
      statusAcceptable e.statusCode (documented e.code) r.status = true ∧
      headersIncluded (e.headers.getD []) r.headers = true := by
  obtain ⟨r, hr⟩ := C04_serialize_error_total e false
  refine ⟨r, ?_, C04_error_doc_roundtrip e false r name hr hname hc, C04_status_documented e false r hr,
    (C04_headers_rule e false r hr).1⟩
  simp [serviceCall, C04_call_error_rendered prep e h, hr]

/-- a backend error is rendered by the generated call itself (`return serialize_error(err, false)`) and only after
    deserialisation, the typed hook and the pre-check succeeded, i.e. only when the backend method really ran -/
theorem C04_backend_error_rendered_in_call (s : OpStages) (e : S3Error) (hb : s.backend = .error e)
    (hran : backendRan s = true) : opCall s = .ok (serializeError e false) := by
  unfold backendRan at hran
  unfold opCall
  split at hran <;> simp_all

/-! non-vacuity: a GetObject-like call whose backend answers NoSuchKey with a message and a request id -/
def exErr : S3Error :=
  { code := .known .NoSuchKey, message := some [110, 111, 32, 60, 107, 101, 121, 62], requestId := some [49],
    statusCode := none, headers := none }

def exStages : OpStages :=
  { deser := .ok (), hook := some (.ok ()), pre := .ok (), backend := .error exErr,
    ser := .ok { status := 200, headers := [], body := [] } }

example : firstError (.ok (.s3 exStages)) = some exErr := rfl
example : backendRan exStages = true := rfl

end S3V.C04
