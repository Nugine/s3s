import S3V.Gen.Consts
import S3V.Props.C05
import S3V.Thm.CryptoKat
/-!
# C05 — constants of the hand-written code, re-read from the source on every run (tie A, translate/consts.py)
-/
namespace S3V.C05
open S3V

/-- `EMPTY_STRING_SHA256_HASH` (the payload line signed for an empty body, whatever the method — `headerPayload`, code
    since 4d2a913 — and of empty chunks) is the constant of the model and IS the lower-case hex SHA-256 of the empty
    string (the digest is the known answer `Crypto.sha256_empty`, computed by the kernel with the executable SHA-256 of
    the driver) -/
theorem C05_empty_payload_digest_from_source :
    Gen.Consts.emptySha256Hex = SigV4.emptySha256 ∧
    Gen.Consts.emptySha256Hex = Crypto.hexLower (Crypto.sha256 []) := by
  rw [Crypto.sha256_empty]
  decide +kernel

end S3V.C05
