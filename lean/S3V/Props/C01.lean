import S3V.Thm.Route
import S3V.Thm.OpAll
/-!
# C01 — every REST request is dispatched to exactly the operation it denotes (property theorems only)

Quantifiers: every exposed operation of the Smithy model (`Op`, regenerated from the code on every run) and
every request in the router's view (`RReq`: arbitrary presence/value of every query key, arbitrary header set).
The tables `routeTable`, `smithySpec`, `usesBufferedBody`, `unwrapsKind`, `callTemplate` are regenerated from
`ops/generated.rs` and `data/s3.json` by `translate/ops_tables.py` on every run, so the table obligations
below are re-decided by the kernel against what the code says now.
-/
namespace S3V.C01
open S3V.Gen S3V.Route S3V.RouteSpec S3V.RouteThm

/-- table obligation: for every operation the symbolic walk of its arm succeeds -/
theorem C01_table_complete : ∀ op : Op, checkOp op = true :=
  Op.forall_of_all (by decide +kernel)

/-- table obligation: every rule and default of every arm carries the literal parts of its operation -/
theorem C01_table_sound : ∀ (m : Meth) (pk : PK), checkArm m pk = true :=
  forall_arm (by decide +kernel)

/-- a well-formed request of an operation is dispatched to that operation (and to no other), with the
    buffered-body flag the operation's input decoder needs — for all operations and all requests -/
theorem C01_route_complete (op : Op) (r : RReq) (h : Denotes (smithySpec op) r) :
    resolve r = some (op, usesBufferedBody op) :=
  checkOp_sound (C01_table_complete op) h

/-- hence two different operations are never denoted by the same request (dispatch is a function) -/
theorem C01_denotes_unique (op₁ op₂ : Op) (r : RReq)
    (h₁ : Denotes (smithySpec op₁) r) (h₂ : Denotes (smithySpec op₂) r) : op₁ = op₂ := by
  have e₁ := C01_route_complete op₁ r h₁
  have e₂ := C01_route_complete op₂ r h₂
  rw [e₁] at e₂
  injection e₂ with e₂
  injection e₂

/-- whatever operation the router selects, the request carries that operation's method, path kind, literal
    query parts and required discriminating headers -/
theorem C01_route_sound (r : RReq) (op : Op) (b : Bool) (h : resolve r = some (op, b)) :
    WeaklyDenotes (smithySpec op) r :=
  checkArm_sound (C01_table_sound r.method r.pk) h

/-- a request that denotes no operation (not even weakly) is answered with an error by the router -/
theorem C01_route_none (r : RReq) (h : ∀ op, ¬ WeaklyDenotes (smithySpec op) r) : resolve r = none := by
  cases hres : resolve r with
  | none => rfl
  | some p =>
    obtain ⟨op, b⟩ := p
    exact absurd (C01_route_sound r op b hres) (h op)

/-- panic-freedom obligations that are logic: an operation reached through an arm unwraps exactly the path
    kind of that arm (`unwrap_bucket` / `unwrap_object` cannot hit their `unreachable`), and an operation that
    takes a buffered body is only reached with the full-body flag set (`take_xml_body` finds the bytes) -/
theorem C01_unwrap_and_body_consistent : ∀ (m : Meth) (pk : PK), armConsistent m pk = true :=
  forall_arm (by decide +kernel)

/-- every operation's `call` has one of the three recognised shapes (exactly one typed access hook followed by
    exactly one invocation of the operation's own backend method; the translator matches the body line by
    line), has a typed hook and a backend method -/
theorem C01_call_shape : ∀ op : Op, hasTypedHook op = true ∧
    (callTemplate op).1 = (if op = .CompleteMultipartUpload then .keepAlive else if op = .GetObject then .getObject else .ordinary) :=
  Op.forall_of_all (by decide +kernel)

/-! non-vacuity: a concrete request denoting `ListObjectsV2` (GET /bucket?list-type=2&prefix=…) -/
def exampleReq : RReq :=
  { method := .GET, pk := .bucket,
    q := fun k => if k = .q_list_type then .once .v_2 else if k = .q_prefix then .once .other else .absent,
    h := fun _ => false }

theorem exampleReq_denotes : Denotes (smithySpec .ListObjectsV2) exampleReq := by
  refine ⟨rfl, rfl, by decide, by decide, by decide, fun k hk => ?_, by decide, nofun⟩
  simp only [exampleReq] at hk
  by_cases h1 : k = .q_list_type
  · subst h1; decide
  · by_cases h2 : k = .q_prefix
    · subst h2; decide
    · rw [if_neg h1, if_neg h2] at hk
      exact absurd rfl hk

example : resolve exampleReq = some (.ListObjectsV2, false) :=
  C01_route_complete _ _ exampleReq_denotes

end S3V.C01
