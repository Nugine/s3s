import S3V.Thm.HttpSerTable
import S3V.Thm.OpAll
/-!
# C03 (output direction of the REST binding, every operation) — header-bound output members are read back by a
standard client: property theorems and, from `namespace Example` on, a worked `HeadObject` / `GetObject` instance

"The typed output … a backend method returns is what a standards-conforming S3 client decodes from the HTTP
response: the same member values … and every extra header the backend attached."
Quantifier: all operations × all values of their output structures × response metadata.

* model (`Model/HttpSerHeaders.lean`): `add_opt_header`, `add_opt_header_timestamp`, `add_opt_metadata`, the header
  effect of the body setters, the statement sequence of a generated `serialize_http`; `HeaderMap::insert`
  replaces (`hInsert`); the tail of `Operation::call` is `S3V.KeepAlive.opCall` / `getObjectCall`.
* client (`Spec/HttpRespBinding.lean`): Smithy `httpHeader` / `httpPrefixHeaders` on the field lines received
  (RFC 9110: names case-insensitive; white space around a line's value stripped — `trimOws`).
* table (`Gen/Bindings.lean`, regenerated from `ops/generated.rs` on every run): `implOutputs op`.

The scalar conversion of each member type (`TryIntoHeaderValue`, `fmt_timestamp`) is the parameter `conv`
(`none` = `Err`), the client's parser the parameter `dec`; the hypothesis is `dec (trimOws (conv v)) = v` on the
values actually returned (a string with leading or trailing white space cannot travel in an HTTP field value,
whoever the server is). No bound on the number of members, on the size of values or of the metadata map.
-/
namespace S3V.C03
open S3V S3V.Gen S3V.KeepAlive S3V.HttpSerHeaders S3V.HttpRespBinding S3V.HttpSerThm

/-- Header-bound members, the metadata family and extra headers round-trip (any statement list).
    Let `serialize_http` consist of the header statements `stmts` (any number, any order) run on the map
    `init` the body setter left, and return `Ok` with headers `ser`; let the backend have attached the extra
    headers `extras`, so that `(opCall ⟨status, ser⟩ st extras).headers` goes on the wire. Side conditions, all
    decidable: member wire names pairwise distinct, lower-case, none starting with `x-amz-meta-`, at most one
    metadata statement (`sideOkB`); `init` and `extras` are header maps whose names are not member names; `init`
    holds no prefixed name; the metadata keys stay distinct as (case-insensitive) header names. Then a client
    reading the field lines by the Smithy rules gets
    1. for every header-bound member: exactly the value the backend set, and "absent" if it set none;
    2. provided no extra header is prefixed: the metadata map back (`MetadataReadBack`: equal as a set of
       pairs up to the normalisation `normKey` = lower-casing of keys and the stripping of white space around
       values; equal outright for lower-case keys and trimmed values; one value per key; empty if none returned);
    3. every extra header, with exactly the backend's values (as the parser hands them over: `trimOws`);
    4. under any other name exactly what the body setter put there (nothing is invented). -/
theorem C03_header_members_roundtrip {T V : Type}
    (full : Hdrs → HName → Bool) (conv : T → V → Option HVal) (dec : T → HVal → Option V)
    (init : Hdrs) (stmts : List (Stmt T V)) (ser : Hdrs) (status : Nat) (st : Option Nat) (extras : Hdrs)
    (hside : sideOkB (stmts.map Stmt.shape) = true)
    (hcodec : ∀ n t v text, Stmt.optHeader n t (some v) ∈ stmts → conv t v = some text → dec t (trimOws text) = some v)
    (hmd : ∀ md, Stmt.optMetadata (some md) ∈ stmts → (md.map fun kv => normKey kv.1).Nodup)
    (hinit : WFL init) (hinitM : ∀ n ∈ names init, n ∉ stmtHdrNames stmts ∧ ¬ metaPrefix <+: n)
    (hextras : WFL extras) (hexM : ∀ n ∈ names extras, n ∉ stmtHdrNames stmts)
    (hser : serializeHeaders full conv init stmts = .ok ser) :
    let lines := wireLines (opCall ⟨status, ser⟩ st extras).headers
    (∀ n t val, Stmt.optHeader n t val ∈ stmts → readTyped (dec t) lines n = val.map some)
    ∧ ((∀ n ∈ names extras, ¬ metaPrefix <+: n) → MetadataReadBack stmts lines)
    ∧ (∀ n vs, (n, vs) ∈ extras → fieldValues lines n = vs.map trimOws)
    ∧ (∀ m, lowerName m = m → m ∉ stmtHdrNames stmts → ¬ metaPrefix <+: m → m ∉ names extras →
        fieldValues lines m = (hGetAll init m).map trimOws) := by
  have S : Setup full conv init stmts ser := ⟨(sideOkB_iff _).mp hside, hmd, hinit, hinitM, hser⟩
  have hwf : WFL (hExtend ser extras) := WFL_hExtend S.serWF hextras.lower
  simp only [opCall]
  refine ⟨fun n t val hm => S.read_member hwf hcodec hm
      (hGetAll_hExtend_of_not_mem (fun hin => hexM n hin (mem_stmtHdrNames hm)) _),
    fun hnp => S.metadataReadBack hwf fun k => hGetAll_hExtend_of_not_mem (fun hin => hnp _ hin (prefix_meta k)) _,
    fun n vs hm => ?_, fun m hl h1 h2 h3 => ?_⟩
  · rw [fieldValues_wireLines hwf (hextras.lower n (List.mem_map.mpr ⟨_, hm, rfl⟩)),
      hGetAll_hExtend_of_mem hextras.nodup hm]
  · rw [fieldValues_wireLines hwf hl, hGetAll_hExtend_of_not_mem h3, S.frame h1 h2]

/-- `serialize_http` does return `Ok` — with the body setter's map after the statements' `insert`s — whenever
    every conversion succeeds (`stmtOkB`: `try_into_header_value` / `fmt_timestamp` of each set member,
    `HeaderName::from_bytes("x-amz-meta-" + key)` and `HeaderValue::try_from(val)` of each metadata pair) and the
    header map does not overflow; so the hypothesis `hser` above is no restriction beyond these. -/
theorem C03_serialize_headers_succeeds {T V : Type} (full : Hdrs → HName → Bool) (hfull : ∀ h n, full h n = false)
    (conv : T → V → Option HVal) (init : Hdrs) (stmts : List (Stmt T V))
    (hok : stmts.all (stmtOkB conv) = true) :
    serializeHeaders full conv init stmts = .ok (applyWrites init (allWrites conv stmts)) :=
  serializeHeaders_eq_ok.mpr ⟨hok, insertAll_of_not_full hfull _⟩

/-- … and only then: `Ok` implies that every conversion succeeded -/
theorem C03_serialize_headers_ok_only_if {T V : Type} (full : Hdrs → HName → Bool) (conv : T → V → Option HVal)
    (init ser : Hdrs) (stmts : List (Stmt T V)) (hser : serializeHeaders full conv init stmts = .ok ser) :
    stmts.all (stmtOkB conv) = true ∧ ser = applyWrites init (allWrites conv stmts) :=
  serializeHeaders_ok hser

/-- The side conditions hold at every operation of the real table: within one operation the header-bound
    output members have pairwise distinct, lower-case wire names, none of which starts with `x-amz-meta-`, and
    there is at most one prefix-bound member — no exception. -/
theorem C03_side_conditions_every_operation : ∀ op : Op, sideOkB (outputHeaderShapes op) = true := by
  -- the clauses of `sideOkB`, with names compared length first (see `nodupB`)
  have h : ∀ op : Op,
      (nodupB ((hdrNames (outputHeaderShapes op)).map fun n => (n.length, n))
      && (hdrNames (outputHeaderShapes op)).all (fun n => lowerName n == n && !metaPrefix.isPrefixOf n)
      && decide ((outputHeaderShapes op).countP Shape.isMeta ≤ 1)) = true := Op.forall_of_all (by decide +kernel)
  intro op
  have hop := h op
  simp only [Bool.and_eq_true] at hop
  obtain ⟨⟨h1, h2⟩, h3⟩ := hop
  have hn : (hdrNames (outputHeaderShapes op)).Nodup :=
    (nodupB_iff.mp h1).of_map _ fun a b hne he => hne (by rw [he])
  rw [sideOkB, decide_eq_true hn, h2, h3]
  rfl

/-- a statement list that is, in any order, the table's header rows of `op` meets the side conditions and has `op`'s header
    names -/
theorem sideOk_of_perm_table {V : Type} {op : Op} {stmts : List (Stmt Binding V)}
    (hshape : (stmts.map Stmt.shape).Perm (outputHeaderShapes op)) :
    SideOk (stmts.map Stmt.shape) ∧ ∀ n, n ∈ stmtHdrNames stmts ↔ n ∈ outputHeaderNames op :=
  ⟨SideOk.perm hshape ((sideOkB_iff _).mp (C03_side_conditions_every_operation op)),
    fun _ => (hshape.filterMap Shape.hdrName?).mem_iff⟩

/-- every prefix-bound output member is bound to the prefix `add_opt_metadata` writes (`x-amz-meta-`) -/
theorem C03_prefix_members_use_meta_prefix : ∀ op : Op, ∀ b ∈ implOutputs op, b.loc = .pfx → b.wire = metaPrefix :=
  Op.forall_of_all (by decide +kernel)

/-- the operations with a prefix-bound output member -/
theorem C03_prefix_member_operations :
    Op.all.filter (fun op => (implOutputs op).any fun b => b.loc == .pfx) = [.GetObject, .HeadObject] := by
  decide +kernel

/-- the side condition on the body statement `k` of `serialize_http` (it runs before the header statements):
    the headers it leaves (`content-type` for the XML setters, `transfer-encoding` for the event stream, none
    otherwise) are neither a header-bound member's name nor prefixed -/
def initOkB (op : Op) (k : BodyKind) : Bool :=
  (names (bodySetterHeaders k)).all fun n => !(outputHeaderNames op).contains n && !metaPrefix.isPrefixOf n

/-- all (operation, body statement) pairs at which that side condition fails -/
def initExceptions : List (Op × BodyKind) :=
  Op.all.flatMap fun op => BodyKind.all.filterMap fun k => if initOkB op k then none else some (op, k)

/-- Exceptions on the real table, all body statements considered: exactly two pairs. `GetObject` and
    `HeadObject` have a header-bound member `content-type`; after `set_xml_body` an unset `content_type` would
    be read back as `application/xml` (an `example` below exhibits it). Neither pair occurs in the real code:
    see `C03_body_statement_exceptions_admitted`. -/
theorem C03_body_statement_exceptions : initExceptions = [(.GetObject, .xml), (.HeadObject, .xml)] := by
  decide +kernel

/-- … and at every other pair it holds -/
theorem C03_init_ok_outside_exceptions : ∀ (op : Op) (k : BodyKind),
    (op, k) ≠ (.GetObject, .xml) → (op, k) ≠ (.HeadObject, .xml) → initOkB op k = true := by
  intro op k h1 h2
  cases h : initOkB op k with
  | true => rfl
  | false =>
    have hk : k ∈ BodyKind.all := by cases k <;> decide
    have hmem : (op, k) ∈ initExceptions :=
      List.mem_flatMap.mpr ⟨op, op.mem_all, List.mem_filterMap.mpr ⟨k, hk, by simp [h]⟩⟩
    rw [C03_body_statement_exceptions, List.mem_cons, List.mem_singleton] at hmem
    exact absurd hmem (not_or.mpr ⟨h1, h2⟩)

/-- which body statements the table admits for an operation: the output structure itself as XML (`bodySelf`)
    is `set_xml_body(&mut res, &x)`; a `payload` member is one of `set_xml_body`, `set_stream_body`,
    `set_event_stream_body`, `Body::from(string)` or — `if let Some(..)` not taken — nothing (the table does not
    record which: the translator drops the helper's name); otherwise there is no body statement -/
def tableBodyKinds (op : Op) : List BodyKind :=
  if (implOutputs op).any (fun b => b.loc == .bodySelf) then [.xml]
  else if (implOutputs op).any (fun b => b.loc == .payload) then BodyKind.all
  else [.none]

/-- the exceptions among the pairs the table admits: `HeadObject` has no body statement at all, which leaves
    `(GetObject, set_xml_body)`. The table cannot exclude it (it knows only that `GetObject` has a `payload`
    member); the source does: `GetObject::serialize_http` reads
    `if let Some(val) = x.body { http::set_stream_body(&mut res, val); }` (`ops/generated.rs`), and
    `set_stream_body` touches no header — body statement `.stream` (or `.none`), which is covered. -/
theorem C03_body_statement_exceptions_admitted :
    (initExceptions.filter fun p => (tableBodyKinds p.1).contains p.2) = [(.GetObject, .xml)] := by
  rw [C03_body_statement_exceptions]
  decide +kernel

theorem C03_table_stmts_shape {V : Type} (op : Op) (vals : Binding → Option V) (md : Option Metadata) :
    (tableStmts op vals md).map Stmt.shape = outputHeaderShapes op := by
  simp only [tableStmts, outputHeaderShapes, List.map_map]
  apply List.map_congr_left
  intro b _
  simp only [Function.comp, stmtOf, bindingShape]
  split <;> rfl

/-- Every operation: for every operation `op` of the generated table, every body statement `k` whose
    headers do not collide with a member (`initOkB`: all but the two pairs of `C03_body_statement_exceptions`,
    neither of which occurs in the real code), every statement list whose shapes are — in ANY order,
    so in particular in the source order of `serialize_http` — the header- and prefix-bound members of `op`,
    every assignment of values to them, every metadata map with keys distinct as header names, every set of
    extra headers not named like a member of `op`: the client reads back every member, the metadata map and
    every extra header, as in `C03_header_members_roundtrip`. The headers concerned are
    `resp.headers` after `resp.headers.extend(s3_resp.headers)` — for the ordinary `Operation::call` the response
    headers, for `CompleteMultipartUpload` (keep-alive) the trailer fields (`C03KeepAlive`); `GetObject::call`
    post-processes further: `C03_header_members_roundtrip_getobject`. -/
theorem C03_header_members_roundtrip_every_operation {V : Type} (op : Op) (k : BodyKind)
    (hk : initOkB op k = true)
    (full : Hdrs → HName → Bool) (conv : Binding → V → Option HVal) (dec : Binding → HVal → Option V)
    (stmts : List (Stmt Binding V)) (ser : Hdrs) (status : Nat) (st : Option Nat) (extras : Hdrs)
    (hshape : (stmts.map Stmt.shape).Perm (outputHeaderShapes op))
    (hcodec : ∀ n t v text, Stmt.optHeader n t (some v) ∈ stmts → conv t v = some text → dec t (trimOws text) = some v)
    (hmd : ∀ md, Stmt.optMetadata (some md) ∈ stmts → (md.map fun kv => normKey kv.1).Nodup)
    (hextras : WFL extras) (hexM : ∀ n ∈ names extras, n ∉ outputHeaderNames op)
    (hser : serializeHeaders full conv (bodySetterHeaders k) stmts = .ok ser) :
    let lines := wireLines (opCall ⟨status, ser⟩ st extras).headers
    (∀ n t val, Stmt.optHeader n t val ∈ stmts → readTyped (dec t) lines n = val.map some)
    ∧ ((∀ n ∈ names extras, ¬ metaPrefix <+: n) → MetadataReadBack stmts lines)
    ∧ (∀ n vs, (n, vs) ∈ extras → fieldValues lines n = vs.map trimOws)
    ∧ (∀ m, lowerName m = m → m ∉ outputHeaderNames op → ¬ metaPrefix <+: m → m ∉ names extras →
        fieldValues lines m = (hGetAll (bodySetterHeaders k) m).map trimOws) := by
  obtain ⟨hside, hnames⟩ := sideOk_of_perm_table hshape
  have hinit := hk
  simp only [initOkB, List.all_eq_true, Bool.and_eq_true, Bool.not_eq_true', List.contains_eq_mem,
    ← Bool.not_eq_true, decide_eq_true_eq, bytes_isPrefixOf_iff] at hinit
  have h := C03_header_members_roundtrip full conv dec (bodySetterHeaders k) stmts ser status st extras
    ((sideOkB_iff _).mpr hside) hcodec hmd
    (WFL_bodySetterHeaders k) (fun n hn => ⟨fun hin => (hinit n hn).1 ((hnames n).mp hin), (hinit n hn).2⟩)
    hextras (fun n hn hin => hexM n hn ((hnames n).mp hin)) hser
  refine ⟨h.1, h.2.1, h.2.2.1, ?_⟩
  intro m hl h1 h2 h3
  exact h.2.2.2 m hl (fun hin => h1 ((hnames m).mp hin)) h2 h3

/-- Every operation × every assignment, in the table's own terms: `vals b` is the value of the member bound
    by `b` (absent = `none`), `md` the metadata map. For every header-bound member `b` of `op` the client reads
    back `vals b`; the metadata map comes back; every extra header is present. -/
theorem C03_header_members_roundtrip_every_assignment {V : Type} (op : Op) (k : BodyKind)
    (hk : initOkB op k = true)
    (full : Hdrs → HName → Bool) (conv : Binding → V → Option HVal) (dec : Binding → HVal → Option V)
    (vals : Binding → Option V) (md : Option Metadata) (ser : Hdrs) (status : Nat) (st : Option Nat) (extras : Hdrs)
    (hcodec : ∀ b v text, b ∈ implOutputs op → vals b = some v → conv b v = some text → dec b (trimOws text) = some v)
    (hmd : ∀ m, md = some m → (m.map fun kv => normKey kv.1).Nodup)
    (hextras : WFL extras) (hexM : ∀ n ∈ names extras, n ∉ outputHeaderNames op)
    (hser : serializeHeaders full conv (bodySetterHeaders k) (tableStmts op vals md) = .ok ser) :
    let lines := wireLines (opCall ⟨status, ser⟩ st extras).headers
    (∀ b ∈ implOutputs op, b.loc = .header → readTyped (dec b) lines b.wire = (vals b).map some)
    ∧ ((∀ n ∈ names extras, ¬ metaPrefix <+: n) → MetadataReadBack (tableStmts op vals md) lines)
    ∧ (∀ n vs, (n, vs) ∈ extras → fieldValues lines n = vs.map trimOws) := by
  have h := C03_header_members_roundtrip_every_operation op k hk full conv dec (tableStmts op vals md) ser status
    st extras (by rw [C03_table_stmts_shape])
    (fun n t v text hs hc => by
      obtain ⟨hb, _, _, hv⟩ := mem_tableStmts_hdr.mp hs
      exact hcodec t v text hb hv.symm hc)
    (fun m hs => hmd m (mem_tableStmts_meta hs).symm) hextras hexM hser
  exact ⟨fun b hb hloc => h.1 _ _ _ (mem_tableStmts_hdr.mpr ⟨hb, hloc, rfl, rfl⟩), h.2.1, h.2.2.1⟩

/-- which tail of `Operation::call` an operation has (`Gen/Route.lean`, read from `ops/generated.rs`):
    `getObjectCall` for `GetObject`, the keep-alive wrapper for `CompleteMultipartUpload`, `opCall` otherwise -/
theorem C03_call_tails : ∀ op : Op, (callTemplate op).1 =
    if op = .GetObject then .getObject else if op = .CompleteMultipartUpload then .keepAlive else .ordinary :=
  Op.forall_of_all (by decide +kernel)

/-! ## `GetObject::call`: `response-*` overrides and `merge_custom_headers` come after `serialize_http` -/

/-- GetObject: the tail of `GetObject::call` is not `opCall`: the `response-*` request parameters
    (`overridden`) replace the like-named serialized headers (that is S3's semantics of those parameters),
    then the backend's extra headers are merged and `content-length` is dropped iff the merged
    `transfer-encoding` is `chunked`. Every header-bound member whose name is not overridden — and is not
    `content-length` in the chunked case — is read back; so are the metadata map (no prefixed name among the
    overrides or extras) and every extra header (same `content-length` proviso). -/
theorem C03_header_members_roundtrip_getobject {V : Type} (k : BodyKind) (hk : k = .stream ∨ k = .none)
    (full : Hdrs → HName → Bool) (conv : Binding → V → Option HVal) (dec : Binding → HVal → Option V)
    (stmts : List (Stmt Binding V)) (ser : Hdrs) (status : Nat) (st : Option Nat) (overridden extras : Hdrs)
    (hshape : (stmts.map Stmt.shape).Perm (outputHeaderShapes .GetObject))
    (hcodec : ∀ n t v text, Stmt.optHeader n t (some v) ∈ stmts → conv t v = some text → dec t (trimOws text) = some v)
    (hmd : ∀ md, Stmt.optMetadata (some md) ∈ stmts → (md.map fun kv => normKey kv.1).Nodup)
    (hov : WFL overridden) (hextras : WFL extras) (hexM : ∀ n ∈ names extras, n ∉ outputHeaderNames .GetObject)
    (hser : serializeHeaders full conv (bodySetterHeaders k) stmts = .ok ser) :
    let lines := wireLines (getObjectCall ⟨status, ser⟩ overridden st extras).headers
    let chunked := hGet (hExtend (hExtend ser overridden) extras) hTransferEncoding = some vChunked
    (∀ n t val, Stmt.optHeader n t val ∈ stmts → n ∉ names overridden → ¬ (n = hContentLength ∧ chunked) →
        readTyped (dec t) lines n = val.map some)
    ∧ ((∀ n ∈ names overridden, ¬ metaPrefix <+: n) → (∀ n ∈ names extras, ¬ metaPrefix <+: n) →
        MetadataReadBack stmts lines)
    ∧ (∀ n vs, (n, vs) ∈ extras → ¬ (n = hContentLength ∧ chunked) → fieldValues lines n = vs.map trimOws) := by
  obtain ⟨hside, hnames⟩ := sideOk_of_perm_table hshape
  have hinitE : bodySetterHeaders k = [] := by rcases hk with rfl | rfl <;> rfl
  have S : Setup full conv (bodySetterHeaders k) stmts ser :=
    ⟨hside, hmd, WFL_bodySetterHeaders k, by rw [hinitE]; simp, hser⟩
  have hx : WFL (hExtend (hExtend ser overridden) extras) := WFL_hExtend (WFL_hExtend S.serWF hov.lower) hextras.lower
  have hwf : WFL (mergeCustomHeaders (hExtend ser overridden) extras) := WFL_mergeCustomHeaders hx
  simp only [getObjectCall]
  -- off the overridden and the extra names the merged map holds what the serialized one holds, but for `content-length`
  -- in the chunked case
  have hag : ∀ m, m ∉ names overridden → m ∉ names extras →
      ¬ (m = hContentLength ∧ hGet (hExtend (hExtend ser overridden) extras) hTransferEncoding = some vChunked) →
      hGetAll (mergeCustomHeaders (hExtend ser overridden) extras) m = hGetAll ser m := fun m ho he hc => by
    rw [hGetAll_mergeCustomHeaders_eq hx.nodup, if_neg hc, hGetAll_hExtend_of_not_mem he, hGetAll_hExtend_of_not_mem ho]
  refine ⟨fun n t val hm hno hcl => S.read_member hwf hcodec hm
      (hag n hno (fun hin => hexM n hin ((hnames n).mp (mem_stmtHdrNames hm))) hcl),
    fun hop hep => S.metadataReadBack hwf fun k => hag _ (fun hin => hop _ hin (prefix_meta k))
      (fun hin => hep _ hin (prefix_meta k))
      fun hc => absurd (hc.1 ▸ prefix_meta k : metaPrefix <+: hContentLength) (by decide),
    fun n vs hm hcl => ?_⟩
  rw [fieldValues_wireLines hwf (hextras.lower n (List.mem_map.mpr ⟨_, hm, rfl⟩)),
    hGetAll_mergeCustomHeaders_eq hx.nodup, if_neg hcl, hGetAll_hExtend_of_mem hextras.nodup hm]

/-! ## non-vacuity: `HeadObject`, six members set, a metadata map, two extra headers -/

namespace Example

/-- the scalar types that occur among header-bound members -/
inductive Val where
  | str (s : Bytes)
  | int (n : Nat)
  | bool (b : Bool)
deriving DecidableEq

inductive Ty where
  | str | int | bool
deriving DecidableEq

def Val.ty : Val → Ty
  | .str _ => .str
  | .int _ => .int
  | .bool _ => .bool

/-- `content-length` -/
def wContentLength : Bytes := [99, 111, 110, 116, 101, 110, 116, 45, 108, 101, 110, 103, 116, 104]
/-- `content-type` -/
def wContentType : Bytes := [99, 111, 110, 116, 101, 110, 116, 45, 116, 121, 112, 101]
/-- `x-amz-delete-marker` -/
def wDeleteMarker : Bytes := [120, 45, 97, 109, 122, 45, 100, 101, 108, 101, 116, 101, 45, 109, 97, 114, 107, 101, 114]
/-- `etag` -/
def wETag : Bytes := [101, 116, 97, 103]
/-- `x-amz-version-id` -/
def wVersionId : Bytes := [120, 45, 97, 109, 122, 45, 118, 101, 114, 115, 105, 111, 110, 45, 105, 100]
/-- `x-amz-mp-parts-count` -/
def wPartsCount : Bytes := [120, 45, 97, 109, 122, 45, 109, 112, 45, 112, 97, 114, 116, 115, 45, 99, 111, 117, 110, 116]
/-- `x-amz-request-id` (not a member: an extra header a backend attaches) -/
def wRequestId : Bytes := [120, 45, 97, 109, 122, 45, 114, 101, 113, 117, 101, 115, 116, 45, 105, 100]
/-- `server` -/
def wServer : Bytes := [115, 101, 114, 118, 101, 114]

def tyOf (b : Binding) : Ty :=
  if b.wire = wContentLength ∨ b.wire = wPartsCount then .int
  else if b.wire = wDeleteMarker then .bool
  else .str

/-- `TryIntoHeaderValue` of `String` / `i64`, `i32` (non-negative here) / `bool` -/
def conv (b : Binding) (v : Val) : Option HVal :=
  if v.ty = tyOf b then
    match v with
    | .str s => headerValueFromString s
    | .int n => some (fmtDec n)
    | .bool x => headerValueFromBool x
  else none

/-- a client's parsers for the same types -/
def dec (b : Binding) (t : HVal) : Option Val :=
  match tyOf b with
  | .str => some (.str t)
  | .int => (digitsVal t 0).map .int
  | .bool =>
    if t = [116, 114, 117, 101] then some (.bool true)
    else if t = [102, 97, 108, 115, 101] then some (.bool false) else none

/-- a value whose text survives the parser's white-space stripping (numbers and booleans always do) -/
def Val.canonicalB : Val → Bool
  | .str s => trimOws s == s
  | .int _ => true
  | .bool _ => true

/-- the client's parser undoes the conversion on canonical values -/
theorem C03_example_codec (b : Binding) (v : Val) (text : HVal) (hv : v.canonicalB = true)
    (h : conv b v = some text) : dec b (trimOws text) = some v := by
  unfold conv at h
  split at h
  · rename_i hty
    cases v with
    | str s =>
      simp only [Val.ty] at hty
      simp only [Val.canonicalB, beq_iff_eq] at hv
      simp only [dec, ← hty, headerValueFromString_eq h, hv]
    | int n =>
      simp only [Val.ty] at hty
      injection h with h
      -- a digit (48 … 57) is neither 32 nor 9
      have hd : ∀ c : UInt8, isDigit c = true → isOws c = false := fun c hc => by
        simp only [isDigit, Bool.and_eq_true, decide_eq_true_eq] at hc
        rw [isOws, Bool.or_eq_false_iff, beq_eq_false_iff_ne, beq_eq_false_iff_ne]
        constructor <;> (intro e; rw [e] at hc; revert hc; decide)
      have ht : trimOws (fmtDec n) = fmtDec n := trimOws_of_no_ows fun c hc => hd c (fmtDec_all_digits n c hc)
      simp only [dec, ← hty, ← h, ht, digitsVal_fmtDec_zero, Option.map_some]
    | bool x =>
      simp only [Val.ty] at hty
      simp only [headerValueFromBool] at h
      injection h with h
      cases x
      · have : trimOws [102, 97, 108, 115, 101] = [102, 97, 108, 115, 101] := by decide
        simp [dec, ← hty, ← h, this]
      · have : trimOws [116, 114, 117, 101] = [116, 114, 117, 101] := by decide
        simp [dec, ← hty, ← h, this]
  · cases h

/-- the members a backend sets -/
def vals (b : Binding) : Option Val :=
  if b.wire = wContentLength then some (.int 1234)
  else if b.wire = wContentType then some (.str [116, 101, 120, 116, 47, 112, 108, 97, 105, 110])   -- text/plain
  else if b.wire = wDeleteMarker then some (.bool false)
  else if b.wire = wETag then some (.str [34, 97, 98, 99, 34])                                      -- "abc"
  else if b.wire = wVersionId then some (.str [118, 49])                                            -- v1
  else if b.wire = wPartsCount then some (.int 3)
  else none

/-- `{"color": "red", "size": "10"}` -/
def md : Metadata := [([99, 111, 108, 111, 114], [114, 101, 100]), ([115, 105, 122, 101], [49, 48])]

/-- `x-amz-request-id: r1`, `server: s3s` -/
def extras : Hdrs := [(wRequestId, [[114, 49]]), (wServer, [[115, 51, 115]])]

/-- every value set is canonical -/
theorem C03_example_vals_canonical (b : Binding) (v : Val) (h : vals b = some v) : v.canonicalB = true := by
  unfold vals at h
  -- `v` is one of the six values of `vals`, taken in turn
  iterate 6
    obtain rfl | h := eq_or_of_ite_some h
    · rfl
  cases h

/-- the binding of `HeadObjectOutput::content_length` as the table has it -/
def bContentLength : Binding :=
  ⟨[99, 111, 110, 116, 101, 110, 116, 108, 101, 110, 103, 116, 104], .header, wContentLength, false, .none⟩
/-- the binding of `HeadObjectOutput::metadata` -/
def bMetadata : Binding := ⟨[109, 101, 116, 97, 100, 97, 116, 97], .pfx, metaPrefix, false, .none⟩

def stmts : List (Stmt Binding Val) := tableStmts .HeadObject vals (some md)

def noOverflow : Hdrs → HName → Bool := fun _ _ => false

end Example

open Example in
/-- `HeadObject` has 36 header statements and the metadata statement -/
example : Example.stmts.length = 37 := by decide +kernel

open Example in
/-- every conversion succeeds, so `serialize_http` returns `Ok` -/
example : serializeHeaders noOverflow conv (bodySetterHeaders .none) stmts
    = .ok (applyWrites [] (allWrites conv stmts)) :=
  C03_serialize_headers_succeeds noOverflow (fun _ _ => rfl) conv _ stmts (by decide +kernel)

open Example in
/-- the hypotheses of `C03_header_members_roundtrip_every_assignment` are met, and its conclusion gives the six
    set members back with their values, the 30 others absent, the metadata map equal, both extra headers
    present -/
example :
    let ser := applyWrites [] (allWrites conv stmts)
    let lines := wireLines (opCall ⟨200, ser⟩ none extras).headers
    readTyped (dec bContentLength) lines wContentLength = some (some (.int 1234))
    ∧ (∀ b ∈ implOutputs .HeadObject, b.loc = .header → readTyped (dec b) lines b.wire = (vals b).map some)
    ∧ (∀ k v, (k, v) ∈ readPrefix lines metaPrefix ↔ (k, v) ∈ md)
    ∧ fieldValues lines wRequestId = [[114, 49]] ∧ fieldValues lines wServer = [[115, 51, 115]] := by
  intro ser lines
  have hser : serializeHeaders noOverflow conv (bodySetterHeaders .none) (tableStmts .HeadObject vals (some md))
      = .ok ser :=
    C03_serialize_headers_succeeds noOverflow (fun _ _ => rfl) conv _ stmts (by decide +kernel)
  have hex : WFL extras := ⟨by decide, by decide⟩
  have h := C03_header_members_roundtrip_every_assignment .HeadObject .none (by decide +kernel) noOverflow conv dec
    vals (some md) ser 200 none extras
    (fun b v text _ hv hc => C03_example_codec b v text (C03_example_vals_canonical b v hv) hc)
    (fun m hm => by injection hm with hm; subst hm; decide) hex (by decide +kernel) hser
  obtain ⟨h1, h2, h3⟩ := h
  have hmeta := h2 (by decide)
  refine ⟨?_, h1, ?_, (h3 wRequestId [[114, 49]] (by decide)).trans (by decide),
    (h3 wServer [[115, 51, 115]] (by decide)).trans (by decide)⟩
  · have hb : bContentLength ∈ implOutputs .HeadObject := by decide +kernel
    exact h1 _ hb rfl
  · exact hmeta.canonical md (List.mem_map.mpr ⟨bMetadata, by decide +kernel, rfl⟩) (by decide)

open Example in
/-- `GetObject` with `response-content-type=image/png` in the request (`overridden`): the hypotheses of
    `C03_header_members_roundtrip_getobject` are met; `content-length` and the metadata map are read back
    (`content-type` is overridden by design and exempt) -/
example :
    let stmts := tableStmts .GetObject vals (some md)
    let ser := applyWrites [] (allWrites conv stmts)
    let lines := wireLines (getObjectCall ⟨200, ser⟩ [(wContentType, [[105, 109, 97, 103, 101, 47, 112, 110, 103]])]
      none extras).headers
    (∀ b ∈ implOutputs .GetObject, b.loc = .header → b.wire ≠ wContentType →
        readTyped (dec b) lines b.wire = (vals b).map some)
    ∧ (∀ k v, (k, v) ∈ readPrefix lines metaPrefix ↔ (k, v) ∈ md) := by
  intro stmts ser lines
  have hser : serializeHeaders noOverflow conv (bodySetterHeaders .stream) stmts = .ok ser :=
    C03_serialize_headers_succeeds noOverflow (fun _ _ => rfl) conv _ stmts (by decide +kernel)
  have hte : hGet (hExtend (hExtend ser [(wContentType, [[105, 109, 97, 103, 101, 47, 112, 110, 103]])]) extras)
      hTransferEncoding = none := by decide +kernel
  have hnotchunked : ∀ x : Prop, ¬ (x ∧ hGet (hExtend (hExtend ser
      [(wContentType, [[105, 109, 97, 103, 101, 47, 112, 110, 103]])]) extras) hTransferEncoding = some vChunked) :=
    fun _ hx => by cases hte.symm.trans hx.2
  have h := C03_header_members_roundtrip_getobject .stream (Or.inl rfl) noOverflow conv dec stmts ser 200 none
    [(wContentType, [[105, 109, 97, 103, 101, 47, 112, 110, 103]])] extras (by rw [C03_table_stmts_shape])
    (fun n t v text hs hc => by
      obtain ⟨_, _, _, hv⟩ := mem_tableStmts_hdr.mp hs
      exact C03_example_codec t v text (C03_example_vals_canonical t v hv.symm) hc)
    (fun m hm => by
      injection mem_tableStmts_meta hm with e
      subst e
      decide)
    ⟨by decide, by decide⟩ ⟨by decide, by decide⟩ (by decide +kernel) hser
  obtain ⟨h1, h2, _⟩ := h
  refine ⟨?_, ?_⟩
  · intro b hb hloc hne
    exact h1 _ _ _ (mem_tableStmts_hdr.mpr ⟨hb, hloc, rfl, rfl⟩) (by simpa [names] using hne) (hnotchunked _)
  · have hb : bMetadata ∈ outputHeaderBindings .GetObject := by decide +kernel
    exact (h2 (by decide) (by decide)).canonical md (List.mem_map.mpr ⟨bMetadata, hb, rfl⟩) (by decide)

/-! ## why the side conditions are there: what happens without them (each is a property of HTTP or of the
binding rules, not a defect of s3s) -/

/-- metadata keys that differ in case only are one header name: one pair survives -/
example :
    serializeHeaders Example.noOverflow (fun (_ : Unit) (v : Bytes) => headerValueFromString v) []
      [.optMetadata (some [([65], [49]), ([97], [50])])] = .ok [(metaPrefix ++ [97], [[50]])]
    ∧ readPrefix (wireLines [(metaPrefix ++ [97], [[50]])]) metaPrefix = [([97], [50])] :=
  ⟨rfl, by decide +kernel⟩

/-- white space around a value is not part of an HTTP field value: the metadata value ` x` is written as it is
    and read as `x` -/
example :
    serializeHeaders Example.noOverflow (fun (_ : Unit) (v : Bytes) => headerValueFromString v) []
      [.optMetadata (some [([107], [32, 120])])] = .ok [(metaPrefix ++ [107], [[32, 120]])]
    ∧ readPrefix (wireLines [(metaPrefix ++ [107], [[32, 120]])]) metaPrefix = [([107], [120])] :=
  ⟨rfl, by decide +kernel⟩

/-- a metadata key that is not an HTTP token, or a value with a control character, makes `serialize_http` fail
    with an internal error rather than send something else -/
example :
    serializeHeaders Example.noOverflow (fun (_ : Unit) (v : Bytes) => headerValueFromString v) []
      [.optMetadata (some [([97, 32, 98], [49])])] = .error .internalError
    ∧ serializeHeaders Example.noOverflow (fun (_ : Unit) (v : Bytes) => headerValueFromString v) []
      [.optMetadata (some [([97], [49, 10, 50])])] = .error .internalError :=
  ⟨rfl, rfl⟩

/-- the excepted pairs: after `set_xml_body` an unset member bound to `content-type` would be read back as
    `application/xml` -/
example :
    serializeHeaders Example.noOverflow (fun (_ : Unit) (v : Bytes) => headerValueFromString v)
      (bodySetterHeaders .xml) [.optHeader hContentType () none] = .ok (bodySetterHeaders .xml)
    ∧ readMember (wireLines (bodySetterHeaders .xml)) hContentType = some vApplicationXml :=
  ⟨rfl, by decide +kernel⟩

/-- an extra header named like a member replaces the member's header (`HeaderMap::extend`), which is why the
    theorems ask the extra headers' names not to be member names -/
example :
    readMember (wireLines (opCall ⟨200, [(hVersionId, [[118, 49]])]⟩ none [(hVersionId, [[118, 50]])]).headers)
      hVersionId = some [118, 50] := by decide +kernel

/-- `sideOkB` does reject what it should: a repeated name, a prefixed name, a name not in lower case, two
    metadata statements -/
example :
    sideOkB [Shape.hdr [97] (), .hdr [97] ()] = false
    ∧ sideOkB [Shape.hdr (metaPrefix ++ [97]) ()] = false
    ∧ sideOkB [Shape.hdr [65] ()] = false
    ∧ sideOkB [(Shape.metadata : Shape Unit), .metadata] = false
    ∧ sideOkB [Shape.hdr [97] (), .metadata, .hdr [98] ()] = true := by decide +kernel

/-! non-vacuity of the table side -/
example : (outputHeaderBindings .GetObject).length = 37 := by decide +kernel
example : (Op.all.filter fun op => !(outputHeaderBindings op).isEmpty).length = 32 := by decide +kernel
example : tableBodyKinds .ListParts = [.xml] ∧ tableBodyKinds .HeadObject = [.none]
    ∧ tableBodyKinds .GetObject = BodyKind.all := by decide +kernel

end S3V.C03

#print axioms S3V.C03.C03_header_members_roundtrip
#print axioms S3V.C03.C03_serialize_headers_succeeds
#print axioms S3V.C03.C03_serialize_headers_ok_only_if
#print axioms S3V.C03.C03_side_conditions_every_operation
#print axioms S3V.C03.C03_prefix_members_use_meta_prefix
#print axioms S3V.C03.C03_prefix_member_operations
#print axioms S3V.C03.C03_body_statement_exceptions
#print axioms S3V.C03.C03_body_statement_exceptions_admitted
#print axioms S3V.C03.C03_init_ok_outside_exceptions
#print axioms S3V.C03.C03_header_members_roundtrip_every_operation
#print axioms S3V.C03.C03_header_members_roundtrip_every_assignment
#print axioms S3V.C03.C03_header_members_roundtrip_getobject
#print axioms S3V.C03.C03_call_tails
#print axioms S3V.C03.C03_table_stmts_shape
#print axioms S3V.C03.Example.C03_example_codec
#print axioms S3V.C03.Example.C03_example_vals_canonical
