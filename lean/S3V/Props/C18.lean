import S3V.Thm.FsStoreRefine
/-!
# C18 — the file-system backend behaves like an in-memory object store

Objects: `FsStore.step` is the operation-level model of `crates/s3s-fs/src/s3.rs` (tied to the real `FileSystem` by
replaying whole histories, component `fs`), `StoreSpec.step` the abstract store (S3 semantics, RFC 9110 ranges),
`FsStore.abs` the abstraction (files ↦ objects, side files ↦ metadata / checksums, upload files ↦ uploads) and
`FsStore.Inv` the invariant of reachable states. The hash functions `H` (MD5 for ETags, CRC/SHA for checksums) and
the size `dl` the OS reports for a directory are parameters: every theorem holds for all of them.

Shape of every per-operation theorem: for a state satisfying `Inv` and a request satisfying the operation's
predicate, the model answers exactly as the store answers from `abs s`, the abstraction of the new state is the
store's new state, and `Inv` is preserved. The predicates (`PutOk`, `GetOk`, … in `S3V/Thm/FsStore*.lean`) are
explicit and decidable; a conjunct that is not about "names both sides accept or both refuse" excludes a
recorded deviation of the backend (finding class named in the predicate's doc comment, witness history in
`corpus/fs.txt`, kernel-checked counterexample in `S3V/Findings/C18.lean`) — but for one: the `i64` source size of
`upload_part_copy`, which is not compared (and `CompleteOwnerOk` asks for names both sides accept: no reachable state has
an upload under names both refuse). `_partial` marks theorems whose predicate excludes a deviation; the unrestricted
statement is `C18_full`.
No bound on the number of objects or the history length appears in any statement; the only size bounds are the recorded
`sideTooLong` and the `i64` source size of `upload_part_copy` (and `C18_listing_exact` reads the listing below `max-keys`).
-/
namespace S3V.C18
open S3V S3V.FsStore S3V.StoreSpec

/-- the answers of the backend and of the store on a history started from nothing -/
def C18_full : Prop :=
  ∀ (H : Hashes) (dl : Nat) (ops : List Op), (run H dl {} ops).2 = (StoreSpec.run H {} ops).2

/-- the empty directory satisfies the invariant and stands for the empty store -/
theorem C18_initial : Inv {} ∧ abs {} = {} := ⟨inv_empty, rfl⟩

/-! ## buckets -/

/-- create_bucket: full (any name both sides accept or both refuse) -/
theorem C18_create_bucket_refines (H : Hashes) (dl : Nat) {s : State} (hi : Inv s) {b : Bytes} (hg : NameOk b) :
    (step H dl s (.createBucket b)).2 = (StoreSpec.step H (abs s) (.createBucket b)).2 ∧
    abs (step H dl s (.createBucket b)).1 = (StoreSpec.step H (abs s) (.createBucket b)).1 ∧
    Inv (step H dl s (.createBucket b)).1 := createBucket_refines H dl hi hg

/-- delete_bucket: full (any name both sides accept or both refuse) — a bucket that still holds objects is refused with
    `BucketNotEmpty` by both and stays (24de822; before: fs:delete-nonempty-bucket), an empty bucket is gone -/
theorem C18_delete_bucket_refines (H : Hashes) (dl : Nat) {s : State} (hi : Inv s) {b : Bytes} (hg : NameOk b) :
    (step H dl s (.deleteBucket b)).2 = (StoreSpec.step H (abs s) (.deleteBucket b)).2 ∧
    abs (step H dl s (.deleteBucket b)).1 = (StoreSpec.step H (abs s) (.deleteBucket b)).1 ∧
    Inv (step H dl s (.deleteBucket b)).1 := deleteBucket_refines H dl hi hg

/-- head_bucket: full -/
theorem C18_head_bucket_refines (H : Hashes) (dl : Nat) {s : State} (hi : Inv s) {b : Bytes} (hg : NameOk b) :
    (step H dl s (.headBucket b)).2 = (StoreSpec.step H (abs s) (.headBucket b)).2 ∧
    abs (step H dl s (.headBucket b)).1 = (StoreSpec.step H (abs s) (.headBucket b)).1 ∧
    Inv (step H dl s (.headBucket b)).1 := headBucket_refines H dl hi hg

/-- get_bucket_location: full -/
theorem C18_get_bucket_location_refines (H : Hashes) (dl : Nat) {s : State} (hi : Inv s) {b : Bytes} (hg : NameOk b) :
    (step H dl s (.getBucketLocation b)).2 = (StoreSpec.step H (abs s) (.getBucketLocation b)).2 ∧
    abs (step H dl s (.getBucketLocation b)).1 = (StoreSpec.step H (abs s) (.getBucketLocation b)).1 ∧
    Inv (step H dl s (.getBucketLocation b)).1 := getBucketLocation_refines H dl hi hg

/-- list_buckets: full (names as a sorted set) -/
theorem C18_list_buckets_refines (H : Hashes) (dl : Nat) {s : State} (hi : Inv s) :
    (step H dl s .listBuckets).2 = (StoreSpec.step H (abs s) .listBuckets).2 ∧
    abs (step H dl s .listBuckets).1 = (StoreSpec.step H (abs s) .listBuckets).1 ∧
    Inv (step H dl s .listBuckets).1 := listBuckets_refines H dl hi

/-! ## objects -/

/-- put_object: the written content, metadata (none given = none kept) and checksums become the object, the answer carries
    the MD5 ETag; a missing bucket, bad digests and refused names are answered alike. Partial — excluded: non-canonical /
    directory keys (fs:key-normalised, fs:directory-key), a path that is not free (prefix-freedom, fs:leftover-directory),
    over-long side-file names (fs:long-key-internal-error) -/
theorem C18_put_refines_partial (H : Hashes) (dl : Nat) {s : State} (hi : Inv s) {b k c : Bytes} {md : Option Meta}
    {cks : Cks} {clen : Option Int} (hg : PutOk s b k) :
    (step H dl s (.putObject b k c md cks clen)).2 = (StoreSpec.step H (abs s) (.putObject b k c md cks clen)).2 ∧
    abs (step H dl s (.putObject b k c md cks clen)).1 = (StoreSpec.step H (abs s) (.putObject b k c md cks clen)).1 ∧
    Inv (step H dl s (.putObject b k c md cks clen)).1 := put_refines H dl hi hg

/-- put_object of a (non-directory) key whose side files — the metadata and the checksum record, named after the encoded
    bucket and key — would not fit a file name: nothing is written, in any state and for any body, and the request is refused;
    in an existing bucket, for a key the backend maps into it, with `KeyTooLongError` (c3dcb24; before, the object file was
    written and the request then failed with `InternalError`, the store changed by a request that failed). The store accepts
    such keys: they stay outside `PutOk` (fs:long-key-internal-error stays open, narrowed for put_object to the refusal) -/
theorem C18_put_long_key_changes_nothing (H : Hashes) (dl : Nat) (s : State) {b k c : Bytes} {md : Option Meta}
    {cks : Cks} {clen : Option Int} (hslash : endsWithSlash k = false) (hlong : sideTooLong b k false = true) :
    (step H dl s (.putObject b k c md cks clen)).1 = s ∧
    (∃ e, (step H dl s (.putObject b k c md cks clen)).2 = .err e) ∧
    (∀ bd p, bucketDir b = some bd → alHas bd s.buckets = true → keyPath k = some p →
      (step H dl s (.putObject b k c md cks clen)).2 = .err .KeyTooLongError) := by
  -- the guards of `put_object` in its order: bucket name, bucket, key, side-file names
  cases hbd : bucketDir b with
  | none => simp [FsStore.step, hbd]
  | some bd =>
    cases hh : alHas bd s.buckets with
    | false =>
      refine ⟨by simp [FsStore.step, hbd, hh], by simp [FsStore.step, hbd, hh], fun _ _ hb' hhas => ?_⟩
      rw [← Option.some.inj hb', hh] at hhas
      cases hhas
    | true => cases hkp : keyPath k <;> simp [FsStore.step, hbd, hh, hslash, objPath, hkp, hlong]

set_option maxRecDepth 8000 in
/-- non-vacuity: a key of 200 bytes in bucket `bka` is such a key, and a key of 100 bytes is not -/
example : endsWithSlash (List.replicate 200 76) = false ∧ sideTooLong [98, 107, 97] (List.replicate 200 76) false = true ∧
    sideTooLong [98, 107, 97] (List.replicate 100 76) false = false := by decide +kernel

/-- get_object, whole and with any range (int, open-ended, suffix of any length): the most recently written content,
    metadata, MD5 ETag; for a range the RFC 9110 slice (`rfcInterval`) with `Content-Range` and `Content-Length`,
    `InvalidRange` when unsatisfiable; a missing key is `NoSuchKey`, a missing bucket `NoSuchBucket` (cc244fc; before:
    fs:missing-bucket-reported-as-missing-key). Partial — excluded: leftover directories, non-canonical keys -/
theorem C18_get_refines_partial (H : Hashes) (dl : Nat) {s : State} (hi : Inv s) {b k : Bytes} {range : Option Range}
    (hg : GetOk s b k) :
    (step H dl s (.getObject b k range)).2 = (StoreSpec.step H (abs s) (.getObject b k range)).2 ∧
    abs (step H dl s (.getObject b k range)).1 = (StoreSpec.step H (abs s) (.getObject b k range)).1 ∧
    Inv (step H dl s (.getObject b k range)).1 := get_refines H dl hi hg

/-- range_slice: what the store (hence, by `C18_get_refines_partial`, the backend) answers to a range that selects bytes:
    exactly the bytes `[st, en)` of the object, `Content-Length = en - st`, `Content-Range: bytes st-(en-1)/len`,
    and with a `Content-Range` present the HTTP layer answers 206 -/
theorem C18_range_slice (H : Hashes) (o : Obj) (r : Range) (st en : Nat)
    (h : DtoSpec.rfcInterval (toByteRange r) o.content.length = some (st, en)) (hne : st < en) :
    readObj H o (some r) =
      .get ((o.content.drop st).take (en - st)) (en - st) (some (fmtContentRange st (en - 1) o.content.length))
        (some (etagOf H o.content)) o.md o.cks ∧
    status (readObj H o (some r)) = 206 := by
  simp [readObj, h, hne, slice, status]

/-- `Range::check` is the RFC 9110 interval, for every range and every length (full) -/
theorem C18_range_check (r : Range) (len : Nat) :
    rangeCheck r len = DtoSpec.rfcInterval (toByteRange r) len := rangeCheck_eq r len

/-- head_object: length, metadata and MD5 ETag of the most recent write — the answers agree in every member (42c2f29;
    before, head_object returned no ETag: fs:head-without-etag); a missing key in an existing bucket (`NoSuchKey`) and a
    missing bucket (`NoSuchBucket`) are answered alike (d6f1a3c; before: fs:head-missing-key-code). Partial — excluded: a
    directory left behind at the path (fs:leftover-directory) -/
theorem C18_head_refines_partial (H : Hashes) (dl : Nat) {s : State} (hi : Inv s) {b k : Bytes} (hg : HeadOk s b k) :
    (step H dl s (.headObject b k)).2 = (StoreSpec.step H (abs s) (.headObject b k)).2 ∧
    abs (step H dl s (.headObject b k)).1 = (StoreSpec.step H (abs s) (.headObject b k)).1 ∧
    Inv (step H dl s (.headObject b k)).1 := head_refines H dl hi hg

/-- delete_object: deleted objects are gone; deleting a key that does not exist succeeds and changes nothing, a missing
    bucket is `NoSuchBucket` (20fee59; before: fs:delete-missing-key-error and the delete_object part of
    fs:missing-bucket-reported-as-missing-key). Partial — excluded only: a directory left behind at the path
    (fs:leftover-directory), non-canonical keys -/
theorem C18_delete_refines_partial (H : Hashes) (dl : Nat) {s : State} (hi : Inv s) {b k : Bytes} (hg : DeleteOk s b k) :
    (step H dl s (.deleteObject b k)).2 = (StoreSpec.step H (abs s) (.deleteObject b k)).2 ∧
    abs (step H dl s (.deleteObject b k)).1 = (StoreSpec.step H (abs s) (.deleteObject b k)).1 ∧
    Inv (step H dl s (.deleteObject b k)).1 := delete_refines H dl hi hg

/-- delete_objects: all named objects are gone and every requested key is reported as deleted, in request order — also a key
    that does not exist and a key the request names more than once (c55c267; before, keys that did not exist were left out
    of the answer: fs:delete-objects-omits-missing-keys, and a repeated key failed with `InternalError` after the first
    removal: fs:delete-objects-duplicate-key); a request with a key both sides refuse is `InvalidArgument` and changes
    nothing; on a bucket that does not exist the answer is `NoSuchBucket` whatever the keys (`InvalidArgument` when one is
    refused; 0f31b61, before: fs:delete-objects-in-missing-bucket). Partial — excluded only, when the bucket exists: a
    directory left behind at a key's path (fs:leftover-directory), non-canonical keys (fs:key-normalised,
    fs:directory-key) -/
theorem C18_delete_objects_refines_partial (H : Hashes) (dl : Nat) {s : State} (hi : Inv s) {b : Bytes}
    {keys : List Bytes} (hg : DeleteObjectsOk s b keys) :
    (step H dl s (.deleteObjects b keys)).2 = (StoreSpec.step H (abs s) (.deleteObjects b keys)).2 ∧
    abs (step H dl s (.deleteObjects b keys)).1 = (StoreSpec.step H (abs s) (.deleteObjects b keys)).1 ∧
    Inv (step H dl s (.deleteObjects b keys)).1 := deleteObjects_refines H dl hi hg

/-- copy_object: the destination becomes the source's content, metadata and checksums — whatever metadata or checksums the
    object it replaces had: they are replaced by the source's, or removed when the source has none (8faafe7; before:
    fs:stale-metadata-after-copy, fs:stale-checksum-after-copy); an object copied onto itself stays as it is; a missing
    source bucket is `NoSuchBucket` on both sides (cc244fc). Partial — excluded only: a directory left behind at either path
    (fs:leftover-directory), non-canonical keys, over-long side-file names (fs:long-key-internal-error) -/
theorem C18_copy_refines_partial (H : Hashes) (dl : Nat) {s : State} (hi : Inv s) {sb sk db dk : Bytes}
    (hg : CopyOk s sb sk db dk) :
    (step H dl s (.copyObject sb sk db dk)).2 = (StoreSpec.step H (abs s) (.copyObject sb sk db dk)).2 ∧
    abs (step H dl s (.copyObject sb sk db dk)).1 = (StoreSpec.step H (abs s) (.copyObject sb sk db dk)).1 ∧
    Inv (step H dl s (.copyObject sb sk db dk)).1 := copy_refines H dl hi hg

/-! ## listings -/

/-- list_objects_v2: the keys under the prefix (a plain string prefix) after `start-after`, in byte order, rolled up into
    CommonPrefixes by any delimiter (the empty one rolls up nothing), cut at `max-keys` (default 1000; none for 0 or less)
    with `IsTruncated`, `KeyCount` = keys + common prefixes — every member equal to the store's (fe72881; before:
    fs:list-delimiter-not-rolled-up, fs:list-delimiter-rewrites-keys, fs:list-ignores-max-keys, and prefixes such as `d//e`
    read as paths). Partial — excluded: a prefix that starts with `/` (fs:list-prefix-as-path: its leading slashes are
    dropped, as the integration test `test_list_objects_v2` of s3s-fs demands) -/
theorem C18_list_v2_refines_partial (H : Hashes) (dl : Nat) {s : State} (hi : Inv s) {b : Bytes}
    {pfx delim after : Option Bytes} {maxKeys : Option Int} (hg : ListOk b pfx) :
    (step H dl s (.listObjectsV2 b pfx delim after maxKeys)).2 =
      (StoreSpec.step H (abs s) (.listObjectsV2 b pfx delim after maxKeys)).2 ∧
    abs (step H dl s (.listObjectsV2 b pfx delim after maxKeys)).1 =
      (StoreSpec.step H (abs s) (.listObjectsV2 b pfx delim after maxKeys)).1 ∧
    Inv (step H dl s (.listObjectsV2 b pfx delim after maxKeys)).1 := listV2_refines H dl hi hg

/-- list_objects (v1, `marker`): as v2 -/
theorem C18_list_v1_refines_partial (H : Hashes) (dl : Nat) {s : State} (hi : Inv s) {b : Bytes}
    {pfx delim marker : Option Bytes} {maxKeys : Option Int} (hg : ListOk b pfx) :
    (step H dl s (.listObjects b pfx delim marker maxKeys)).2 =
      (StoreSpec.step H (abs s) (.listObjects b pfx delim marker maxKeys)).2 ∧
    abs (step H dl s (.listObjects b pfx delim marker maxKeys)).1 =
      (StoreSpec.step H (abs s) (.listObjects b pfx delim marker maxKeys)).1 ∧
    Inv (step H dl s (.listObjects b pfx delim marker maxKeys)).1 := listV1_refines H dl hi hg

/-- what the store's listing is (so, by the two theorems above, the backend's): exactly the keys of the bucket that start
    with the prefix and come after the marker, each once with its size, in strictly ascending byte order -/
theorem C18_listing_exact (objs : List (Bytes × Obj)) (pfx after : Option Bytes) (maxKeys : Option Int)
    (hnd : keysNodup objs) (hlim : objs.length ≤ listLimit maxKeys) :
    ∃ items, listing objs pfx none after maxKeys = .listed items items.length false [] ∧
      items.Pairwise (fun x y => bytesLt x.1 y.1 = true) ∧
      ∀ k n, (k, n) ∈ items ↔
        (∃ o, alLookup k objs = some o ∧ n = o.content.length) ∧ (pfx.getD []).isPrefixOf k = true ∧
          (∀ m, after = some m → bytesLt m k = true) :=
  ⟨specAfter objs pfx after, listing_plain objs pfx after maxKeys hlim, specAfter_strict hnd pfx after,
    mem_specAfter hnd pfx after⟩

/-! ## multipart uploads -/

/-- create_multipart_upload: a missing bucket and refused names are answered alike. Partial — excluded only: over-long
    metadata file names (fs:long-key-internal-error) -/
theorem C18_create_upload_refines_partial (H : Hashes) (dl : Nat) {s : State} (hi : Inv s) {who : Who} {b k : Bytes}
    {md : Option Meta} (hg : CreateUploadOk s b k) :
    (step H dl s (.createMultipartUpload who b k md)).2 =
      (StoreSpec.step H (abs s) (.createMultipartUpload who b k md)).2 ∧
    abs (step H dl s (.createMultipartUpload who b k md)).1 =
      (StoreSpec.step H (abs s) (.createMultipartUpload who b k md)).1 ∧
    Inv (step H dl s (.createMultipartUpload who b k md)).1 := createUpload_refines H dl hi hg

/-- upload_part: only the creating identity may add a part (`AccessDenied` otherwise); an upload that does not exist — never
    issued, completed, aborted, or an id that is no UUID — is `NoSuchUpload` on both sides (4609ab3; before:
    fs:unknown-upload-code); a part number outside 1..10000 is `InvalidArgument` on both sides (205d9a8; before, numbers below
    1 were accepted: fs:part-number-not-validated); an upload exists only under the bucket and key it was created for: under
    any other it is `NoSuchUpload` on both sides, for the creator and for anybody else (41e1cf2; before, the upload id was
    accepted under any bucket and key: fs:upload-not-bound-to-key). Full: every state satisfying `Inv`, every request -/
theorem C18_upload_part_refines (H : Hashes) (dl : Nat) {s : State} (hi : Inv s) {who : Who} {b k : Bytes}
    {u : UploadRef} {n : Int} {c : Bytes} :
    (step H dl s (.uploadPart who b k u n c)).2 = (StoreSpec.step H (abs s) (.uploadPart who b k u n c)).2 ∧
    abs (step H dl s (.uploadPart who b k u n c)).1 = (StoreSpec.step H (abs s) (.uploadPart who b k u n c)).1 ∧
    Inv (step H dl s (.uploadPart who b k u n c)).1 := uploadPart_refines H dl hi

/-- upload_part_copy: the part becomes the source object, or its `bytes=first-last` slice; any other value of
    `x-amz-copy-source-range` — open-ended, suffix form, beyond the end of the source, first after last, a signed or
    overflowing position, any other byte string — is `InvalidArgument` on both sides and changes nothing (18203b6: the
    backend's reader accepts exactly what the store accepts, `copyRange_eq`; before, open-ended ranges and ranges beyond the
    end were accepted: fs:part-copy-range-unchecked); a part number outside 1..10000 is `InvalidArgument` (205d9a8; before
    it was not checked: fs:part-number-not-validated), an upload that does not exist — at all, or under this bucket and key
    (41e1cf2; before: fs:upload-not-bound-to-key) — `NoSuchUpload`, on both sides. The predicate only asks for comparable
    source names and sizes -/
theorem C18_upload_part_copy_refines_partial (H : Hashes) (dl : Nat) {s : State} (hi : Inv s) {who : Who} {b k : Bytes}
    {u : UploadRef} {n : Int} {sb sk : Bytes} {range : Option Bytes} (hg : UploadPartCopyOk s b k u n sb sk range) :
    (step H dl s (.uploadPartCopy who b k u n sb sk range)).2 =
      (StoreSpec.step H (abs s) (.uploadPartCopy who b k u n sb sk range)).2 ∧
    abs (step H dl s (.uploadPartCopy who b k u n sb sk range)).1 =
      (StoreSpec.step H (abs s) (.uploadPartCopy who b k u n sb sk range)).1 ∧
    Inv (step H dl s (.uploadPartCopy who b k u n sb sk range)).1 := uploadPartCopy_refines H dl hi hg

/-- list_parts: the part numbers and sizes uploaded so far, in ascending part-number order (`C18_list_parts_exact`) — the
    order is part of the answer on both sides: the code sorts the parts it read from the directory (764f144; before, it
    returned them in directory-read order and the comparison with the real code had to ignore the order:
    fs:list-parts-unordered); of an upload that does not exist: `NoSuchUpload` on both sides (4609ab3; before, an empty
    list: fs:list-parts-unknown-upload) — also of an upload that exists under another bucket or key (41e1cf2; before, its
    parts were listed: fs:upload-not-bound-to-key). Full: every state satisfying `Inv`, every request -/
theorem C18_list_parts_refines (H : Hashes) (dl : Nat) {s : State} (hi : Inv s) {who : Who} {b k : Bytes}
    {u : UploadRef} :
    (step H dl s (.listParts who b k u)).2 = (StoreSpec.step H (abs s) (.listParts who b k u)).2 ∧
    abs (step H dl s (.listParts who b k u)).1 = (StoreSpec.step H (abs s) (.listParts who b k u)).1 ∧
    Inv (step H dl s (.listParts who b k u)).1 := listParts_refines H dl hi

/-- what the store's answer to list_parts is (so, by `C18_list_parts_refines`, the backend's): exactly the parts uploaded so far, each
    once with its size, in strictly ascending part-number order (the parts of an upload are keyed by their number:
    `keysNodup`, which `alInsert` maintains) -/
theorem C18_list_parts_exact (parts : List (Int × Bytes)) (hnd : keysNodup parts) :
    (sortParts (parts.map fun p => (p.1, p.2.length))).Pairwise (fun x y => x.1 < y.1) ∧
    ∀ n sz, (n, sz) ∈ sortParts (parts.map fun p => (p.1, p.2.length)) ↔ ∃ c, (n, c) ∈ parts ∧ sz = c.length := by
  refine ⟨sortParts_strict _ (by rw [keysNodup, List.map_map]; exact hnd), fun n sz => ?_⟩
  rw [sortParts_mem, List.mem_map]
  exact ⟨fun ⟨p, hp, he⟩ => by cases he; exact ⟨p.2, hp, rfl⟩, fun ⟨c, hc, he⟩ => ⟨(n, c), hc, by rw [he]⟩⟩

/-- complete_multipart_upload. Partial — what `CompleteOk` asks, of a complete by the owner only: admissible bucket name,
    canonical key, and for a part list that passes validation a free path and side-file names that fit (fs:key-normalised,
    fs:leftover-directory, fs:long-key-internal-error). Every part list is inside. What both sides do:
    * the object becomes the concatenation of the listed parts — any strictly ascending selection of the uploaded parts, with
      or without gaps in the numbers — in list (= ascending part-number) order, with the upload's metadata and no checksums,
      whatever the object it replaces had; the upload is gone;
    * an identity other than the creator gets `AccessDenied`; an upload that does not exist, at all or under this bucket and
      key, is `NoSuchUpload`;
    * a complete that fails validation is answered with the store's code in the store's order and changes nothing, the
      upload stays: no part list or an empty one `MalformedXML` (before anything else is looked at), then, for the owner, a
      part without a number `MalformedXML`, numbers not strictly ascending `InvalidPartOrder`, a listed part that was never
      uploaded `InvalidPart`, a part other than the last listed below the minimum size `EntityTooSmall`;
    * a complete that passes validation but whose bucket no longer exists is `NoSuchBucket` and changes nothing.
    Code since dbb8684 (fs:complete-requires-consecutive-parts), 41e1cf2 (fs:upload-not-bound-to-key), 4609ab3, 0096ef4
    (fs:failed-complete-consumes-upload, fs:complete-missing-part-internal-error), 0fcb858
    (fs:complete-part-list-validation), 47e9b00 (fs:stale-metadata-after-complete, fs:stale-checksum-after-complete),
    b29f222 (fs:complete-into-missing-bucket) -/
theorem C18_complete_refines_partial (H : Hashes) (dl : Nat) {s : State} (hi : Inv s) {who : Who} {b k : Bytes}
    {u : UploadRef} {parts : Option (List (Option Int))} (hg : CompleteOk s who b k u parts) :
    (step H dl s (.completeMultipartUpload who b k u parts)).2 =
      (StoreSpec.step H (abs s) (.completeMultipartUpload who b k u parts)).2 ∧
    abs (step H dl s (.completeMultipartUpload who b k u parts)).1 =
      (StoreSpec.step H (abs s) (.completeMultipartUpload who b k u parts)).1 ∧
    Inv (step H dl s (.completeMultipartUpload who b k u parts)).1 := complete_refines H dl hi hg

/-- the four validation passes of complete_multipart_upload, for every part list, compute what the store prescribes: the
    numbers it reads are the store's (a part without a number: none), its order test is the negation of the store's
    "strictly ascending", and for any list of numbers `ns`: if every listed part exists, the third pass yields exactly the
    listed numbers (`ps.map (·.1) = ns`: in list order, which is strictly ascending part-number order when the order test
    passed, whatever gaps the numbers have), each paired with the content of its part file, what is then written is the
    concatenation of these contents in that order (`cs.flatten`), the size rule is the store's (`sizesOk`: every part but
    the last listed), and the final clean-up removes only part files of that upload; if a listed part does not exist the
    third pass fails (`InvalidPart`) -/
theorem C18_complete_concatenates (id : Nat) (pl : List (Option Int)) (parts : List ((Nat × Int) × Bytes)) :
    partNumbers pl = pl.mapM (fun x => x) ∧
    ∀ ns : List Int,
      outOfOrder ns = !ascending ns ∧
      (ascending ns = true → ns.Pairwise (· < ·)) ∧
      match ns.mapM (fun n => alLookup (id, n) parts) with
      | some cs =>
        ∃ ps, partFiles id parts ns = some ps ∧ ps.map (·.1) = ns ∧ ps.map (·.2) = cs ∧
          (∀ e ∈ ps, alLookup (id, e.1) parts = some e.2) ∧
          (ps.map (·.2)).flatten = cs.flatten ∧ partTooSmall ps = !sizesOk cs ∧
          Erased id parts (eraseParts id (ps.map (·.1)) parts)
      | none => partFiles id parts ns = none := by
  refine ⟨partNumbers_eq pl, fun ns => ⟨outOfOrder_eq ns, ascending_pairwise ns, ?_⟩⟩
  rw [← partFiles_contents]
  cases hpf : partFiles id parts ns with
  | none => rfl
  | some ps =>
    obtain ⟨hnum, hmem⟩ := partFiles_spec id parts ns ps hpf
    exact ⟨ps, rfl, hnum, rfl, hmem, rfl, partTooSmall_eq ps, eraseParts_erased id _ parts⟩

/-- a part list with gaps passes: parts 2, 5, 9 uploaded (in another order) and listed `2, 5, 9` are concatenated in that
    order; the same parts listed `5, 2` fail the order test -/
example :
    let parts : List ((Nat × Int) × Bytes) := [((1, 9), [9, 9]), ((1, 2), [2]), ((2, 5), [0]), ((1, 5), [5, 5, 5])]
    partNumbers [some 2, some 5, some 9] = some [2, 5, 9] ∧ outOfOrder [2, 5, 9] = false ∧
    partFiles 1 parts [2, 5, 9] = some [(2, [2]), (5, [5, 5, 5]), (9, [9, 9])] ∧
    outOfOrder [5, 2] = true ∧ outOfOrder [2, 2] = true ∧ partFiles 1 parts [2, 3] = none ∧
    partNumbers [some 2, none] = none := by decide +kernel

/-- abort_multipart_upload: only by the creator; the upload is gone; of an upload that does not exist — at all, or under this
    bucket and key (41e1cf2; before, an upload could be aborted under any key: fs:upload-not-bound-to-key) — `NoSuchUpload` on
    both sides and nothing changes. Full: every state satisfying `Inv`, every request -/
theorem C18_abort_refines (H : Hashes) (dl : Nat) {s : State} (hi : Inv s) {who : Who} {b k : Bytes}
    {u : UploadRef} :
    (step H dl s (.abortMultipartUpload who b k u)).2 = (StoreSpec.step H (abs s) (.abortMultipartUpload who b k u)).2 ∧
    abs (step H dl s (.abortMultipartUpload who b k u)).1 =
      (StoreSpec.step H (abs s) (.abortMultipartUpload who b k u)).1 ∧
    Inv (step H dl s (.abortMultipartUpload who b k u)).1 := abort_refines H dl hi

/-! ## one request, whole histories -/

/-- any request in `Good` (for each operation, that operation's predicate) -/
theorem C18_step_refines_partial (H : Hashes) (dl : Nat) {s : State} (hi : Inv s) {op : Op} (hg : Good s op) :
    (step H dl s op).2 = (StoreSpec.step H (abs s) op).2 ∧
    abs (step H dl s op).1 = (StoreSpec.step H (abs s) op).1 ∧ Inv (step H dl s op).1 :=
  step_refines H dl hi hg

/-- all operation lists, by induction: if every request meets `Good` in the state in which it arrives, the backend's
    answers are the store's, its final state abstracts to the store's final state, and the
    invariant holds throughout -/
theorem C18_history_refines_partial (H : Hashes) (dl : Nat) (ops : List Op) (s : State) (hi : Inv s)
    (hg : GoodRun H dl s ops) :
    (run H dl s ops).2 = (StoreSpec.run H (abs s) ops).2 ∧
    abs (run H dl s ops).1 = (StoreSpec.run H (abs s) ops).1 ∧ Inv (run H dl s ops).1 :=
  history_refines H dl ops s hi hg

/-- histories from the empty directory against the empty store -/
theorem C18_history_from_empty_partial (H : Hashes) (dl : Nat) (ops : List Op) (hg : GoodRun H dl {} ops) :
    (run H dl {} ops).2 = (StoreSpec.run H {} ops).2 ∧
    abs (run H dl {} ops).1 = (StoreSpec.run H {} ops).1 :=
  let h := history_refines H dl ops {} inv_empty hg
  ⟨h.1, h.2.1⟩

/-! ## non-vacuity: a realistic history meets the hypotheses -/

/-- hash functions for evaluating examples in the kernel (any functions do: the theorems quantify over them) -/
def H0 : Hashes := ⟨fun c => c.take 2, fun _ => [1], fun _ => [2], fun _ => [3], fun _ => [4]⟩

def bka : Bytes := [98, 107, 97]
def kDE : Bytes := [100, 47, 101]       -- "d/e"
def kDF : Bytes := [100, 47, 102]       -- "d/f"
def kA : Bytes := [97]                  -- "a"
def kX : Bytes := [120]                 -- "x"
def alice : Who := some [65]
def bob : Who := some [66]

/-- a realistic history inside `Good`: bucket, writes with and without metadata (also over an object that had some),
    whole / ranged / suffix reads (suffix longer than the object, suffix of an empty object), a copy onto itself, head
    (of an object and of a key that does not exist), prefix listing with marker, copy, delete (also of the key just
    deleted), a multipart upload driven by its owner and refused to another identity, whose completion first fails
    twice (a listed part was never uploaded: `InvalidPart`; a part other than the last is too small:
    `EntityTooSmall`) and then succeeds, after which the upload is unknown to every operation (`NoSuchUpload`, as is
    an id that was never issued or is no UUID),
    delete_bucket while the bucket holds objects (refused) and after they are deleted (the directory `d` is left behind) -/
def demo : List Op := [
  .createBucket bka,
  .putObject bka kDE [1, 2, 3, 4, 5] (some [([109], [118])]) {} none,
  .putObject bka kA [] none {} none,
  .putObject bka kDE [1, 2, 3, 4, 5] none {} none,
  .putObject bka kDE [1, 2, 3, 4, 5] (some [([109], [118])]) {} none,
  .getObject bka kDE none,
  .getObject bka kDE (some (.int 1 (some 3))),
  .getObject bka kDE (some (.int 2 none)),
  .getObject bka kDE (some (.suffix 2)),
  .getObject bka kDE (some (.suffix 9)),
  .getObject bka kA (some (.suffix 3)),
  .getObject bka kDE (some (.int 7 none)),
  .copyObject bka kDE bka kDE,
  .headObject bka kDE,
  .headObject bka kX,
  .listObjectsV2 bka (some [100, 47]) none (some kA) none,
  .copyObject bka kDE bka kDF,
  .listObjects bka none none none (some 1000),
  .deleteObject bka kA,
  .deleteObject bka kA,
  .createMultipartUpload alice bka kX (some [([116], [117])]),
  .uploadPart bob bka kX (some 1) 1 [7],
  .uploadPart alice bka kX (some 1) 1 [7, 8, 9],
  .listParts alice bka kX (some 1),
  .completeMultipartUpload bob bka kX (some 1) (some [some 1]),
  .completeMultipartUpload alice bka kX (some 1) (some [some 1, some 2]),
  .uploadPart alice bka kX (some 1) 2 [5],
  .completeMultipartUpload alice bka kX (some 1) (some [some 1, some 2]),
  .completeMultipartUpload alice bka kX (some 1) (some [some 1]),
  .getObject bka kX none,
  .listParts alice bka kX (some 1), .uploadPart alice bka kX (some 1) 3 [1], .abortMultipartUpload alice bka kX none,
  .completeMultipartUpload bob bka kX (some 7) (some [some 1]),
  .createMultipartUpload bob bka kA none,
  .abortMultipartUpload bob bka kA (some 2),
  .deleteBucket bka,
  .deleteObjects bka [kDE, kDF], .deleteObject bka kX,
  .deleteBucket bka,
  .listBuckets ]

/-- the hypotheses of the history theorem hold of `demo` from the empty directory (kernel evaluation) -/
example : GoodRun H0 4096 {} demo := by decide +kernel

/-- … so the theorem applies to it -/
example : (run H0 4096 {} demo).2 = (StoreSpec.run H0 {} demo).2 :=
  (C18_history_from_empty_partial H0 4096 demo (by decide +kernel)).1

/-- listings with a delimiter (also one other than `/`, also the empty one), a prefix that is no path (`d//`, `d/./`), a
    marker and `max-keys` (also 0 and negative) are inside `Good`: on the state after `d/e`, `a`, `d/f` were written the
    backend rolls `d/e`, `d/f` up into the common prefix `d/`, cuts after one entry and says so; only a prefix that starts
    with `/` is outside -/
example :
    let s := (run H0 4096 {} (demo.take 17)).1
    Good s (.listObjectsV2 bka none (some [47]) none (some 1)) ∧
    (step H0 4096 s (.listObjectsV2 bka none (some [47]) none (some 1))).2 = .listed [(kA, 0)] 1 true [] ∧
    (step H0 4096 s (.listObjectsV2 bka none (some [47]) (some kA) (some 1))).2 = .listed [] 1 false [[100, 47]] ∧
    (step H0 4096 s (.listObjects bka (some [100]) (some [47]) none none)).2 = .listed [] 1 false [[100, 47]] ∧
    (step H0 4096 s (.listObjects bka none (some [101]) none none)).2 = .listed [(kA, 0), (kDF, 5)] 3 false [kDE] ∧
    Good s (.listObjects bka (some [100, 47, 47]) (some []) none (some 0)) ∧
    Good s (.listObjectsV2 bka (some [100, 47, 46, 47]) (some [45]) (some kDE) (some (-1))) ∧
    ¬ Good s (.listObjectsV2 bka (some [47, 100]) none none none) := by decide +kernel

/-- the per-operation predicates are inhabited on a state with objects: an overwrite carrying metadata, a ranged read,
    a copy between objects that both have metadata files -/
example : PutOk (run H0 4096 {} (demo.take 3)).1 bka kDE := by decide +kernel
example : GetOk (run H0 4096 {} (demo.take 3)).1 bka kDE := by decide +kernel
example : CopyOk (run H0 4096 {} (demo.take 11)).1 bka kDE bka kDF := by decide +kernel
/-- head_object of a key that does not exist in an existing bucket, and of a key in a bucket that does not exist -/
example : HeadOk (run H0 4096 {} (demo.take 3)).1 bka kX := by decide +kernel
example : HeadOk (run H0 4096 {} (demo.take 3)).1 [98, 107, 98] kX := by decide +kernel
/-- get_object, copy_object and upload_part_copy with a (source) bucket that does not exist -/
example : GetOk (run H0 4096 {} (demo.take 3)).1 [98, 107, 98] kX := by decide +kernel
example : CopyOk (run H0 4096 {} (demo.take 3)).1 [98, 107, 98] kX bka kDF := by decide +kernel
example : UploadPartCopyOk (run H0 4096 {} (demo.take 23)).1 bka kX (some 1) 2 [98, 107, 98] kDE none := by decide +kernel
/-- delete_objects on a bucket that does not exist (also with a repeated key and with a key both sides refuse) -/
example : DeleteObjectsOk (run H0 4096 {} (demo.take 3)).1 [98, 107, 98] [kX, kX, [46, 46]] := by decide +kernel
/-- delete_objects on an existing bucket with a key that does not exist, a key named twice and (second example) a key both
    sides refuse: inside the predicate (c55c267); every requested key is reported, the object is gone -/
example :
    let s := (run H0 4096 {} (demo.take 3)).1
    DeleteObjectsOk s bka [kA, kX, kA, kDE] ∧
    (step H0 4096 s (.deleteObjects bka [kA, kX, kA, kDE])).2 = .deleted [kA, kX, kA, kDE] ∧
    (step H0 4096 (step H0 4096 s (.deleteObjects bka [kA, kX, kA, kDE])).1 (.getObject bka kA none)).2 =
      .err .NoSuchKey := by decide +kernel
example : DeleteObjectsOk (run H0 4096 {} (demo.take 3)).1 bka [kA, [46, 46]] ∧
    (step H0 4096 (run H0 4096 {} (demo.take 3)).1 (.deleteObjects bka [kA, [46, 46]])).2 = .err .InvalidArgument := by
  decide +kernel
/-- a key that is not in canonical form is outside `DeleteObjectsOk` (fs:key-normalised) -/
example : ¬ DeleteObjectsOk (run H0 4096 {} (demo.take 3)).1 bka [[100, 47, 47, 101]] := by decide +kernel
/-- delete_object of a key that does not exist, in an existing bucket and in a bucket that does not exist -/
example : DeleteOk (run H0 4096 {} (demo.take 3)).1 bka kX := by decide +kernel
example : DeleteOk (run H0 4096 {} (demo.take 3)).1 [98, 107, 98] kX := by decide +kernel
/-- delete_bucket of a bucket that holds objects is inside `Good` (any admissible name is), and is refused -/
example : Good (run H0 4096 {} (demo.take 3)).1 (.deleteBucket bka) ∧
    (step H0 4096 (run H0 4096 {} (demo.take 3)).1 (.deleteBucket bka)).2 = .err .BucketNotEmpty := by decide +kernel
/-- a ranged part copy `bytes=1-3` from an existing object into the owner's upload -/
example : UploadPartCopyOk (run H0 4096 {} (demo.take 23)).1 bka kX (some 1) 2 bka kDE
    (some [98, 121, 116, 101, 115, 61, 49, 45, 51]) := by decide +kernel
/-- every other value of `x-amz-copy-source-range` is inside `Good` too (code since 18203b6; class
    fs:part-copy-range-unchecked): beyond the end (`bytes=0-20` of 5 bytes), open-ended (`bytes=3-`), suffix form
    (`bytes=-3`), a signed position (`bytes=+1-3`), first after last (`bytes=3-1`), a second dash (`bytes=1-3-5`), no unit
    (`1-3`) — all refused with `InvalidArgument`, and the last byte alone (`bytes=4-4`) is copied -/
example :
    let s := (run H0 4096 {} (demo.take 23)).1
    let bad : List Bytes := [[98, 121, 116, 101, 115, 61, 48, 45, 50, 48], [98, 121, 116, 101, 115, 61, 51, 45],
      [98, 121, 116, 101, 115, 61, 45, 51], [98, 121, 116, 101, 115, 61, 43, 49, 45, 51],
      [98, 121, 116, 101, 115, 61, 51, 45, 49], [98, 121, 116, 101, 115, 61, 49, 45, 51, 45, 53], [49, 45, 51], []]
    (∀ r ∈ bad, Good s (.uploadPartCopy alice bka kX (some 1) 2 bka kDE (some r)) ∧
      (step H0 4096 s (.uploadPartCopy alice bka kX (some 1) 2 bka kDE (some r))).2 = .err .InvalidArgument) ∧
    Good s (.uploadPartCopy alice bka kX (some 1) 2 bka kDE (some [98, 121, 116, 101, 115, 61, 52, 45, 52])) ∧
    (step H0 4096 s (.uploadPartCopy alice bka kX (some 1) 2 bka kDE (some [98, 121, 116, 101, 115, 61, 52, 45, 52]))).2 =
      .part (some (etagOf H0 [5])) := by decide +kernel
/-- a copy onto an object that has a metadata file, from a source without one, is inside `CopyOk` (code since 8faafe7; class
    fs:stale-metadata-after-copy), and the object read afterwards has no metadata -/
example : CopyOk (run H0 4096 {} (demo.take 5)).1 bka kA bka kDE ∧
    (run H0 4096 {} (demo.take 5 ++ [.copyObject bka kA bka kDE, .getObject bka kDE none])).2.getLast? =
      some (.get [] 0 none (some (etagOf H0 [])) [] {}) := by decide +kernel
/-- a key that is not in canonical form is outside `CopyOk` (fs:key-normalised) -/
example : ¬ CopyOk (run H0 4096 {} (demo.take 5)).1 bka kA bka [100, 47, 47, 101] := by decide +kernel
/-- part numbers outside 1..10000 are inside `Good` for upload_part and upload_part_copy (and refused), and so are all five
    upload operations on an upload id that was never issued or is no UUID -/
example : Good (run H0 4096 {} (demo.take 23)).1 (.uploadPart alice bka kX (some 1) 0 [1]) ∧
    Good (run H0 4096 {} (demo.take 23)).1 (.uploadPartCopy alice bka kX (some 1) 10001 bka kDE none) ∧
    (step H0 4096 (run H0 4096 {} (demo.take 23)).1 (.uploadPartCopy alice bka kX (some 1) 10001 bka kDE none)).2 =
      .err .InvalidArgument ∧
    Good (run H0 4096 {} (demo.take 23)).1 (.uploadPart alice bka kX (some 9) 1 [1]) ∧
    Good (run H0 4096 {} (demo.take 23)).1 (.uploadPartCopy alice bka kX none 1 bka kDE none) ∧
    Good (run H0 4096 {} (demo.take 23)).1 (.listParts alice bka kX (some 9)) ∧
    Good (run H0 4096 {} (demo.take 23)).1 (.completeMultipartUpload alice bka kX none (some [some 1])) ∧
    Good (run H0 4096 {} (demo.take 23)).1 (.abortMultipartUpload alice bka kX (some 9)) := by decide +kernel
/-- a complete that replaces an object which has metadata and a recorded checksum, by an upload without metadata, is
    inside `Good` (and the object read afterwards has neither) -/
example :
    let ops : List Op := [.createBucket bka, .putObject bka kA [1] (some [([109], [118])]) { crc32 := some [1] } none,
      .createMultipartUpload alice bka kA none, .uploadPart alice bka kA (some 1) 1 [2],
      .completeMultipartUpload alice bka kA (some 1) (some [some 1]), .getObject bka kA none]
    GoodRun H0 4096 {} ops ∧ (run H0 4096 {} ops).2.getLast? = some (.get [2] 1 none (some (etagOf H0 [2])) [] {}) := by
  decide +kernel
/-- a complete into a bucket that was deleted after the upload was created is inside `Good` (code since b29f222; class
    fs:complete-into-missing-bucket): it is refused, the bucket stays away and the upload stays -/
example :
    let ops : List Op := [.createBucket bka, .createMultipartUpload alice bka kA none, .uploadPart alice bka kA (some 1) 1 [2],
      .deleteBucket bka, .completeMultipartUpload alice bka kA (some 1) (some [some 1]), .listBuckets]
    GoodRun H0 4096 {} ops ∧ (run H0 4096 {} ops).2.drop 4 = [.err .NoSuchBucket, .buckets []] ∧
    (alLookup 1 (run H0 4096 {} ops).1.uploads).isSome = true := by decide +kernel
/-- parts uploaded out of order (3, 1, 2) are listed in ascending order, inside `Good` -/
example :
    let ops : List Op := [.createBucket bka, .createMultipartUpload alice bka kA none, .uploadPart alice bka kA (some 1) 3 [7],
      .uploadPart alice bka kA (some 1) 1 [8, 9], .uploadPart alice bka kA (some 1) 2 [], .listParts alice bka kA (some 1)]
    GoodRun H0 4096 {} ops ∧ (run H0 4096 {} ops).2.getLast? = some (.parts [(1, 2), (2, 0), (3, 1)]) := by decide +kernel
/-- the owner's failing completes are inside `Good`, are refused, and leave the upload in place -/
example : Good (run H0 4096 {} (demo.take 25)).1 (demo.getD 25 .listBuckets) ∧
    (run H0 4096 {} (demo.take 28)).2.drop 25 = [.err .InvalidPart, .part (some (etagOf H0 [5])), .err .EntityTooSmall] ∧
    (alLookup 1 (run H0 4096 {} (demo.take 28)).1.uploads).isSome = true := by decide +kernel

/-- every part list is inside `Good` (code since dbb8684, 0fcb858), is answered with the store's code in
    the store's order and, when refused, leaves the upload in place: on an upload that holds the parts 9, 2, 5 — no part
    list, an empty one (also for an upload that does not exist), a part without a number: `MalformedXML`; unordered or
    repeated numbers: `InvalidPartOrder` (also when a listed part does not exist); a part that was never uploaded:
    `InvalidPart`; the gapped list 2, 5, 9, whose parts other than the last are small: `EntityTooSmall`; the single part 9
    (a list that does not start at 1) completes to that part's content -/
example :
    let pre : List Op := [.createBucket bka, .createMultipartUpload alice bka kA none,
      .uploadPart alice bka kA (some 1) 9 [9, 9], .uploadPart alice bka kA (some 1) 2 [2],
      .uploadPart alice bka kA (some 1) 5 [5]]
    let tries : List Op := [.completeMultipartUpload alice bka kA (some 1) none,
      .completeMultipartUpload alice bka kA (some 1) (some []),
      .completeMultipartUpload bob bka kA (some 7) (some []),
      .completeMultipartUpload alice bka kA (some 1) (some [some 2, none]),
      .completeMultipartUpload alice bka kA (some 1) (some [some 5, some 2]),
      .completeMultipartUpload alice bka kA (some 1) (some [some 2, some 2]),
      .completeMultipartUpload alice bka kA (some 1) (some [some 3, some 2]),
      .completeMultipartUpload alice bka kA (some 1) (some [some 2, some 3]),
      .completeMultipartUpload alice bka kA (some 1) (some [some (-1), some 2]),
      .completeMultipartUpload alice bka kA (some 1) (some [some 2, some 5, some 9]),
      .listParts alice bka kA (some 1),
      .completeMultipartUpload alice bka kA (some 1) (some [some 9]),
      .getObject bka kA none]
    GoodRun H0 4096 {} (pre ++ tries) ∧
    (run H0 4096 {} (pre ++ tries)).2.drop 5 =
      [.err .MalformedXML, .err .MalformedXML, .err .MalformedXML, .err .MalformedXML, .err .InvalidPartOrder,
       .err .InvalidPartOrder, .err .InvalidPartOrder, .err .InvalidPart, .err .InvalidPart, .err .EntityTooSmall,
       .parts [(2, 1), (5, 1), (9, 2)], .completed (some (etagOf H0 [9, 9])),
       .get [9, 9] 2 none (some (etagOf H0 [9, 9])) [] {}] := by decide +kernel

end S3V.C18
