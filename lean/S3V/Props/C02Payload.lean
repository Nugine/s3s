import S3V.Props.C13
import S3V.Thm.PayloadTable
import S3V.Thm.HttpDeMetadata
import S3V.Thm.BytesText
/-!
# C02 × C13 — the payload member of every operation (request body)

`C02_bindings_match_smithy` says WHICH member of an input is bound to the body; `C13_codec_roundtrip_types` says that
every XML type of s3s is read back from what a conforming encoder writes. This file: the type a generated
`deserialize_http` decodes the body as is the one the Smithy model prescribes for that operation, under the root
element the model prescribes, and the body helpers of `http/de.rs` hand the document over unchanged.

* table (`Gen/Payloads.lean`, regenerated on every run from `ops/generated.rs` and `data/s3.json`): per operation
  the body statement of the code — helper and the Rust type it is instantiated at — and the `httpPayload` member of
  the model — target shape, root element name (member `xmlName`, else the target's `xmlName`, else its shape
  name), `required`; the kernel decides that they fit, for all 96 operations;
* model (`Model/HttpBody.lean`): `take_xml_body`, `take_opt_xml_body`, `take_string_body`, `take_stream_body`,
  `deserialize_xml` over the reader and decoder of `Model/Xml.lean`;
* theorem: for every operation with an XML body and every value of its payload type (normal form, `Fits`), the
  helper applied to the BYTES a conforming encoder writes for that value gives the value back.

The last section is no payload: the `x-amz-meta-*` family, the one input member bound to a header-name prefix
(`parse_opt_metadata`).
-/
namespace S3V.C02
open S3V S3V.Gen S3V.Xml S3V.XmlGen S3V.HttpBody S3V.PayloadTable S3V.C13

/-! ## the table against the model -/

/-- **The body of every operation is bound as the Smithy model prescribes** (re-decided on every run, all 96
    operations). An operation's `deserialize_http` has at most one body statement, and it has one exactly when the
    model's input has an `httpPayload` member (or is itself the body: `SelectObjectContent`); the statement is for
    the same member; an XML payload is decoded as the Rust type named like the member's target shape, with
    `take_opt_xml_body` exactly when the member is not `required`; a string payload (`Policy`) is the raw body as
    text; a streaming blob is the raw body (`rowsMatch`, `bodyMatch`). -/
theorem C02_payload_binding_matches_smithy : ∀ op : Op, rowsMatch (implInBody op) (smithyInBody op) = true :=
  Op.forall_of_all (by decide +kernel)

/-- … so no operation has two body statements, and code and model have equally many (0 or 1) -/
theorem C02_payload_at_most_one (op : Op) :
    (implInBody op).length ≤ 1 ∧ (implInBody op).length = (smithyInBody op).length :=
  length_le_one_of_match (C02_payload_binding_matches_smithy op)

/-- the body table and the binding table of `C02_bindings_match_smithy` speak about the same members: the body rows
    are exactly the rows of `implInputs` bound to the payload -/
theorem C02_payload_rows_are_binding_rows : ∀ op : Op,
    (implInBody op).map (·.member) = payloadMembers (implInputs op) :=
  Op.forall_of_all (by decide +kernel)

def inXmlOk (op : Op) : Bool :=
  (implInBody op).all fun r =>
    match r.body with
    | .xml ty _ =>
      (deDef ty).isSome &&
      (match smithyRootOf (smithyInBody op) with
       | some root => deRoot ty == some (.named root)
       | none => false)
    | _ => true

theorem inXmlOk_all : ∀ op : Op, inXmlOk op = true :=
  Op.forall_of_all (by decide +kernel)

/-- **The payload type of every operation has a deserialiser, under the root element the model prescribes**
    (re-decided on every run): for every XML body statement `take[_opt]_xml_body::<T>` of every operation, `T` has a
    `DeserializeContent` impl, and `impl Deserialize for T` expects exactly the root element name restXml derives
    from the model for that operation's payload. -/
theorem C02_payload_type_and_root (op : Op) (m : List UInt8) (ty : Ty) (o : Bool)
    (h : ⟨m, .xml ty o⟩ ∈ implInBody op) :
    (deDef ty).isSome = true ∧
    ∃ root, smithyRootOf (smithyInBody op) = some root ∧ deRoot ty = some (.named root) := by
  have hall := List.all_eq_true.mp (inXmlOk_all op) _ h
  simp only [Bool.and_eq_true] at hall
  refine ⟨hall.1, ?_⟩
  cases hr : smithyRootOf (smithyInBody op) with
  | none => simp [hr] at hall
  | some root => exact ⟨root, rfl, by simpa [hr] using hall.2⟩

/-! ## the round trip -/

/-- **THE XML PAYLOAD OF EVERY OPERATION ROUND-TRIPS.** For every operation whose `deserialize_http` takes an XML
    body — as the type `ty`, required (`o = false`, `take_xml_body`) or optional (`o = true`, `take_opt_xml_body`) —
    let `root` be the root element name the Smithy model prescribes for that operation's payload and `sd` / `ss` the
    schemas extracted from the deserialiser / serialiser impl of `ty` (equal up to `serView`, equal to the model's
    by `C13_ser_schema_eq_de_schema` / `C13_schema_eq_smithy`). Then for EVERY value `v` of the type in normal form
    (`Fits`: any sizes, depths, list lengths, any text), the document a conforming encoder writes for `v` — root
    element `root`, with or without an XML declaration in front (`decl`), whatever namespace it declares on the root
    (`ns`; the model's is `smithyServiceNs`) — is decoded from its BYTES by the operation's body helper to exactly
    `v`; and for an optional payload the empty body is the absent member. By instantiating
    `C13_codec_roundtrip_types` at `ty`; no hypothesis on the tables is left. -/
theorem C02_payload_roundtrip_every_operation (X : Ext) (op : Op) (m : List UInt8) (ty : Ty) (o : Bool)
    (h : ⟨m, .xml ty o⟩ ∈ implInBody op) :
    ∃ root sd ss, smithyRootOf (smithyInBody op) = some root ∧ deRoot ty = some (.named root) ∧
      deSchema ty = some sd ∧ serSchema ty = some ss ∧
      ∀ v, Fits X sd v → ∀ (decl : Bool) (ns : Option Bytes),
        (o = false → takeXmlBody X (.named root) sd (setXmlBody decl (.named root ns) ss v) = .ok v) ∧
        (o = true → takeOptXmlBody X (.named root) sd (setXmlBody decl (.named root ns) ss v) = .ok (some v) ∧
          takeOptXmlBody X (.named root) sd [] = .ok none) := by
  obtain ⟨hde, root, hsr, hdr⟩ := C02_payload_type_and_root op m ty o h
  obtain ⟨sd, ss, h1, h2, hrt⟩ := C13_codec_roundtrip_types X ty hde
  obtain ⟨_, ⟨ss', hss', hgood⟩, hroot⟩ := C13_tables_tags_good ty
  rw [h2] at hss'; cases hss'
  -- the root `impl Serialize` writes is the one `impl Deserialize` expects, and it is a plain name
  obtain ⟨sr, hs, hf⟩ := Option.map_eq_some_iff.mp ((C13_ser_schema_eq_de_schema ty hde).2 _ hdr)
  have hg := SerRoot.goodName_of_forget hf (hroot sr hs)
  refine ⟨root, sd, ss, hsr, hdr, h1, h2, ?_⟩
  intro v hfit decl ns
  obtain ⟨_, hnamed, _⟩ := hrt v hfit
  obtain ⟨ha, hb⟩ := take_xml_body_roundtrip X root sd ss hg hgood v ns (hnamed root ns) decl
  exact ⟨fun _ => ha, fun _ => ⟨hb, takeOptXmlBody_nil X _ sd⟩⟩

/-! ## every operation is covered -/

/-- **Every operation is classified** (kernel-checked, no operation left out): its `deserialize_http`
    1. takes an XML body — `C02_payload_roundtrip_every_operation` applies —, or
    2. takes the raw body as a stream (`PutObject`, `UploadPart`, `WriteGetObjectResponse`: the model's streaming blob
       `Body`; the bytes are the value, `C02_payload_stream_and_text_are_the_raw_body`; how they travel is C08 / C09), or
    3. takes the raw body as text (`PutBucketPolicy`: the model's string payload `Policy`), or
    4. has no body statement — and then the model's input has no `httpPayload` member and no body member either. -/
theorem C02_payload_every_operation_classified (op : Op) :
    (∃ m ty o, implInBody op = [⟨m, .xml ty o⟩]) ∨
    (op ∈ [Op.PutObject, .UploadPart, .WriteGetObjectResponse] ∧ ∃ m, implInBody op = [⟨m, .stream⟩]) ∨
    (op = .PutBucketPolicy ∧ ∃ m, implInBody op = [⟨m, .text false⟩]) ∨
    (implInBody op = [] ∧ smithyInBody op = []) := by
  have h := inClass_all op
  unfold inClass at h
  split at h
  · exact .inl ⟨_, _, _, ‹_›⟩
  · exact .inr (.inl ⟨by simpa using h, _, ‹_›⟩)
  · exact .inr (.inr (.inl ⟨by simpa using h, _, ‹_›⟩))
  · exact .inr (.inr (.inr ⟨‹_›, by simpa using h⟩))
  · cases h

/-- the classes by number (pinned tree: 29 operations with an XML body — 28 `httpPayload` structures and the
    `SelectObjectContent` request —, 3 streams, 1 text, 63 without a body) -/
theorem C02_payload_class_sizes :
    (Op.all.filter fun op => (implInBody op).any fun r => match r.body with | .xml _ _ => true | _ => false).length = 29 ∧
    Op.all.filter (fun op => (implInBody op).any fun r => r.body == .stream) = [.PutObject, .UploadPart, .WriteGetObjectResponse] ∧
    Op.all.filter (fun op => (implInBody op).any fun r => match r.body with | .text _ => true | _ => false) = [.PutBucketPolicy] ∧
    (Op.all.filter fun op => (implInBody op).isEmpty).length = 63 := by
  decide +kernel

/-- **A streaming or text payload is the raw body**: `take_stream_body` hands the frames of the request body over
    as they are (any number of frames, any bytes); `take_string_body` yields the body bytes themselves as the string,
    and does so exactly when they are UTF-8 (anything else is refused, never repaired). -/
theorem C02_payload_stream_and_text_are_the_raw_body :
    (∀ frames : List Bytes, takeStreamBody frames = frames) ∧
    (∀ body : Bytes, utf8Valid body = true → takeStringBody body = .ok body) ∧
    (∀ body s : Bytes, takeStringBody body = .ok s → s = body ∧ utf8Valid body = true) := by
  refine ⟨fun _ => rfl, fun body h => by simp [takeStringBody, h], ?_⟩
  intro body s h
  unfold takeStringBody at h
  by_cases hv : utf8Valid body = true
  · simp only [hv, if_true, Except.ok.injEq] at h
    exact ⟨h.symm, hv⟩
  · simp [hv] at h

/-! ## the `x-amz-meta-*` family -/

/-- **`parse_opt_metadata` reads back the metadata map** (generic; on the helper model of `Model/HttpDe.lean`): for
    every map `md` with pairwise distinct, non-empty keys whose values survive the header
    text codec (`decStr (enc v) = some v`; the codec is the parameter, as in `C02_decode_encode`), sent the Smithy
    `httpPrefixHeaders` way — one header `x-amz-meta-<key>: <value>` per pair — in front of any other headers
    (any number, repeated or not, none of them named `x-amz-meta-…`), the helper yields exactly `md`, in order, and
    `None` for the empty map. No bound on the number of pairs or on key / value sizes. -/
theorem C02_metadata_roundtrip (decStr : Bytes → Option Bytes) (enc : Bytes → Bytes) (md : List (Bytes × Bytes))
    (extra : List (HttpDe.Name × Bytes)) (q : Option (List (HttpDe.Name × Bytes)))
    (hk : (md.map (·.1)).Nodup) (hne : ∀ kv ∈ md, kv.1 ≠ []) (hdec : ∀ kv ∈ md, decStr (enc kv.2) = some kv.2)
    (hex : ∀ p ∈ extra, ¬ HttpDe.metaPrefix <+: p.1) :
    HttpDe.parseOptMetadata decStr ⟨HttpDe.metaHeaders enc md ++ extra, q⟩ = .ok (if md = [] then none else some md) :=
  HttpDe.parseOptMetadata_roundtrip decStr enc md extra q hk hne hdec hex

def metaRowsOk (op : Op) : Bool :=
  ((implInputs op).filter fun b => b.loc == .pfx).length ≤ 1 &&
  (implInputs op).all fun b =>
    (b.loc != .pfx || (b.wire == HttpDe.metaPrefix && b.required == false)) &&
    (b.loc != .header || !HttpDe.metaPrefix.isPrefixOf b.wire)

theorem metaRowsOk_all : ∀ op : Op, metaRowsOk op = true :=
  Op.forall_of_all (by decide +kernel)

/-- **… at every operation that has a prefix-headers input member** (re-decided on every run): an operation has at
    most one member bound to a header-name prefix; the prefix is the `x-amz-meta-` the helper strips, the member is
    optional (`parse_opt_metadata`); and no header-bound member of the same operation has a name with that prefix — so
    the operation's own header members are among the `extra` headers the round trip allows. Hence, for every such
    operation, every metadata map as above and any other headers not named `x-amz-meta-…` (those of the operation's
    header members included), the member arrives as the map that was sent. -/
theorem C02_metadata_roundtrip_every_operation (op : Op) (b : Binding) (hb : b ∈ implInputs op) (hp : b.loc = .pfx)
    (decStr : Bytes → Option Bytes) (enc : Bytes → Bytes) (md : List (Bytes × Bytes))
    (extra : List (HttpDe.Name × Bytes)) (q : Option (List (HttpDe.Name × Bytes)))
    (hk : (md.map (·.1)).Nodup) (hne : ∀ kv ∈ md, kv.1 ≠ []) (hdec : ∀ kv ∈ md, decStr (enc kv.2) = some kv.2)
    (hex : ∀ p ∈ extra, (∃ h ∈ implInputs op, h.loc = .header ∧ h.wire = p.1) ∨ ¬ HttpDe.metaPrefix <+: p.1) :
    b.wire = HttpDe.metaPrefix ∧ b.required = false ∧
    HttpDe.parseOptMetadata decStr ⟨HttpDe.metaHeaders enc md ++ extra, q⟩ = .ok (if md = [] then none else some md) := by
  have hall := metaRowsOk_all op
  simp only [metaRowsOk, Bool.and_eq_true, List.all_eq_true] at hall
  have hrow := hall.2
  have hbb := (hrow b hb).1
  simp only [hp, bne_self_eq_false, Bool.false_or, Bool.and_eq_true, beq_iff_eq] at hbb
  refine ⟨hbb.1, hbb.2, C02_metadata_roundtrip decStr enc md extra q hk hne hdec ?_⟩
  intro p hpx
  rcases hex p hpx with ⟨h, hh, hl, hw⟩ | hn
  · have h2 := (hrow h hh).2
    simp only [hl, bne_self_eq_false, Bool.false_or, Bool.not_eq_true'] at h2
    rw [← hw]
    intro hpre
    rw [bytes_isPrefixOf_iff.mpr hpre] at h2
    exact absurd h2 (by decide)
  · exact hn

/-- the operations with a prefix-headers input member (pinned tree) -/
theorem C02_metadata_operations :
    Op.all.filter (fun op => (implInputs op).any fun b => b.loc == .pfx)
      = [.CopyObject, .CreateMultipartUpload, .PutObject, .WriteGetObjectResponse] := by
  decide +kernel

/-! ## non-vacuity -/

/-- `PutBucketTagging` takes its body as `Tagging` (required), `PutObjectAcl` as `AccessControlPolicy` (optional),
    `CompleteMultipartUpload` as `CompletedMultipartUpload` under the root `CompleteMultipartUpload` (member
    `xmlName`), `PutObjectLegalHold` as `ObjectLockLegalHold` under `LegalHold` -/
example : implInBody .PutBucketTagging = [⟨[116, 97, 103, 103, 105, 110, 103], .xml .Tagging false⟩] := by decide +kernel
example : (implInBody .PutObjectAcl).map (·.body) = [.xml .AccessControlPolicy true] := by decide +kernel
example : (implInBody .CompleteMultipartUpload).map (·.body) = [.xml .CompletedMultipartUpload true] ∧
    smithyRootOf (smithyInBody .CompleteMultipartUpload) = some t_CompleteMultipartUpload := by decide +kernel
example : (implInBody .PutObjectLegalHold).map (·.body) = [.xml .ObjectLockLegalHold true] ∧
    smithyRootOf (smithyInBody .PutObjectLegalHold) = some t_LegalHold := by decide +kernel

/-- the theorem fires at `PutBucketTagging` with the two-tag value of `C13.taggingVal` (markup characters, non-ASCII,
    an empty value, a missing key): the hypothesis is a table row, the schema is `C13.taggingSch` -/
example (X : Ext) : ∃ root sd ss, smithyRootOf (smithyInBody .PutBucketTagging) = some root ∧
    deRoot .Tagging = some (.named root) ∧ deSchema .Tagging = some sd ∧ serSchema .Tagging = some ss ∧
    ∀ v, Fits X sd v → ∀ (decl : Bool) (ns : Option Bytes),
      (false = false → takeXmlBody X (.named root) sd (setXmlBody decl (.named root ns) ss v) = .ok v) ∧
      (false = true → takeOptXmlBody X (.named root) sd (setXmlBody decl (.named root ns) ss v) = .ok (some v) ∧
        takeOptXmlBody X (.named root) sd [] = .ok none) :=
  C02_payload_roundtrip_every_operation X .PutBucketTagging [116, 97, 103, 103, 105, 110, 103] .Tagging false (by decide +kernel)

/-- … and the body it speaks about is a real document: `<?xml version="1.0" encoding="UTF-8"?><Tagging><TagSet><Tag>
    <Key> &lt;a&gt;&amp;&apos;&quot; é </Key><Value>b</Value></Tag><Tag><Value></Value></Tag></TagSet></Tagging>` -/
example : (setXmlBody true (.named t_Tagging none) taggingSch taggingVal).length = 169 := by decide +kernel

/-- `C02_metadata_roundtrip` fires: `color=blue`, `shape=round thing` next to `host` and a repeated `x-amz-tagging`,
    identity codec -/
example : HttpDe.parseOptMetadata some
    ⟨HttpDe.metaHeaders id [([99, 111, 108, 111, 114], [98, 108, 117, 101]),
        ([115, 104, 97, 112, 101], [114, 111, 117, 110, 100, 32, 116, 104, 105, 110, 103])] ++
      [([104, 111, 115, 116], [120]), ([120, 45, 97, 109, 122, 45, 116, 97, 103, 103, 105, 110, 103], [97]),
       ([120, 45, 97, 109, 122, 45, 116, 97, 103, 103, 105, 110, 103], [98])], none⟩
    = .ok (some [([99, 111, 108, 111, 114], [98, 108, 117, 101]),
        ([115, 104, 97, 112, 101], [114, 111, 117, 110, 100, 32, 116, 104, 105, 110, 103])]) := by
  apply C02_metadata_roundtrip some id _ _ none <;> decide

end S3V.C02

#print axioms S3V.C02.C02_payload_binding_matches_smithy
#print axioms S3V.C02.C02_payload_at_most_one
#print axioms S3V.C02.C02_payload_rows_are_binding_rows
#print axioms S3V.C02.C02_payload_type_and_root
#print axioms S3V.C02.C02_payload_roundtrip_every_operation
#print axioms S3V.C02.C02_payload_every_operation_classified
#print axioms S3V.C02.C02_payload_class_sizes
#print axioms S3V.C02.C02_payload_stream_and_text_are_the_raw_body
#print axioms S3V.C02.C02_metadata_roundtrip
#print axioms S3V.C02.C02_metadata_roundtrip_every_operation
#print axioms S3V.C02.C02_metadata_operations
