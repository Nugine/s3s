import S3V.Gen.Bindings
import S3V.Gen.Conv
import S3V.Thm.HttpDeTable
import S3V.Thm.OpAll
/-!
# C02 — the typed input the backend receives equals what the client encoded

`implInputs` is read from every `deserialize_http` in `ops/generated.rs` (one binding per `let` statement: member,
location, wire name — header constants resolved through `header/generated.rs` —, required/optional, timestamp
format); `smithyInputs` is read from the `http*` traits of the operation's input structure in `data/s3.json`.
Both are regenerated on every run; the kernel re-decides the equality for all operations.
A wrong header constant, query name, location, optionality or timestamp format on one member of one operation
fails `C02_bindings_match_smithy` at that operation.
-/
namespace S3V.C02
open S3V.Gen

/-- every input member of every operation is bound to the location, wire name, optionality and timestamp
    format the Smithy model prescribes, and no member is missing or extra -/
theorem C02_bindings_match_smithy : ∀ op : Op, implInputs op = smithyInputs op :=
  Op.forall_of_all (by decide +kernel)

/-- within one operation no two members are bound to the same (location, wire name): lookups are independent,
    so a value sent for one member cannot arrive in another -/
theorem C02_wire_names_distinct : ∀ op : Op,
    ((implInputs op).filter (fun b => b.loc == .query || b.loc == .header)).map (fun b => (b.loc, b.wire))
      |>.Nodup := by
  -- names are compared length first (see `nodupB`)
  have h : ∀ op : Op, nodupB
      (((implInputs op).filter (fun b => b.loc == .query || b.loc == .header)).map
        fun b => (b.loc, b.wire.length, b.wire)) = true := Op.forall_of_all (by decide +kernel)
  intro op
  refine nodup_map_of_nodup_map (fun a _ b _ he => ?_) (nodupB_iff.mp (h op))
  rw [(Prod.mk.inj he).1, (Prod.mk.inj he).2]

/-! ## the binding helpers of `http/de.rs` (hand-written): decoding what a client encoded gives it back

The generated `deserialize_http` of an operation is `decodeAll` over its binding list (statement order, `?` after
each). `encode` is the Smithy REST binding of the members, independent of the decoder. No bound on the number of
members, on list lengths or on value sizes; the scalar codec of each member type is a parameter with the
hypothesis `dec (enc v) = some v` (C14 proves it for ranges, timestamps and copy sources). -/

open S3V.HttpDe S3V.HttpBinding S3V.HttpDeThm in
/-- every member bound to a header or to the query string arrives with exactly the value sent, members not sent
    arrive absent (`opt none`, empty list), whatever other headers and query pairs surround them -/
theorem C02_decode_encode {V : Type} (bs : List (EB V)) (ss : List (Slot V)) (extraH extraQ : List (Name × Bytes))
    (hc : Conf bs ss) (hd : Distinct bs)
    (hH : ∀ b ∈ bs, isHeaderKind b.bind.kind = true → getAll extraH b.bind.wire = [])
    (hQ : ∀ b ∈ bs, isHeaderKind b.bind.kind = false → getAll extraQ b.bind.wire = []) :
    decodeAll (encode extraH extraQ bs ss) (bs.map (·.bind)) = .ok ss := by
  refine decodeAll_of_fields _ bs ss hc fun b s h => ?_
  rw [field_encode, getAll_allK bs ss hd b s h]
  have hb := (List.of_mem_zip h).1
  cases hk : side b
  · rw [if_neg Bool.false_ne_true, hQ b hb hk]; rfl
  · rw [if_pos rfl, hH b hb hk]; rfl

open S3V.HttpDe in
/-- a single-valued header member sent twice is a client error, not a merged or first/last-wins input -/
theorem C02_duplicate_header_rejected {V : Type} (dec : Bytes → Option V) (r : Req) (n : Name) (v₁ v₂ : Bytes)
    (rest : List Bytes) (h : getAll r.headers n = v₁ :: v₂ :: rest) :
    parseHeader dec r n = .error .duplicateHeader ∧ parseOptHeader dec r n = .error .duplicateHeader := by
  simp [parseHeader, parseOptHeader, h]

open S3V.HttpDe in
/-- likewise for a query member -/
theorem C02_duplicate_query_rejected {V : Type} (dec : Bytes → Option V) (r : Req) (qs : List (Name × Bytes))
    (n : Name) (v₁ v₂ : Bytes) (rest : List Bytes) (hq : r.query = some qs) (h : getAll qs n = v₁ :: v₂ :: rest) :
    parseQuery dec r n = .error .duplicateQuery ∧ parseOptQuery dec r n = .error .duplicateQuery := by
  simp [parseQuery, parseOptQuery, hq, h]

open S3V.HttpDe in
/-- a missing required member is a client error, never a defaulted value -/
theorem C02_missing_required_rejected {V : Type} (dec : Bytes → Option V) (r : Req) (n : Name) :
    (getAll r.headers n = [] → parseHeader dec r n = .error .missingHeader ∧
        parseListHeader dec true r n = .error .missingHeader) ∧
      ((r.query = none ∨ ∃ qs, r.query = some qs ∧ getAll qs n = []) → parseQuery dec r n = .error .missingQuery) := by
  refine ⟨fun h => by simp [parseHeader, parseListHeader, h], ?_⟩
  rintro (h | ⟨qs, hq, h⟩)
  · simp [parseQuery, h]
  · simp [parseQuery, hq, h]

open S3V.HttpDe in
/-- a value that is not of the member's type is a client error, never a defaulted or truncated value -/
theorem C02_ill_typed_rejected {V : Type} (dec : Bytes → Option V) (r : Req) (n : Name) (v : Bytes) (hv : dec v = none) :
    (getAll r.headers n = [v] → parseHeader dec r n = .error .invalidHeader ∧
        parseOptHeader dec r n = .error .invalidHeader ∧
        (lineItems v = [v] → ∀ req, parseListHeader dec req r n = .error .invalidHeader)) ∧
      (∀ qs, r.query = some qs → getAll qs n = [v] →
        parseQuery dec r n = .error .invalidQuery ∧ parseOptQuery dec r n = .error .invalidQuery) := by
  refine ⟨fun h => ⟨?_, ?_, ?_⟩, fun qs hq h => by simp [parseQuery, parseOptQuery, hq, h, hv]⟩
  · simp [parseHeader, h, hv]
  · simp [parseOptHeader, h, hv]
  · intro hi req
    simp [parseListHeader, h, hi, hv]

open S3V.HttpDe in
/-- whatever a statement decodes was present under the member's own wire name: a value sent for one member
    cannot arrive in another -/
theorem C02_value_comes_from_own_name {V : Type} (dec : Bytes → Option V) (r : Req) (n : Name) (a : V) :
    (parseOptHeader dec r n = .ok (some a) → ∃ v, getAll r.headers n = [v] ∧ dec v = some a) ∧
      (parseOptQuery dec r n = .ok (some a) → ∃ qs v, r.query = some qs ∧ getAll qs n = [v] ∧ dec v = some a) := by
  -- of the leaves of each reader only the one that read a single value and decoded it answers `ok (some _)`
  constructor
  · fun_cases parseOptHeader dec r n
    · exact nofun
    next v hv a' hd => exact fun h => ⟨v, hv, by cases h; exact hd⟩
    · exact nofun
    · exact nofun
  · fun_cases parseOptQuery dec r n
    · exact nofun
    · exact nofun
    next qs hq v hv a' hd => exact fun h => ⟨qs, v, hq, hv, by cases h; exact hd⟩
    · exact nofun
    · exact nofun

open S3V.HttpDe in
/-- a list-valued header decodes alike whether its elements are sent on separate lines or comma-joined on one
    line (what the SDKs send), with optional whitespace around the commas -/
theorem C02_list_header_comma_joined :
    lineItems [69, 84, 97, 103, 44, 79, 98, 106, 101, 99, 116, 83, 105, 122, 101, 44, 32, 83, 116, 111, 114, 97, 103, 101, 67, 108, 97, 115, 115]
      = [[69, 84, 97, 103], [79, 98, 106, 101, 99, 116, 83, 105, 122, 101], [83, 116, 111, 114, 97, 103, 101, 67, 108, 97, 115, 115]] := by
  decide +kernel

/-! non-vacuity of `C02_decode_encode`: two header members and one query member with identity codecs -/
open S3V.HttpDe S3V.HttpBinding in
example : decodeAll
    (encode [([104], [120])] [([120, 45, 105, 100], [71])]
      [⟨⟨.optHeader, [97], some⟩, id⟩, ⟨⟨.reqQuery, [98], some⟩, id⟩, ⟨⟨.listHeader false, [99], some⟩, id⟩]
      [.opt (some [1, 2]), .one [3], .many [[4], [5]]])
    ([⟨⟨.optHeader, [97], some⟩, id⟩, ⟨⟨.reqQuery, [98], some⟩, id⟩,
      (⟨⟨.listHeader false, [99], some⟩, id⟩ : EB Bytes)].map (·.bind))
    = .ok [.opt (some [1, 2]), .one [3], .many [[4], [5]]] := by
  apply C02_decode_encode
  · exact HttpDeTable.conf_of_confB _ _ (by decide)
  · exact HttpDeTable.distinct_of_distinctB _ (by decide)
  · decide
  · decide

/-! ## the SDK-proxy configuration (client → AWS-SDK proxy backend → second adapter)

`S3V.Gen.Conv` is translated on every run from `crates/s3s-aws/src/conv/generated.rs` (344 structures, 65 string
enums, 3 unions) and from the dto struct definitions; names are compared in normal form (lower case, no
underscores, `r#` stripped). The SDK's own encoder/decoder is trusted. -/

open S3V.Gen.Conv in
/-- the same elements and the same length -/
def sameSet (a b : List Nat) : Bool := a.all b.contains && b.all a.contains && a.length == b.length

open S3V.Gen.Conv in
/-- both conversions of a structure pair field `f` with field `f`, and each lists the fields of the dto structure
    (`sameSet`) -/
def structOk (s : ConvStruct) : Bool :=
  s.fromPairs.all (fun p => p.1 == p.2) && s.intoPairs.all (fun p => p.1 == p.2) &&
    sameSet (s.fromPairs.map (·.1)) s.dtoFields && sameSet (s.intoPairs.map (·.2)) s.dtoFields

open S3V.Gen.Conv in
/-- every constant is paired with the like-named one -/
def enumOk (e : ConvEnum) : Bool := e.pairs.all (fun p => p.1 == p.2)

open S3V.Gen.Conv in
theorem conv_structs_table : structs.all structOk = true := by
  -- `sameSet a d` is evaluated only where `a` is not `d` itself (in the table at hand: nowhere — both directions go
  -- through the dto fields in declaration order)
  have hset : ∀ a d : List Nat, (a == d || sameSet a d) = true → sameSet a d = true := by
    intro a d h
    rcases Bool.or_eq_true _ _ |>.mp h with he | hs
    · rw [eq_of_beq he]
      simp [sameSet]
    · exact hs
  have h : structs.all (fun s => s.fromPairs.all (fun p => p.1 == p.2) && s.intoPairs.all (fun p => p.1 == p.2) &&
      (s.fromPairs.map (·.1) == s.dtoFields || sameSet (s.fromPairs.map (·.1)) s.dtoFields) &&
      (s.intoPairs.map (·.2) == s.dtoFields || sameSet (s.intoPairs.map (·.2)) s.dtoFields)) = true := by
    decide +kernel
  refine List.all_eq_true.mpr fun s hs => ?_
  have hs := List.all_eq_true.mp h s hs
  simp only [Bool.and_eq_true] at hs
  obtain ⟨⟨⟨h1, h2⟩, h3⟩, h4⟩ := hs
  rw [structOk, h1, h2, hset _ _ h3, hset _ _ h4]
  rfl

open S3V.Gen.Conv in
theorem conv_enums_table : (enums.all enumOk && unions.all (fun u => enumOk u.1 && enumOk u.2)) = true := by
  decide +kernel

open S3V.Gen.Conv in
/-- every s3s ↔ SDK structure conversion copies field `f` to field `f`, in both directions, and converts every
    field of the dto structure exactly once: a proxied request or response cannot arrive with a member moved,
    dropped or duplicated -/
theorem C02_conv_structs_field_identity : ∀ s ∈ structs, structOk s = true :=
  List.all_eq_true.mp conv_structs_table

open S3V.Gen.Conv in
/-- every enum constant and union variant is converted to the like-named one -/
theorem C02_conv_enums_identity :
    (∀ e ∈ enums, enumOk e = true) ∧ (∀ u ∈ unions, enumOk u.1 = true ∧ enumOk u.2 = true) := by
  have h := conv_enums_table
  rw [Bool.and_eq_true, List.all_eq_true, List.all_eq_true] at h
  exact ⟨h.1, fun u hu => by simpa [Bool.and_eq_true] using h.2 u hu⟩

/-! non-vacuity: the tables are not empty -/
example : S3V.Gen.Conv.structs.length > 300 := by decide +kernel
example : (implInputs .GetObject).length = 21 := by decide
example : (implInputs .PutObject).length > 30 := by decide

end S3V.C02
