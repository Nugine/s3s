import S3V.Thm.PrepareBody
import S3V.Props.C01Prepare
import S3V.Props.C08Prepare
import S3V.Props.C09
import S3V.Gen.Payloads
/-!
# C02 — the declared `Content-Length` and the buffered body, at every operation (lemmas: `Thm/PrepareBody`)

Clause: "a buffered body whose length differs from the declared Content-Length yields a client error". The check is
`extract_full_body` in `ops::prepare`; it runs exactly for the operations the router marks `needs_full_body`. This file
composes the Prepare model (`S3V.Prepare`, C01Prepare), the body model of C09 (`S3V.Body`, clause (b):
`C09b_buffered_depends_on_concat`) and the regenerated tables (`usesBufferedBody`, `routeTable`, `implInBody`).

What the code does, exactly (all stated below, none assumed):
* which operations: those whose `deserialize_http` takes the body as XML or text — 30 in the pinned tree — and only
  those; the router's flag is that need, rule by rule. `PutObject`, `UploadPart`, `WriteGetObjectResponse` take the body
  as a stream and every other operation has no body statement: no length check in `prepare` for them (a streamed
  upload's length is the transport's and the backend's business; chunk-signed uploads: C08).
* a streamed body is collected; a transport error while collecting — `InternalError`; collected bytes non-empty and no
  (parsable) `Content-Length` — `MissingContentLength`; non-empty and length ≠ declared — `IncompleteBody`; otherwise the
  operation is reached and `take_xml_body` / `take_string_body` get exactly the concatenation of the frames.
* two things a reader might not expect: an EMPTY collected body passes whatever length was declared, and a body already
  held in one buffer (`Body::bytes()` is `Some`: never what hyper hands over, but what an embedding application may
  pass) is not compared with the declared length at all.
* "declared" is the local `content_length` of `prepare` after the rewrite: the parsed header for a plain request, `0`
  when the signature check replaced the body (chunk-signed upload, POST form): `C08_full_body_check_uses_zero`.
* the errors come after the signature check, the `events` refusal and the access check, in that order.

Quantifiers: every operation, every framing (any number of frames, empty frames, a transport error anywhere), every
declared length, every request otherwise.
-/
namespace S3V.C02
open S3V S3V.Gen S3V.Route S3V.RouteSpec S3V.RouteCompose S3V.Path S3V.Prepare S3V.PrepareBody S3V.MultipartSpec
open S3V.C01

/-! ## which operations are length-checked (table half) -/

/-- the body statement of `deserialize_http` reads a buffered body: `take_xml_body`, `take_opt_xml_body`,
    `take_string_body` (not `take_stream_body`) -/
def bodyIsBuffered (rows : List BodyRow) : Bool :=
  rows.any fun r => match r.body with | .xml _ _ => true | .text _ => true | _ => false

/-- for every operation: the router's table entry `usesBufferedBody` (C01) is true exactly when the body statement of
    `deserialize_http` (table of C02Payload) takes a buffered body; and every rule and default of the router carries
    exactly that flag, so the flag `prepare` acts on is the operation's need -/
theorem C02_length_checked_operations :
    (∀ op : Op, usesBufferedBody op = bodyIsBuffered (implInBody op)) ∧
    (∀ (r : RReq) (op : Op) (full : Bool), resolve r = some (op, full) → full = usesBufferedBody op) :=
  ⟨Op.forall_of_all (by decide +kernel), fun _ _ _ h => (RouteThm.resolve_answer h).1⟩

/-- the operations that are NOT length-checked because they stream: the three with a `take_stream_body` statement;
    together with the 63 without a body statement that makes 66 of 96, the other 30 are checked -/
theorem C02_length_streaming_operations_not_checked :
    (Op.all.filter fun op => (implInBody op).any fun r => r.body == .stream) =
      [.PutObject, .UploadPart, .WriteGetObjectResponse] ∧
    usesBufferedBody .PutObject = false ∧ usesBufferedBody .UploadPart = false ∧
    usesBufferedBody .WriteGetObjectResponse = false ∧
    (Op.all.filter usesBufferedBody).length = 30 ∧ (Op.all.filter fun op => !usesBufferedBody op).length = 66 := by
  decide +kernel

/-! ## the check at every buffered-body operation -/

/-- the outcome of `prepare` once the router has selected `op` and the `events` refusal and the access check are
    passed, as a function of C09's specification of buffered bodies -/
def lengthOutcome {E : Type} (op : Op) : Buffered → Outcome E
  | .ok _ => .s3 op true
  | .internalError => .error (.code .internalError)
  | .missingContentLength => .error (.code .missingContentLength)
  | .incompleteBody => .error (.code .incompleteBody)

/-- the outcome by the kind of body -/
def bodyOutcome {E : Type} (op : Op) (declared : Option Nat) : ReqBody → Outcome E
  | .once _ => .s3 op true
  | .stream frames => lengthOutcome op (specBuffered declared (dataBeforeError frames) (hasError frames))

/-- For every operation that takes a buffered body, every request the router resolves to it (signature check
    passed, not a POST form, no custom route), past the `events` refusal and the access check, and every body:
    the router's flag is set; a single-buffer body goes through; for a streamed body with any framing the outcome is
    the one C09's specification of buffered bodies gives for (declared length, concatenation of the frames in front
    of the first transport error, error flag) — reached, `InternalError`, `MissingContentLength` or `IncompleteBody` —;
    and when the operation is reached, `take_bytes()` of its body helper finds exactly the bytes `extract_full_body`
    accepted (never the `expect` panic) -/
theorem C02_declared_length_every_buffered_operation {I E : Type} (op : Op) (hbuf : usesBufferedBody op = true)
    (ctx : Ctx I E) (path : S3Path) (r : Request I E) (s : SigResult I) (hsig : r.sig = .ok s)
    (hform : s.multipart = none ∨ r.method ≠ .POST) (hroute : routeClaims ctx r s = false) (full : Bool)
    (hres : resolve (view (restOf r) path) = some (op, full)) (body : ReqBody) (hbody : r.body = body.obs)
    (hev : eventsHack op (extractQs r.rawQuery) = false)
    (hacc : accessCheck ctx s.credentials path op = .ok ()) :
    full = true ∧
    (prepare ctx path r).outcome = bodyOutcome op (prepare ctx path r).contentLength body ∧
    ((prepare ctx path r).outcome = .s3 op true →
      ∃ b, extractFull (prepare ctx path r).contentLength body = .ok b ∧
        takeBytes true (prepare ctx path r).contentLength body = some b) := by
  have hfull : full = true := by rw [(RouteThm.resolve_answer hres).1, hbuf]
  subst hfull
  have hout := C01_prepare_resolves_route ctx path r s hsig hform hroute
  rw [hres, hbody] at hout
  simp only [afterResolve_obs hev hacc] at hout
  refine ⟨rfl, ?_, fun hs3 => ?_⟩
  · rw [hout]
    cases body with
    | once b => rfl
    | stream frames =>
      rw [extractFull_stream, bodyOutcome]
      cases specBuffered (prepare ctx path r).contentLength (dataBeforeError frames) (hasError frames) <;> rfl
  · rw [hout] at hs3
    cases hx : extractFull (prepare ctx path r).contentLength body with
    | error c => rw [hx] at hs3; cases hs3
    | ok b => exact ⟨b, rfl, by rw [takeBytes_true, hx]; rfl⟩

/-- the length differs from the declared one: a streamed body without transport error whose frames concatenate to a non-empty byte string
    of a length other than the declared one is answered `IncompleteBody`, and no operation is reached — whatever the
    framing -/
theorem C02_length_mismatch_is_incomplete_body {I E : Type} (op : Op) (hbuf : usesBufferedBody op = true)
    (ctx : Ctx I E) (path : S3Path) (r : Request I E) (s : SigResult I) (hsig : r.sig = .ok s)
    (hform : s.multipart = none ∨ r.method ≠ .POST) (hroute : routeClaims ctx r s = false) (full : Bool)
    (hres : resolve (view (restOf r) path) = some (op, full)) (frames : List (Option Bytes))
    (hbody : r.body = (ReqBody.stream frames).obs)
    (hev : eventsHack op (extractQs r.rawQuery) = false)
    (hacc : accessCheck ctx s.credentials path op = .ok ())
    (hne : hasError frames = false) (hd : dataBeforeError frames ≠ []) (n : Nat)
    (hcl : (prepare ctx path r).contentLength = some n) (hlen : (dataBeforeError frames).length ≠ n) :
    (prepare ctx path r).outcome = .error (.code .incompleteBody) ∧
    (∀ op' full', (prepare ctx path r).outcome ≠ .s3 op' full') := by
  have h := (C02_declared_length_every_buffered_operation op hbuf ctx path r s hsig hform hroute full hres _ hbody
    hev hacc).2.1
  simp only [bodyOutcome, hcl, specBuffered, hne, hd, hlen, Bool.false_eq_true, if_false, lengthOutcome] at h
  exact ⟨h, fun op' full' hh => by rw [h] at hh; cases hh⟩

/-- no `Content-Length`: the same body without a (parsable) `Content-Length` header is answered
    `MissingContentLength`; a transport error while the body is collected is answered `InternalError`, whatever was
    declared and whatever arrived before it. In neither case is an operation reached. -/
theorem C02_length_missing_or_transport_error {I E : Type} (op : Op) (hbuf : usesBufferedBody op = true)
    (ctx : Ctx I E) (path : S3Path) (r : Request I E) (s : SigResult I) (hsig : r.sig = .ok s)
    (hform : s.multipart = none ∨ r.method ≠ .POST) (hroute : routeClaims ctx r s = false) (full : Bool)
    (hres : resolve (view (restOf r) path) = some (op, full)) (frames : List (Option Bytes))
    (hbody : r.body = (ReqBody.stream frames).obs)
    (hev : eventsHack op (extractQs r.rawQuery) = false)
    (hacc : accessCheck ctx s.credentials path op = .ok ()) :
    (hasError frames = false → dataBeforeError frames ≠ [] → (prepare ctx path r).contentLength = none →
      (prepare ctx path r).outcome = .error (.code .missingContentLength)) ∧
    (hasError frames = true → (prepare ctx path r).outcome = .error (.code .internalError)) := by
  have h := (C02_declared_length_every_buffered_operation op hbuf ctx path r s hsig hform hroute full hres _ hbody
    hev hacc).2.1
  refine ⟨fun hne hd hcl => ?_, fun he => ?_⟩
  · simpa only [bodyOutcome, hcl, specBuffered, hne, hd, Bool.false_eq_true, if_false, lengthOutcome] using h
  · simpa only [bodyOutcome, specBuffered, he, if_true, lengthOutcome] using h

/-- the length is the declared one (or nothing arrived): the operation is reached and its XML / text reader gets exactly the
    concatenation of the frames — for every framing; two framings of the same bytes are indistinguishable. The
    empty body passes whatever was declared (stated, not assumed away). -/
theorem C02_length_match_delivers_concatenation {I E : Type} (op : Op) (hbuf : usesBufferedBody op = true)
    (ctx : Ctx I E) (path : S3Path) (r : Request I E) (s : SigResult I) (hsig : r.sig = .ok s)
    (hform : s.multipart = none ∨ r.method ≠ .POST) (hroute : routeClaims ctx r s = false) (full : Bool)
    (hres : resolve (view (restOf r) path) = some (op, full)) (frames : List (Option Bytes))
    (hbody : r.body = (ReqBody.stream frames).obs)
    (hev : eventsHack op (extractQs r.rawQuery) = false)
    (hacc : accessCheck ctx s.credentials path op = .ok ())
    (hne : hasError frames = false)
    (hlen : dataBeforeError frames = [] ∨
      (prepare ctx path r).contentLength = some (dataBeforeError frames).length) :
    (prepare ctx path r).outcome = .s3 op true ∧
    takeBytes true (prepare ctx path r).contentLength (.stream frames) = some (dataBeforeError frames) := by
  have h := (C02_declared_length_every_buffered_operation op hbuf ctx path r s hsig hform hroute full hres _ hbody
    hev hacc).2.1
  have hspec : specBuffered (prepare ctx path r).contentLength (dataBeforeError frames) (hasError frames) =
      .ok (dataBeforeError frames) := by
    rcases hlen with hd | hcl
    · simp [specBuffered, hne, hd]
    · by_cases hd : dataBeforeError frames = []
      · simp [specBuffered, hne, hd]
      · simp [specBuffered, hne, hd, hcl]
  simp only [bodyOutcome, hspec, lengthOutcome] at h
  refine ⟨h, ?_⟩
  rw [takeBytes_true, extractFull_stream, hspec]
  rfl

/-- a single-buffer body is not compared with the declared length: it goes through whatever was declared, and the
    reader gets its bytes -/
theorem C02_length_single_buffer_not_checked {I E : Type} (op : Op) (hbuf : usesBufferedBody op = true)
    (ctx : Ctx I E) (path : S3Path) (r : Request I E) (s : SigResult I) (hsig : r.sig = .ok s)
    (hform : s.multipart = none ∨ r.method ≠ .POST) (hroute : routeClaims ctx r s = false) (full : Bool)
    (hres : resolve (view (restOf r) path) = some (op, full)) (b : Bytes)
    (hbody : r.body = (ReqBody.once b).obs)
    (hev : eventsHack op (extractQs r.rawQuery) = false)
    (hacc : accessCheck ctx s.credentials path op = .ok ()) :
    (prepare ctx path r).outcome = .s3 op true ∧
    takeBytes true (prepare ctx path r).contentLength (.once b) = some b :=
  ⟨(C02_declared_length_every_buffered_operation op hbuf ctx path r s hsig hform hroute full hres _ hbody
    hev hacc).2.1, rfl⟩

/-- no check when the operation does not take a buffered body (streams, or has no body): whatever `prepare`
    answers for a request the router resolves to such an operation does not depend on the body at all -/
theorem C02_length_not_checked_without_buffered_body {I E : Type} (op : Op) (hbuf : usesBufferedBody op = false)
    (ctx : Ctx I E) (path : S3Path) (r : Request I E) (s : SigResult I) (hsig : r.sig = .ok s)
    (hform : s.multipart = none ∨ r.method ≠ .POST) (hroute : routeClaims ctx r s = false) (full : Bool)
    (hres : resolve (view (restOf r) path) = some (op, full)) (body' : BodyObs) :
    full = false ∧
    (prepare ctx path { r with body := body' }).outcome = (prepare ctx path r).outcome := by
  have hfull : full = false := by rw [(RouteThm.resolve_answer hres).1, hbuf]
  subst hfull
  refine ⟨rfl, ?_⟩
  have h1 := C01_prepare_resolves_route ctx path r s hsig hform hroute
  have h2 := C01_prepare_resolves_route ctx path { r with body := body' } s hsig hform hroute
  have hv : view (restOf { r with body := body' }) path = view (restOf r) path := rfl
  rw [hv] at h2
  rw [hres] at h1 h2
  rw [h1, h2]
  have hc : (prepare ctx path { r with body := body' }).contentLength = (prepare ctx path r).contentLength := by
    rw [(prepare_fields ctx path _ hsig).2, (prepare_fields ctx path { r with body := body' } hsig).2]
  simp only [afterResolve, Bool.false_eq_true, if_false, hc]

/-- "declared" for a plain request (no chunk-signed decoder installed, no form): the parsed `Content-Length` header -/
theorem C02_length_declared_is_the_header {I E : Type} (ctx : Ctx I E) (path : S3Path) (r : Request I E)
    (s : SigResult I) (hsig : r.sig = .ok s) (ht : s.transformedBody = false) (hm : s.multipart = none) :
    (prepare ctx path r).contentLength = r.contentLength :=
  ((S3V.C08.C08_content_length_untouched ctx path r).1 s hsig ht hm).2

/-! ## non-vacuity: `PUT /bucket` (`CreateBucket`, an optional XML body) -/

/-- `PUT` without query, anonymous, `Content-Length: 5`, no provider -/
def exCreateBucket (body : BodyObs) : Request Nat Unit :=
  { method := .PUT, rawQuery := none, h := fun _ => false, clHeader := some b!"5",
    contentLength := some 5, decodedContentLength := none, sig := .ok ⟨none, false, none⟩, body := body }

def exLenCtx : Ctx Nat Unit := ⟨false, none, none⟩

theorem exCreateBucket_resolves (body : BodyObs) :
    resolve (view (restOf (exCreateBucket body)) (.bucket b!"bkt")) = some (.CreateBucket, true) := by
  -- the view of the example request is this closed `RReq` whatever `body` is; `decide` needs the closed term
  have h : resolve ⟨.PUT, .bucket, fun _ => .absent, fun _ => false⟩ = some (.CreateBucket, true) := by
    decide +kernel
  exact h

example : usesBufferedBody .CreateBucket = true := by decide +kernel

/-- five bytes in three frames, one of them empty: reached, and the reader gets the five bytes -/
example : (prepare exLenCtx (.bucket b!"bkt") (exCreateBucket (ReqBody.stream [some [1, 2], some [], some [3, 4, 5]]).obs)).outcome
      = .s3 .CreateBucket true ∧
    takeBytes true (some 5) (.stream [some [1, 2], some [], some [3, 4, 5]]) = some [1, 2, 3, 4, 5] := by
  have h := C02_length_match_delivers_concatenation (I := Nat) (E := Unit) .CreateBucket (by decide +kernel) exLenCtx
    (.bucket b!"bkt") (exCreateBucket _) ⟨none, false, none⟩ rfl (Or.inl rfl) rfl true (exCreateBucket_resolves _)
    [some [1, 2], some [], some [3, 4, 5]] rfl (by decide +kernel) rfl (by decide +kernel) (Or.inr rfl)
  exact ⟨h.1, h.2⟩

/-- four bytes against the declared five: `IncompleteBody` -/
example : (prepare exLenCtx (.bucket b!"bkt") (exCreateBucket (ReqBody.stream [some [1, 2], some [3, 4]]).obs)).outcome
      = .error (.code .incompleteBody) :=
  (C02_length_mismatch_is_incomplete_body (I := Nat) (E := Unit) .CreateBucket (by decide +kernel) exLenCtx
    (.bucket b!"bkt") (exCreateBucket _) ⟨none, false, none⟩ rfl (Or.inl rfl) rfl true (exCreateBucket_resolves _)
    [some [1, 2], some [3, 4]] rfl (by decide +kernel) rfl (by decide +kernel) (by decide +kernel) 5 rfl (by decide +kernel)).1

/-- a transport error after two bytes: `InternalError` -/
example : (prepare exLenCtx (.bucket b!"bkt") (exCreateBucket (ReqBody.stream [some [1, 2], none]).obs)).outcome
      = .error (.code .internalError) :=
  (C02_length_missing_or_transport_error (I := Nat) (E := Unit) .CreateBucket (by decide +kernel) exLenCtx
    (.bucket b!"bkt") (exCreateBucket _) ⟨none, false, none⟩ rfl (Or.inl rfl) rfl true (exCreateBucket_resolves _)
    [some [1, 2], none] rfl (by decide +kernel) rfl).2 (by decide +kernel)

end S3V.C02

#print axioms S3V.C02.C02_length_checked_operations
#print axioms S3V.C02.C02_length_streaming_operations_not_checked
#print axioms S3V.C02.C02_declared_length_every_buffered_operation
#print axioms S3V.C02.C02_length_mismatch_is_incomplete_body
#print axioms S3V.C02.C02_length_missing_or_transport_error
#print axioms S3V.C02.C02_length_match_delivers_concatenation
#print axioms S3V.C02.C02_length_single_buffer_not_checked
#print axioms S3V.C02.C02_length_not_checked_without_buffered_body
#print axioms S3V.C02.C02_length_declared_is_the_header
