import S3V.Gen.Bindings
import S3V.Thm.OpAll
/-!
# C03 — what the backend returns is what a standard S3 client decodes (table half)

`implOutputs` / `implStatus` are read from every `serialize_http` in `ops/generated.rs`, `smithyOutputs` /
`smithyStatus` from `data/s3.json`; regenerated and re-decided on every run. The header members at every operation are in
`Props/C03AllOps.lean`, the payload in `Props/C03Payload.lean`, the keep-alive body and the response helpers in
`Props/C03KeepAlive.lean`, the constants read from the source in `Props/C03Consts.lean`.
-/
namespace S3V.C03
open S3V.Gen

/-- every output member of every operation travels in the location / under the wire name / in the timestamp
    format the Smithy model prescribes -/
theorem C03_out_bindings_match_smithy : ∀ op : Op, implOutputs op = smithyOutputs op :=
  Op.forall_of_all (by decide +kernel)

/-- the success status is the one the API model prescribes. One documented exception: `PutBucketPolicy`
    answers 204 where the model says 200 — real S3 answers 204 and the SDKs accept it
    (awslabs/smithy-rs discussion 2308, quoted in codegen); any other difference fails this obligation. -/
theorem C03_status_matches_smithy : ∀ op : Op,
    implStatus op = smithyStatus op ∨ (op = .PutBucketPolicy ∧ implStatus op = 204 ∧ smithyStatus op = 200) :=
  Op.forall_of_all (by decide +kernel)

/-- ranged reads: the only conditional status is GetObject's 206, switched by the presence of `content_range` -/
theorem C03_partial_content_rule : ∀ op : Op,
    implStatusIf op = if op = .GetObject then some ([99, 111, 110, 116, 101, 110, 116, 114, 97, 110, 103, 101], 206) else none :=
  Op.forall_of_all (by decide +kernel)

/-- the backend's explicit status override is applied by every operation whose status line is not already
    sent when the backend answers (all but the keep-alive completion of multipart uploads) -/
theorem C03_status_override_applied : ∀ op : Op, (callTemplate op).2 = true ∨ op = keepAliveOp :=
  Op.forall_of_all (by decide +kernel)

/-- keep-alive completion: exactly the header-bound output members are announced as HTTP trailers -/
theorem C03_trailers_are_the_header_members :
    let hdrs := ((implOutputs keepAliveOp).filter (fun b => b.loc == .header)).map (·.wire)
    (∀ w ∈ hdrs, w ∈ keepAliveTrailers) ∧ (∀ w ∈ keepAliveTrailers, w ∈ hdrs) := by
  decide +kernel

end S3V.C03
