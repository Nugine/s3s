import S3V.Thm.Prepare
/-!
# C08 — the Content-Length rewrite of `ops::prepare` for a chunk-signed upload (property theorems only)

`S3V/Props/C08.lean` is about the chunk-signed decoder `AwsChunkedStream`. When the signature check
installs that decoder as the request body (`scx.transformed_body`), `ops::prepare` also rewrites the
length bookkeeping of the request, because the transport's `Content-Length` counts the chunk framing and
not the object:

```
if body_changed {                                  // transformed_body.is_some() || multipart.is_some()
    if let Some(val) = req.headers.get_mut(CONTENT_LENGTH) { *val = fmt_content_length(decoded_content_length.unwrap_or(0)); }
    if let Some(val) = &mut content_length { *val = 0; }
}
```

These theorems state exactly what that does, on the model `S3V.Prepare.prepare`
(S3V/Model/Prepare.lean): for every method, path, query, header set, access hook, custom route,
declared and decoded length. The end-to-end part of component `chunked` compares the header the
recording backend saw with this model on every case.
-/
namespace S3V.C08
open S3V S3V.Gen S3V.Path S3V.Prepare

/-- **the rewrite**: after a signature check that installed the chunk-signed decoder, the `Content-Length`
    header everything downstream sees — a custom route, the access hook, the operation's input decoder
    (`PutObjectInput::content_length`) and the backend — is the decimal text of
    `x-amz-decoded-content-length`, or `0` when that header is absent; a request without a
    `Content-Length` header still has none; the local `content_length` that the buffered-body check
    compares with is `0` when the original header parsed, and stays `None` otherwise. Whatever the
    outcome of the rest of `prepare` is. -/
theorem C08_content_length_rewritten {I E : Type} (ctx : Ctx I E) (path : S3Path) (r : Request I E)
    (s : SigResult I) (hsig : r.sig = .ok s) (ht : s.transformedBody = true) :
    (prepare ctx path r).clHeader = r.clHeader.map (fun _ => fmtDec (r.decodedContentLength.getD 0)) ∧
    (prepare ctx path r).contentLength = r.contentLength.map (fun _ => 0) :=
  prepare_fields_changed ctx path r hsig (by rw [ht, Bool.true_or])

/-- read back as a number, the rewritten header is exactly the decoded content length (`0` when the
    request did not declare one) -/
theorem C08_backend_content_length_is_decoded_length {I E : Type} (ctx : Ctx I E) (path : S3Path)
    (r : Request I E) (s : SigResult I) (hsig : r.sig = .ok s) (ht : s.transformedBody = true) (v : Bytes)
    (hv : (prepare ctx path r).clHeader = some v) :
    digitsVal v 0 = some (r.decodedContentLength.getD 0) ∧ r.clHeader.isSome = true := by
  rw [(C08_content_length_rewritten ctx path r s hsig ht).1] at hv
  cases hc : r.clHeader with
  | none => rw [hc] at hv; cases hv
  | some w =>
    rw [hc] at hv
    simp only [Option.map_some, Option.some.injEq] at hv
    subst hv
    exact ⟨digitsVal_fmtDec_zero _, rfl⟩

/-- the same rewrite happens for a parsed POST form (`multipart.is_some()`), where
    `x-amz-decoded-content-length` is normally absent: the header becomes `0` -/
theorem C08_content_length_rewritten_for_form {I E : Type} (ctx : Ctx I E) (path : S3Path) (r : Request I E)
    (s : SigResult I) (hsig : r.sig = .ok s) (hm : s.multipart.isSome = true) :
    (prepare ctx path r).clHeader = r.clHeader.map (fun _ => fmtDec (r.decodedContentLength.getD 0)) ∧
    (prepare ctx path r).contentLength = r.contentLength.map (fun _ => 0) :=
  prepare_fields_changed ctx path r hsig (by rw [hm, Bool.or_true])

/-- … and only then: a request whose body the signature check left alone (or whose check failed) keeps its
    `Content-Length` header and its parsed length -/
theorem C08_content_length_untouched {I E : Type} (ctx : Ctx I E) (path : S3Path) (r : Request I E) :
    (∀ s, r.sig = .ok s → s.transformedBody = false → s.multipart = none →
      (prepare ctx path r).clHeader = r.clHeader ∧ (prepare ctx path r).contentLength = r.contentLength) ∧
    (∀ e, r.sig = .error e →
      (prepare ctx path r).clHeader = r.clHeader ∧ (prepare ctx path r).contentLength = r.contentLength) := by
  refine ⟨fun s hsig ht hm => ?_, fun e he => ?_⟩
  · obtain ⟨h1, h2⟩ := prepare_fields ctx path r hsig
    rw [h1, h2]
    simp [rewrite, ht, hm]
  · rw [prepare_sig_error ctx path r he]
    exact ⟨rfl, rfl⟩

/-- **the buffered-body check uses 0**: when a chunk-signed request (whose `Content-Length` header parsed)
    is routed to an operation that needs its whole body in memory (`needs_full_body`), the collected
    decoded body is compared with the *zeroed* length: an empty decoded body passes, any non-empty one is
    answered `IncompleteBody`, a transport / chunk-verification error while collecting `InternalError`;
    a body already in one buffer is not checked. (Chunk-signed uploads are meant for `PutObject` /
    `UploadPart`, which stream: `usesBufferedBody` is `false` for both, `C08_streaming_ops_not_checked`.) -/
theorem C08_full_body_check_uses_zero {I E : Type} (ctx : Ctx I E) (path : S3Path) (r : Request I E)
    (s : SigResult I) (hsig : r.sig = .ok s) (ht : s.transformedBody = true) (c : Nat)
    (hcl : r.contentLength = some c) :
    extractFullBody (prepare ctx path r).contentLength .buffered = .ok () ∧
    extractFullBody (prepare ctx path r).contentLength (.streamed none) = .error .internalError ∧
    extractFullBody (prepare ctx path r).contentLength (.streamed (some 0)) = .ok () ∧
    (∀ n, 0 < n →
      extractFullBody (prepare ctx path r).contentLength (.streamed (some n)) = .error .incompleteBody) := by
  rw [(C08_content_length_rewritten ctx path r s hsig ht).2, hcl]
  refine ⟨rfl, rfl, rfl, fun n hn => ?_⟩
  have h0 : n ≠ 0 := by omega
  simp [extractFullBody, h0]

/-- without a parsable `Content-Length` header the same check answers `MissingContentLength` for a
    non-empty decoded body -/
theorem C08_full_body_check_without_length {I E : Type} (ctx : Ctx I E) (path : S3Path) (r : Request I E)
    (s : SigResult I) (hsig : r.sig = .ok s) (ht : s.transformedBody = true) (hcl : r.contentLength = none)
    (n : Nat) (hn : 0 < n) :
    extractFullBody (prepare ctx path r).contentLength (.streamed (some n)) = .error .missingContentLength := by
  rw [(C08_content_length_rewritten ctx path r s hsig ht).2, hcl]
  have h0 : n ≠ 0 := by omega
  simp [extractFullBody, h0]

/-- the two operations chunk-signed uploads are for take their body as a stream: the check above does not
    run for them (table obligation on the regenerated `usesBufferedBody`) -/
theorem C08_streaming_ops_not_checked :
    usesBufferedBody .PutObject = false ∧ usesBufferedBody .UploadPart = false := by decide

/-! ## non-vacuity -/

/-- a chunk-signed `PUT` with `Content-Length: 66824`, `x-amz-decoded-content-length: 66560` (the sizes of
    the AWS document's example), verified for signer `7` -/
def exChunked : Request Nat Unit :=
  { method := .PUT, rawQuery := none, h := fun _ => false, clHeader := some b!"66824",
    contentLength := some 66824, decodedContentLength := some 66560,
    sig := .ok ⟨some 7, true, none⟩, body := .streamed (some 66560) }

def exCtx : Ctx Nat Unit := ⟨true, none, none⟩

example : (prepare exCtx (.object b!"bkt" b!"obj") exChunked).clHeader = some (fmtDec 66560) ∧
    (prepare exCtx (.object b!"bkt" b!"obj") exChunked).contentLength = some 0 :=
  C08_content_length_rewritten exCtx _ exChunked _ rfl rfl

example : (prepare exCtx (.object b!"bkt" b!"obj") exChunked).outcome = .s3 .PutObject false := rfl

end S3V.C08

#print axioms S3V.C08.C08_content_length_rewritten
#print axioms S3V.C08.C08_backend_content_length_is_decoded_length
#print axioms S3V.C08.C08_content_length_rewritten_for_form
#print axioms S3V.C08.C08_content_length_untouched
#print axioms S3V.C08.C08_full_body_check_uses_zero
#print axioms S3V.C08.C08_full_body_check_without_length
#print axioms S3V.C08.C08_streaming_ops_not_checked
