import S3V.Thm.SigV4Verdict
import S3V.Thm.SigV4Tamper
import S3V.Thm.SigV4Perm
import S3V.Thm.SigV4EdgeBlanks
/-!
# C05 — SigV4 header authentication accepts exactly the correctly signed requests (property theorems only)

Model: `S3V/Model/SigV4.lean` (literal mirror of `sig_v4/*`, `http/ordered_*`, `ops/signature.rs`);
specification: `S3V/Spec/SigV4.lean` (from the AWS documents). `sha256hex` and `hmac` are arbitrary functions in
every statement. Quantifiers: all requests (any byte strings, any number of headers / parameters), no size bound.
State of the code: with the repairs b7c08fd (canonical headers collapse space runs and join repeated lines), 4011296
(algorithm token and scope date checked), 10af2bf (a listed header must be in the request), d453cd3 (`x-amz-date` and
`x-amz-content-sha256` are parsed with their edge SP / HTAB removed: `trimOws`) and 4d2a913 (the payload line of a GET /
HEAD request follows `x-amz-content-sha256` and the body like that of any other method). The theorems marked
`_partial` exclude, by the explicit decidable predicates `wf` / `wfHeaderAuth`, what still deviates or lies outside the
specification's domain: duplicate query names whose values do not ascend (OPEN class `sigv4-dup-query-unsorted`, kept
for compatibility with a deployed SDK), and `SignedHeaders` lists that repeat a name or list `authorization` (the
documents do not admit them). Kernel-checked counterexamples are in `S3V/Findings/C05.lean`.
-/
namespace S3V.C05
open S3V S3V.SigV4

/-- FULL statement: the canonical request the code builds is the specified one for every request.
    False (`Findings.C05`): duplicate query names with unsorted values (open finding); and, at the level of this
    function alone, a listed name without a header line (the caller `v4_check_header_auth` refuses such requests
    before it gets here) or listed twice. -/
def C05_canon_impl_eq_spec_full : Prop :=
  ∀ (sha256hex : Bytes → Bytes) (onMissing : Bytes → Option Bytes) (r : Req),
    canonImpl sha256hex onMissing r = canonSpec sha256hex r

/-- the canonical request `create_canonical_request` produces from what `v4_check_header_auth` feeds it equals the
    specification's canonical request — header values with any white space, any number of lines per header — for every
    request satisfying `wf` (listed names distinct, not `authorization`, each carried by a line; duplicate query names
    with ascending values), whatever the hash and whatever the `on_missing` fallback -/
theorem C05_canon_impl_eq_spec_partial (sha256hex : Bytes → Bytes) (onMissing : Bytes → Option Bytes) (r : Req)
    (h : wf r = true) : canonImpl sha256hex onMissing r = canonSpec sha256hex r :=
  canon_impl_eq_spec sha256hex onMissing r h

/-- the verdict logic, exactly: `v4_check_header_auth` accepts, and attributes the request to the access key,
    region and service of the credential, iff the `Authorization` header parses, the service is s3/sts, the payload
    mode is admissible, the key is known, `x-amz-date` parses, and the recomputed signature is the presented one
    (no well-formedness hypothesis: this is about the model alone). Since d453cd3 both `x-amz-content-sha256`
    (`HeaderChecks.mode`, through `extractContentSha`) and `x-amz-date` (`HeaderChecks.date`) are read with the blanks
    (SP, HTAB) at either end of the value removed. -/
theorem C05_accept_conditions (sha256hex : Bytes → Bytes) (hmac : Bytes → Bytes → Bytes)
    (look : Bytes → Option Bytes) (c : Ctx) (ak region service : Bytes) :
    v4CheckHeaderAuth sha256hex hmac (some look) c = .accept ak region service ↔
      ∃ a secret d payload, HeaderChecks look c a secret d payload ∧
        a.credential.accessKey = ak ∧ a.credential.region = region ∧ a.credential.service = service ∧
        headerSignature sha256hex hmac c a secret d payload = a.signature := by
  simp only [header_accept_iff_provider, Option.some.injEq, exists_eq_left']

/-- FULL statement of "accepted iff the presented signature is the specified one under the scope of the
    credential": false (`Findings.C05`) only through the open class `sigv4-dup-query-unsorted` (and `SignedHeaders`
    lists outside the specification's domain). -/
def C05_verdict_iff_full : Prop :=
  ∀ (sha256hex : Bytes → Bytes) (hmac : Bytes → Bytes → Bytes) (look : Bytes → Option Bytes) (c : Ctx)
    (raw : List (Bytes × Bytes)) (ak region service : Bytes), orderedHeaders raw = some c.hs →
    (v4CheckHeaderAuth sha256hex hmac (some look) c = .accept ak region service ↔
      ∃ a secret d payload, HeaderChecks look c a secret d payload ∧
        a.credential.accessKey = ak ∧ a.credential.region = region ∧ a.credential.service = service ∧
        a.signature = SigV4Spec.signature sha256hex hmac secret d.fmtIso8601 ⟨a.credential.date, region, service⟩
          ((c.req raw a.signedHeaders payload).toSpec sha256hex))

/-- for every context satisfying `wfHeaderAuth` (listed names distinct and not `authorization`; duplicate query names
    with ascending values), for arbitrary hash and MAC: the request is accepted as (access key, region, service) iff
    the checks pass — among them: algorithm AWS4-HMAC-SHA256, scope date = day of `x-amz-date`, every listed header
    present — and the presented signature is `Spec.signature` of the request under that key's secret, the timestamp
    of `x-amz-date` and the credential scope -/
theorem C05_verdict_iff_partial (sha256hex : Bytes → Bytes) (hmac : Bytes → Bytes → Bytes)
    (look : Bytes → Option Bytes) (c : Ctx) (raw : List (Bytes × Bytes)) (ak region service : Bytes)
    (hraw : orderedHeaders raw = some c.hs) (hwf : wfHeaderAuth c = true) :
    v4CheckHeaderAuth sha256hex hmac (some look) c = .accept ak region service ↔
      ∃ a secret d payload, HeaderChecks look c a secret d payload ∧
        a.credential.accessKey = ak ∧ a.credential.region = region ∧ a.credential.service = service ∧
        a.signature = SigV4Spec.signature sha256hex hmac secret d.fmtIso8601 ⟨a.credential.date, region, service⟩
          ((c.req raw a.signedHeaders payload).toSpec sha256hex) := by
  rw [C05_accept_conditions]
  refine exists_congr fun a => exists_congr fun secret => exists_congr fun d => exists_congr fun payload =>
    and_congr_right fun hc => and_congr_right fun _ => and_congr_right fun h2 => and_congr_right fun h3 => ?_
  rw [headerSignature_eq_spec sha256hex hmac c raw a secret d payload hraw (wf_of_checks hraw hwf hc), hc.scopeDate, h2, h3]
  exact eq_comm

/-- (repair 4d2a913, former class `sigv4-get-head-body`) the payload line `v4_check_header_auth` signs is the one the
    request declares, whatever the method: if `x-amz-content-sha256` has one of the three admissible shapes of the AWS
    documents (`SpecPayloadLine`) and the payload dispatch of the code succeeds, the line it puts into the canonical
    request is that value. `hempty`: the constant `EMPTY_STRING_SHA256_HASH` is the digest of the empty string. Before the
    repair this was false for GET / HEAD requests carrying a body (the empty-string digest was signed). -/
theorem C05_payload_line_declared (sha256hex : Bytes → Bytes) (hempty : sha256hex [] = emptySha256) (c : Ctx)
    (sha : Option ContentSha) (payload : Payload) (hsha : extractContentSha c.hs = .ok sha)
    (hpl : headerPayload c sha = .ok payload) (pl : Bytes) (hspec : SpecPayloadLine sha256hex c pl) :
    payloadLine sha256hex payload = pl :=
  payloadLine_declared sha256hex hempty c sha payload hsha hpl pl hspec

/-- `C05_verdict_iff_partial` with the payload line of the specification instead of the one the code chose: on contexts
    satisfying `wfHeaderAuth` (the only excluded region is still the open class `sigv4-dup-query-unsorted` and
    `SignedHeaders` lists outside the documents' domain — no condition on the method or on the body), for a request whose
    `x-amz-content-sha256` is admissible (`SpecPayloadLine`), the request is accepted as (access key, region, service) iff
    the checks pass and the presented signature is `Spec.signature` of the request whose payload line is the declared one.
    A correctly signed GET / HEAD request with a body — signed digest, UNSIGNED-PAYLOAD or streaming — is therefore
    accepted like a PUT, and its body is covered by the signature like that of a PUT. -/
theorem C05_verdict_iff_declared_partial (sha256hex : Bytes → Bytes) (hmac : Bytes → Bytes → Bytes)
    (look : Bytes → Option Bytes) (c : Ctx) (raw : List (Bytes × Bytes)) (ak region service : Bytes)
    (hraw : orderedHeaders raw = some c.hs) (hwf : wfHeaderAuth c = true) (hempty : sha256hex [] = emptySha256)
    (pl : Bytes) (hspec : SpecPayloadLine sha256hex c pl) :
    v4CheckHeaderAuth sha256hex hmac (some look) c = .accept ak region service ↔
      ∃ a secret d payload, HeaderChecks look c a secret d payload ∧
        a.credential.accessKey = ak ∧ a.credential.region = region ∧ a.credential.service = service ∧
        a.signature = SigV4Spec.signature sha256hex hmac secret d.fmtIso8601 ⟨a.credential.date, region, service⟩
          (c.specRequest raw a.signedHeaders pl) := by
  rw [C05_verdict_iff_partial sha256hex hmac look c raw ak region service hraw hwf]
  have key : ∀ (a : Authorization) (secret : Bytes) (d : AmzDate) (payload : Payload),
      HeaderChecks look c a secret d payload →
      (c.req raw a.signedHeaders payload).toSpec sha256hex = c.specRequest raw a.signedHeaders pl := by
    intro a secret d payload hc
    obtain ⟨sha, hsha, _, hpl, _⟩ := hc.mode
    rw [Ctx.toSpec_req, payloadLine_declared sha256hex hempty c sha payload hsha hpl pl hspec]
  refine exists_congr fun a => exists_congr fun secret => exists_congr fun d => exists_congr fun payload =>
    and_congr_right fun hc => ?_
  rw [key a secret d payload hc]

/-- the canonical request determines the signed view — method, path, the canonical parameter list, each signed
    header's canonical value, the payload line — by unique line splitting; side conditions: no component contains a
    line feed and header names contain no colon (`LineSafe`, guaranteed by `http::Method`, `HeaderName`,
    `HeaderValue::to_str`) -/
theorem C05_canon_injective {r₁ r₂ : SigV4Spec.Request} (h₁ : LineSafe r₁) (h₂ : LineSafe r₂)
    (h : SigV4Spec.canonicalRequest r₁ = SigV4Spec.canonicalRequest r₂) : signedView r₁ = signedView r₂ :=
  canon_injective h₁ h₂ h

/-- the encoding of path and parameters loses nothing: equal encodings, equal bytes -/
theorem C05_uri_encode_injective (keepSlash : Bool) {a b : Bytes}
    (h : SigV4Spec.uriEncode keepSlash a = SigV4Spec.uriEncode keepSlash b) : a = b :=
  uriEncode_injective keepSlash h

/-- altering any signed component changes the specified signature, PROVIDED (hypothesis, not axiom) SHA-256 and
    HMAC do not collide on the two concrete messages involved -/
theorem C05_tamper_changes_signature (sha256hex : Bytes → Bytes) (hmac : Bytes → Bytes → Bytes) (secret timestamp : Bytes)
    (s : SigV4Spec.Scope) (r r' : SigV4Spec.Request) (h₁ : LineSafe r) (h₂ : LineSafe r')
    (hview : signedView r ≠ signedView r') (hNoCollision : NoCollision sha256hex hmac secret timestamp s r r') :
    SigV4Spec.signature sha256hex hmac secret timestamp s r ≠ SigV4Spec.signature sha256hex hmac secret timestamp s r' :=
  fun h => hview (signature_inj h₁ h₂ hNoCollision h)

/-- hence a tampered request that still presents the signature of the original `r` is refused: if the context `c`
    (outside the finding classes) presents `Spec.signature … r` but the request it carries has another signed view
    than `r`, it is not accepted under that secret, timestamp and scope -/
theorem C05_tamper_rejected (sha256hex : Bytes → Bytes) (hmac : Bytes → Bytes → Bytes)
    (look : Bytes → Option Bytes) (c : Ctx) (raw : List (Bytes × Bytes)) (ak region service : Bytes)
    (hraw : orderedHeaders raw = some c.hs) (hwf : wfHeaderAuth c = true)
    (r : SigV4Spec.Request) (hr : LineSafe r)
    (hacc : v4CheckHeaderAuth sha256hex hmac (some look) c = .accept ak region service) :
    ∃ a secret d payload, HeaderChecks look c a secret d payload ∧
      (LineSafe ((c.req raw a.signedHeaders payload).toSpec sha256hex) →
       NoCollision sha256hex hmac secret d.fmtIso8601 ⟨a.credential.date, region, service⟩ r
         ((c.req raw a.signedHeaders payload).toSpec sha256hex) →
       a.signature = SigV4Spec.signature sha256hex hmac secret d.fmtIso8601 ⟨a.credential.date, region, service⟩ r →
       signedView r = signedView ((c.req raw a.signedHeaders payload).toSpec sha256hex)) := by
  obtain ⟨a, secret, d, payload, hc, _, _, _, hsig⟩ :=
    (C05_verdict_iff_partial sha256hex hmac look c raw ak region service hraw hwf).mp hacc
  exact ⟨a, secret, d, payload, hc, fun hsafe hnc hpres => signature_inj hr hsafe hnc (hpres.symm.trans hsig)⟩

/-- the canonical request is a function of the signed view: every rewrite of a request that keeps the signed view
    keeps the canonical request, hence the specified signature, hence (by `C05_verdict_iff_partial`) the verdict -/
theorem C05_canon_equiv_invariant {r r' : SigV4Spec.Request} (h : signedView r = signedView r') :
    SigV4Spec.canonicalRequest r = SigV4Spec.canonicalRequest r' := by
  rw [canonical_eq_render, canonical_eq_render, h]

/-- header rewrites that keep the signed view: reordering lines of different names, changing the case of names,
    adding or removing unsigned lines — anything that leaves, for each signed name, the sequence of `Trim`med values
    of the lines carrying that name (case-insensitively) unchanged -/
theorem C05_header_rewrites_invariant {r r' : SigV4Spec.Request} (hm : r.method = r'.method) (hp : r.path = r'.path)
    (hq : r.query = r'.query) (hs : r.signedHeaders = r'.signedHeaders) (hpl : r.payload = r'.payload)
    (hh : ∀ n ∈ r.signedHeaders,
      (r.headers.filter fun h => SigV4Spec.lowercase h.1 = n).map (fun h => SigV4Spec.trimAll h.2) =
      (r'.headers.filter fun h => SigV4Spec.lowercase h.1 = n).map (fun h => SigV4Spec.trimAll h.2)) :
    SigV4Spec.canonicalRequest r = SigV4Spec.canonicalRequest r' :=
  C05_canon_equiv_invariant (view_headers_congr hm hp hq hs hpl hh)

/-- query parameters are signed as a multiset: sending them in another order keeps the canonical request -/
theorem C05_query_order_invariant {r r' : SigV4Spec.Request} (hm : r.method = r'.method) (hp : r.path = r'.path)
    (hq : r.query.Perm r'.query) (hh : r.headers = r'.headers) (hs : r.signedHeaders = r'.signedHeaders)
    (hpl : r.payload = r'.payload) : SigV4Spec.canonicalRequest r = SigV4Spec.canonicalRequest r' :=
  C05_canon_equiv_invariant (view_of_query_perm hm hp hq hh hs hpl)

/-- white space added before or after a header value does not change its canonical value -/
theorem C05_edge_whitespace_invariant (ws₁ ws₂ v : Bytes) (h₁ : ∀ c ∈ ws₁, SigV4Spec.isWs c = true)
    (h₂ : ∀ c ∈ ws₂, SigV4Spec.isWs c = true) : SigV4Spec.trimAll (ws₁ ++ v ++ ws₂) = SigV4Spec.trimAll v :=
  congrArg SigV4Spec.collapseSpaces (trimBy_edge v h₁ h₂)

/-- (repair d453cd3) blanks at the edges of header values never reach the verdict of `v4_check_header_auth`: for every
    context, every hash, MAC and key table, rewriting the header values line by line in a way that neither `trim_ows`
    (`x-amz-date`, `x-amz-content-sha256`) nor the `trim()` of the canonical headers sees, and that leaves the
    `authorization` line alone (`EdgeRewrite`), gives the same verdict — acceptance, attribution and error code alike -/
theorem C05_edge_rewrite_verdict_invariant (sha256hex : Bytes → Bytes) (hmac : Bytes → Bytes → Bytes)
    (lookup : Option (Bytes → Option Bytes)) (c : Ctx) (pad : Bytes → Bytes → Bytes) (h : EdgeRewrite pad) :
    v4CheckHeaderAuth sha256hex hmac lookup (c.padded pad) = v4CheckHeaderAuth sha256hex hmac lookup c :=
  v4CheckHeaderAuth_padded sha256hex hmac lookup c h

/-- in particular the former finding class `sigv4-edge-whitespace-amz-header` is closed for all requests: any run of
    SP / HTAB put before and after the values of the `x-amz-date` and `x-amz-content-sha256` lines (`padAmz`) leaves the
    verdict unchanged -/
theorem C05_amz_header_edge_blanks_invariant (sha256hex : Bytes → Bytes) (hmac : Bytes → Bytes → Bytes)
    (lookup : Option (Bytes → Option Bytes)) (c : Ctx) (ws₁ ws₂ : Bytes) (h₁ : ∀ b ∈ ws₁, b = 32 ∨ b = 9)
    (h₂ : ∀ b ∈ ws₂, b = 32 ∨ b = 9) :
    v4CheckHeaderAuth sha256hex hmac lookup (c.padded (padAmz ws₁ ws₂)) = v4CheckHeaderAuth sha256hex hmac lookup c :=
  C05_edge_rewrite_verdict_invariant sha256hex hmac lookup c _
    (padAmz_edgeRewrite ws₁ ws₂ (fun b hb => by simpa [isOws] using h₁ b hb) (fun b hb => by simpa [isOws] using h₂ b hb))

/-- percent-spelling: the code canonicalises the DEcoded path and parameters, and decoding undoes the canonical
    spelling, so every spelling that decodes to the same bytes yields the same request -/
theorem C05_percent_spelling_invariant (keepSlash : Bool) (s : Bytes) :
    pctDecode (SigV4Spec.uriEncode keepSlash s) = s :=
  pctDecode_uriEncode keepSlash s

/-! non-vacuity: a realistic request meets `wf` -/
def exampleReq : Req :=
  { method := b!"PUT", path := b!"/bkt/a b/é",
    qs := [(b!"prefix", b!"a/b"), (b!"prefix", b!"c"), (b!"x-id", b!"")],
    headers := [(b!"Host", b!"s3.example.com"), (b!"x-amz-meta-a", b!"  two   words "), (b!"X-Amz-Date", b!"20130524T000000Z"),
                (b!"X-Amz-Meta-A", b!"second line"), (b!"x-unsigned", b!"a  b")],
    signed := [b!"x-amz-date", b!"host", b!"x-amz-meta-a"], payload := .unsigned }

example : wf exampleReq = true := by decide +kernel

/-- an HTTP/2 request without `host` line whose `:authority` is signed as `host`, with the usual headers: inside
    `wfHeaderAuth` -/
def exampleCtx : Ctx :=
  { http2 := true, authority := some b!"s3.example.com", method := b!"GET", path := b!"/bkt/k", qs := [(b!"x-id", b!"GetObject")],
    hs := [(b!"authorization", b!"AWS4-HMAC-SHA256 Credential=AK/20130524/us-east-1/s3/aws4_request, SignedHeaders=host;x-amz-content-sha256;x-amz-date, Signature=00"),
           (b!"x-amz-content-sha256", b!"UNSIGNED-PAYLOAD"), (b!"x-amz-date", b!"20130524T000000Z")],
    body := [], bodyOnce := true, contentLength := none, decodedContentLength := none }

example : orderedHeaders exampleCtx.hs = some exampleCtx.hs ∧ wfHeaderAuth exampleCtx = true := by decide +kernel

/-- non-vacuity of `C05_payload_line_declared` / `C05_verdict_iff_declared_partial` in the repaired region: a GET request
    that carries a body and declares its digest (a stand-in hash that maps the empty string to the constant and
    everything else to 64 `a`s) meets every hypothesis, and the code's dispatch hands the BODY to the canonical request -/
def exampleSha : Bytes → Bytes := fun m => if m = [] then emptySha256 else List.replicate 64 97

def exampleGetBodyCtx : Ctx :=
  { exampleCtx with
    hs := [(b!"authorization", b!"AWS4-HMAC-SHA256 Credential=AK/20130524/us-east-1/s3/aws4_request, SignedHeaders=host;x-amz-content-sha256;x-amz-date, Signature=00"),
           (b!"x-amz-content-sha256", b!" aaaaaaaaaaaaaaaaaaaaaaaaaaaaaaaaaaaaaaaaaaaaaaaaaaaaaaaaaaaaaaaa"),
           (b!"x-amz-date", b!"20130524T000000Z")],
    body := b!"hello" }

example : exampleSha [] = emptySha256 ∧ exampleGetBodyCtx.method = b!"GET" ∧ exampleGetBodyCtx.body ≠ [] ∧
    orderedHeaders exampleGetBodyCtx.hs = some exampleGetBodyCtx.hs ∧ wfHeaderAuth exampleGetBodyCtx = true ∧
    SpecPayloadLine exampleSha exampleGetBodyCtx (List.replicate 64 97) ∧
    extractContentSha exampleGetBodyCtx.hs = .ok (some (.singleChunk (List.replicate 64 97))) ∧
    headerPayload exampleGetBodyCtx (some (.singleChunk (List.replicate 64 97))) = .ok (.singleChunk b!"hello") :=
  ⟨by decide, by decide, by decide, by decide +kernel, by decide +kernel,
   ⟨b!" aaaaaaaaaaaaaaaaaaaaaaaaaaaaaaaaaaaaaaaaaaaaaaaaaaaaaaaaaaaaaaaa", by decide +kernel, by decide +kernel,
     Or.inr (Or.inr (by decide +kernel))⟩,
   by rfl, by rfl⟩

/-- the rewrite of `C05_amz_header_edge_blanks_invariant` on that context: the blanks are really there, on the two lines -/
example : (exampleCtx.padded (padAmz [9] [32, 32])).hs =
    [(b!"authorization", b!"AWS4-HMAC-SHA256 Credential=AK/20130524/us-east-1/s3/aws4_request, SignedHeaders=host;x-amz-content-sha256;x-amz-date, Signature=00"),
     (b!"x-amz-content-sha256", b!"\tUNSIGNED-PAYLOAD  "), (b!"x-amz-date", b!"\t20130524T000000Z  ")] ∧
    (∀ b ∈ ([9] : Bytes), b = 32 ∨ b = 9) ∧ (∀ b ∈ ([32, 32] : Bytes), b = 32 ∨ b = 9) := by decide +kernel

/-! the finding shapes do not meet `wf`: a listed name without a header line, duplicate parameter values out of order -/
example : wf { exampleReq with signed := [b!"host", b!"x-absent"] } = false := by decide +kernel
example : wf { exampleReq with qs := [(b!"prefix", b!"c"), (b!"prefix", b!"a/b")] } = false := by decide +kernel

end S3V.C05
