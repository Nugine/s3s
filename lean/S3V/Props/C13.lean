import S3V.Model.Xml
import S3V.Thm.XmlWf
import S3V.Thm.XmlEscape
import S3V.Thm.XmlAttr
import S3V.Thm.XmlRoundtrip
import S3V.Thm.XmlStrict
import S3V.Thm.XmlMeaning
import S3V.Thm.XmlTokenEnc
import S3V.Thm.XmlComment
import S3V.Thm.TyAll
import S3V.Gen.XmlSer
import S3V.Gen.XmlDe
import S3V.Gen.XmlSmithy
import S3V.Spec.Xml
/-!
# C13 — the XML codec is lossless, schema-strict and total (property theorems)

Table obligations (`decide +kernel` on the tables that `translate/xml_tables.py` regenerates from the working
tree on every run) and the generic theorems about the schema-driven codec of `S3V/Model/Xml.lean`; the table
obligations make the generic theorems apply to every one of the generated impls.
-/
namespace S3V.C13
open S3V S3V.Xml S3V.XmlGen S3V.XmlSpec

/-- the deserialiser schema of a type as a tree (the flat table entry unfolded) -/
def deSchema (t : Ty) : Option Sch := resolveKind deDef deDepth (.ref t)
/-- the serialiser schema of a type as a tree -/
def serSchema (t : Ty) : Option Sch := resolveKind serDef serDepth (.ref t)

theorem Ty.mem_all (t : Ty) : t ∈ Ty.all := XmlGen.Ty.mem_all t

/-! ## table obligations -/

/-- both there and equal: a schema that does not resolve fails the obligation -/
def optSchBeq : Option Sch → Option Sch → Bool
  | some a, some b => Sch.beq a b
  | _, _ => false

def serDeOk (t : Ty) : Bool :=
  match deDef t with
  | none => true
  | some _ =>
    optSchBeq (serSchema t) ((deSchema t).map Sch.serView) &&
    (match deRoot t with
     | some r => (serRoot t).map SerRoot.forget == some r
     | none => true)

theorem serDeOk_all : Ty.all.all serDeOk = true := by decide +kernel

/-- **Serialiser and deserialiser agree** (re-decided on every run). For every type with a `DeserializeContent`
impl there is also a `SerializeContent` impl, and — at every nesting depth — both have the same members in the
same order with the same element names, list layouts (flattened / wrapped + member name), content kinds and
timestamp formats; presence agrees up to what a serialiser can see (`Sch.serView`: a defaulted member looks
required; no member of the pinned tree is defaulted). The root element of `impl Deserialize` is the one
`impl Serialize` writes. -/
theorem C13_ser_schema_eq_de_schema (t : Ty) (h : (deDef t).isSome = true) :
    (∃ s, deSchema t = some s ∧ serSchema t = some s.serView) ∧
    (∀ r, deRoot t = some r → (serRoot t).map SerRoot.forget = some r) := by
  have hall := Ty.forall_of_all serDeOk_all t
  unfold serDeOk at hall
  cases hd : deDef t with
  | none => simp [hd] at h
  | some d =>
    simp only [hd, Bool.and_eq_true] at hall
    obtain ⟨h1, h2⟩ := hall
    constructor
    · exact match serSchema t, deSchema t, h1 with
        | some a, some b, h1 => ⟨b, rfl, by rw [Sch.eq_of_beq _ _ h1]⟩
    · intro r hr
      simp only [hr] at h2
      exact eq_of_beq h2

/-- types whose root element no operation of the Smithy S3 model demands: the STS response (awsQuery, wrapped by
hand in `xml/mod.rs`), the two event payloads, and the struct codegen splits off the SelectObjectContent input -/
def noSmithyRoot : List Ty := [.AssumeRoleOutput, .Progress, .SelectObjectContentRequest, .Stats]

def rootTag : SerRoot → Bytes
  | .named t _ => t
  | .nested o _ _ => o
  | .location t _ => t

/-- does the start tag the serialiser writes for the element of member `f` carry a namespace declaration? What the
model says (`Xml.attrPairs`, `Xml.nsDeclFor`): it does when the member's type has a member bound to an attribute
whose name has a prefix — `fn attributes` lists the declaration in front of that attribute, and `start_of` writes
both into the start tag of whatever element holds the value. -/
def declares (f : FieldDef Ty) : Bool :=
  match f.kind with
  | .ref u =>
    match serDef u with
    | some (.struct gs) => gs.any fun g => g.attr && !(nsDeclFor g.tag).isEmpty
    | _ => false
  | _ => false

/-- the serialiser entry, with what the model says about namespace declarations -/
def withDecls : Def Ty → Def Ty
  | .struct fs => .struct (fs.map fun f => { f with nsdecl := declares f })
  | d => d

def smithyOk (t : Ty) : Bool :=
  noSmithy.contains t ||
  (match expectedDef t with
   | none => false
   | some e =>
     (match deDef t with
      | some d => defEqv d (Def.deView e)
      | none => true) &&
     (match serDef t with
      | some d => defEqv (withDecls d) (Def.serView e)
      | none => true)) &&
  (match serRoot t with
   | some r => noSmithyRoot.contains t || smithyRootAlts t == [rootTag r]
   | none => smithyRootAlts t == [])

theorem smithyOk_all : Ty.all.all smithyOk = true := by decide +kernel

/-- **The tables are the Smithy model** (re-decided on every run). For every XML struct/union type of s3s that is
a structure/union of the joined Smithy model (today: all of them, `noSmithy = []`), the deserialiser entry and
the serialiser entry have exactly the members the Smithy traits prescribe — element or attribute name (`xmlName`),
bound to a child element or to an attribute of the start tag (`xmlAttribute`: `Grantee.xsi:type`; FULL since the
repair 680006e — until then s3s read and wrote a child element `<xsi:type>`, finding `xml-xsi-type`), list layout
(`xmlFlattened`, member `xmlName`), target kind, timestamp format, required / optional — as an unordered collection,
*except* the differences listed by name in `XmlSpec.smithyExceptions` (`Tag.Key` / `Tag.Value` are required in
Smithy and optional in s3s on purpose; nothing else). The serialiser entry moreover declares a namespace prefix in
the start tag of exactly the member elements the model says (member-level `xmlNamespace`: `Grant.Grantee`,
`TargetGrant.Grantee`; `withDecls`: what the model of `start_of` writes there — which prefix and which URI is the next
theorem); for the deserialiser the declaration is not part of the comparison (`Def.deView`: s3s binds the
attribute by its name as written, `xsi:type`, like the AWS SDKs, and does not ask for the declaration). Any other
difference makes this theorem fail to check. The root element `impl Serialize` writes is the one name the operations
of the model demand for the type. -/
theorem C13_schema_eq_smithy (t : Ty) (ht : t ∉ noSmithy) :
    (∃ e, expectedDef t = some e ∧
      (∀ d, deDef t = some d → defEqv d (Def.deView e) = true) ∧
      (∀ d, serDef t = some d → defEqv (withDecls d) (Def.serView e) = true)) ∧
    (∀ r, serRoot t = some r → t ∉ noSmithyRoot → smithyRootAlts t = [rootTag r]) := by
  have hall := Ty.forall_of_all smithyOk_all t
  unfold smithyOk at hall
  have hn : noSmithy.contains t = false := by simpa using ht
  simp only [hn, Bool.false_or, Bool.and_eq_true] at hall
  obtain ⟨h1, h2⟩ := hall
  constructor
  · exact match expectedDef t, h1 with
      | some e, h1 => by
        simp only [Bool.and_eq_true] at h1
        exact ⟨e, rfl, fun d hd => by simpa [hd] using h1.1, fun d hd => by simpa [hd] using h1.2⟩
  · intro r hr hnr
    simp only [hr, Bool.or_eq_true] at h2
    rcases h2 with h2 | h2
    · exact absurd (by simpa using h2) hnr
    · exact eq_of_beq h2

/-- `xmlns:` -/
def xmlnsColon : Bytes := [120, 109, 108, 110, 115, 58]

def nsDeclOk (e : Ty × Bytes × Bytes × Bytes) : Bool :=
  match serDef e.1 with
  | some (.struct fs) =>
    fs.any fun f => f.tag == e.2.1 &&
      (match f.kind with
       | .ref u =>
         match serDef u with
         | some (.struct gs) =>
           gs.any fun g => g.attr && nsDeclFor g.tag == [(xmlnsColon ++ e.2.2.1, escapeAttr e.2.2.2)]
         | _ => false
       | _ => false)
  | _ => false

/-- **The namespace declarations are those of the Smithy model** (re-decided on every run). For every member-level
`xmlNamespace` trait of the model (`Grant$Grantee`, `TargetGrant$Grantee`: prefix `xsi`, URI
`http://www.w3.org/2001/XMLSchema-instance`), the serialiser has that member, its type has a member bound to an
attribute, and what the model writes in front of that attribute (`Xml.nsDeclFor`, the constant `XMLNS_XSI` of
`xml/generated.rs`, which the translator checks against the source text) is the declaration `xmlns:<prefix>="<uri>"`
with the prefix and the URI of the trait. -/
theorem C13_ns_decls : smithyNsDecls.all nsDeclOk = true := by decide +kernel

def wfOk (t : Ty) : Bool :=
  (match deDef t with
   | some _ => (match deSchema t with | some s => s.wf | none => false)
   | none => true) &&
  (match serSchema t with | some s => s.wf | none => false)

theorem wfOk_all : Ty.all.all wfOk = true := by decide +kernel

/-- **Every extracted schema is well-formed** (re-decided on every run): the table unfolds to a tree (no missing
entry, no cycle), in every struct / union of it the element and attribute names are pairwise distinct, and the name
of a member bound to an attribute is a plain attribute name (no `=`, no white space, not `xmlns` / `xmlns:xsi`) —
the hypotheses of the generic codec theorems hold for every type. -/
theorem C13_tables_wf (t : Ty) :
    (∃ s, serSchema t = some s ∧ WfSch s) ∧
    ((deDef t).isSome = true → ∃ s, deSchema t = some s ∧ WfSch s) := by
  have hall := Ty.forall_of_all wfOk_all t
  simp only [wfOk, Bool.and_eq_true] at hall
  -- where the check answers `true` the schemas are there: the other arms of its `match`es are `false = true`
  exact ⟨match serSchema t, hall.2 with | some s, h => ⟨s, rfl, h⟩,
    fun hd => match deDef t, deSchema t, hd, hall.1 with | some _, some s, _, h => ⟨s, rfl, h⟩⟩

/-- **Every duplicate-field guard tests its own member** (re-decided on every run). In every generated struct
deserialiser the `if x.is_some() { return Err(DeError::DuplicateField) }` of an arm tests the variable that arm
assigns — the shape the model's `decodeField` mirrors (`slot.isAbsent`). A guard on another member's variable (which
refuses valid documents depending on member order and lets a doubled member through) is listed by the translator
in `deGuardMismatch` and fails this obligation. -/
theorem C13_dup_guards : deGuardMismatch.isEmpty = true := by decide +kernel

/-! ## the generic codec -/

/-- **Escaping is lossless**: for every byte string `t` — all text content, including the markup characters
`< > & ' "`, carriage returns, leading / trailing white space and non-ASCII — `unescape` (quick-xml, as the
deserialiser applies it) undoes both quick-xml's `escape` (attribute values) and `xml/ser.rs::text`
(`escapeText` = `escape`, then CR as `&#13;`), which writes every text event. -/
theorem C13_unescape_escape (t : Bytes) : unescape (escape t) = some t ∧ unescape (escapeText t) = some t :=
  ⟨unescape_escape t, unescape_escapeText t⟩

/-- **Attribute values are lossless** (code since 680006e: `xml/ser.rs::attr_value`, `Deserializer::attribute`).
For every byte string `t`, what `attr_value` writes (`escapeAttr`: quick-xml's `escape`, then tab, LF and CR as
character references) (1) holds no literal tab, LF or CR — which every XML reader would turn into a space (XML 1.0
§3.3.3) —, no `"` and no `<`; (2) is left as it is by the attribute-value normalisation `Deserializer::attribute`
applies; (3) is unescaped to `t`; (4) is UTF-8 when `t` is. And (5), on a whole start tag: for every list of
attributes `ps` the serialiser can write (`PairOk`: plain keys, `"`-free values), quick-xml's attribute iterator,
`from_utf8`, the normalisation and `unescape` — `Deserializer::attribute(k)` — applied to the written bytes yield the
string `b` (a Rust `String`) that `attr_value` wrote for the first attribute named `k`, and nothing when no attribute
has that name. -/
theorem C13_attribute_roundtrip (t : Bytes) :
    (∀ x ∈ escapeAttr t, x ≠ 9 ∧ x ≠ 10 ∧ x ≠ 13 ∧ x ≠ cQuot ∧ x ≠ cLt) ∧
    attrNormalize (escapeAttr t) = escapeAttr t ∧
    unescape (escapeAttr t) = some t ∧
    (utf8Valid t = true → utf8Valid (escapeAttr t) = true) ∧
    (∀ (ps : List (Bytes × Bytes)) (k : Bytes), (∀ kv ∈ ps, PairOk kv) →
      ((ps.find? fun kv => kv.1 = k) = none → attrValue k (attrsOf ps) = .ok none) ∧
      (∀ kv, (ps.find? fun kv => kv.1 = k) = some kv → kv.2 = escapeAttr t → utf8Valid t = true →
        attrValue k (attrsOf ps) = .ok (some t))) := by
  refine ⟨escapeAttr_clean t, attrNormalize_escapeAttr t, unescape_escapeAttr t, utf8Valid_escapeAttr, ?_⟩
  intro ps k hok
  rw [attrValue_attrsOf hok]
  exact ⟨fun hn => by rw [hn]; rfl, fun kv hs hkv hv => by rw [hs, Option.map_some, hkv, attrRead_escapeAttr hv]⟩

/-- **Round trip, generic** (by mutual structural induction on the schema; no bound on sizes, depths or list
lengths). For every well-formed schema `s` and every value `v` of it in normal form (`Fits`), decoding the
encoded content yields `v` and leaves exactly what followed. The content of an element is always followed by the
element's end tag `stop n`; that is the form stated (an empty string encodes as *no* event, and `Deserializer::text`
recognises it by the end tag that follows). The content is decoded on the start tag the serialiser wrote for it:
`encAttrs s v` are the attribute bytes `start_of` puts there for `v.attributes()` (since 680006e; empty unless `s` is
a struct with a member bound to an attribute), and `decode` reads such members back from them. Normal form: a
flattened list member is not the empty list (`Some([])` / `[]` write nothing at all and read back as `None` /
`MissingField`) — these values have no restXml representation of their own; every other value is covered. -/
theorem C13_codec_roundtrip (X : Ext) (s : Sch) (hwf : WfSch s) (v : Val) (hfit : Fits X s v)
    (n : Bytes) (rest : List Ev) :
    decode X s (encAttrs s v) (encode s v ++ .stop n :: rest) = .ok (v, .stop n :: rest) :=
  decode_encode X s v hwf hfit n rest

/-- **Round trip of whole documents**: `T::deserialize` followed by `expect_eof` applied to what `T::serialize`
wrote yields the value and nothing is left — for the generated roots (`named`, with or without `xmlns`) and the
two-level wrapper of `AssumeRoleOutput`. -/
theorem C13_codec_roundtrip_doc (X : Ext) (s : Sch) (hwf : WfSch s) (v : Val) (hfit : Fits X s v) :
    (∀ tag ns, decodeDoc X (.named tag) s (encodeDoc (.named tag ns) s v) = .ok v) ∧
    (∀ outer inner ns, decodeDoc X (.nested outer inner) s (encodeDoc (.nested outer inner ns) s v) = .ok v) :=
  ⟨fun tag ns => decodeDoc_encodeDoc_named X tag ns s v hwf hfit,
   fun o i ns => decodeDoc_encodeDoc_nested X o i ns s v hwf hfit⟩

/-- **Round trip for every generated type** (the table obligations feed the generic theorem): for every type `t`
with a `DeserializeContent` impl, with `sd` / `ss` the schemas extracted from its deserialiser / serialiser impl,
what the serialiser writes for a value in normal form is read back by the deserialiser as the same value, as the
content of any element and as a whole document under any root. -/
theorem C13_codec_roundtrip_types (X : Ext) (t : Ty) (hde : (deDef t).isSome = true) :
    ∃ sd ss, deSchema t = some sd ∧ serSchema t = some ss ∧ ∀ v, Fits X sd v →
      (∀ n rest, decode X sd (encAttrs ss v) (encode ss v ++ .stop n :: rest) = .ok (v, .stop n :: rest)) ∧
      (∀ tag ns, decodeDoc X (.named tag) sd (encodeDoc (.named tag ns) ss v) = .ok v) ∧
      (∀ o i ns, decodeDoc X (.nested o i) sd (encodeDoc (.nested o i ns) ss v) = .ok v) := by
  obtain ⟨⟨sd, h1, h2⟩, _⟩ := C13_ser_schema_eq_de_schema t hde
  obtain ⟨_, hw⟩ := C13_tables_wf t
  obtain ⟨sd', h1', hwf⟩ := hw hde
  rw [h1] at h1'; cases h1'
  refine ⟨sd, sd.serView, h1, h2, ?_⟩
  intro v hfit
  refine ⟨?_, ?_, ?_⟩
  · intro n rest; rw [encode_serView, encAttrs_serView]; exact decode_encode X sd v hwf hfit n rest
  · intro tag ns
    rw [encodeDoc_serView]; exact decodeDoc_encodeDoc_named X tag ns sd v hwf hfit
  · intro o i ns
    rw [encodeDoc_serView]; exact decodeDoc_encodeDoc_nested X o i ns sd v hwf hfit

/-- the hand-written `impl Deserialize for GetBucketLocationOutput` (xml/mod.rs, since 7f2ce46) *is* the generated
root reader `named_element(tag, content)` at a string, followed by `locationVal` (the empty constraint is `None`) -/
theorem decodeDoc_location (X : Ext) (tag : Bytes) (s : Sch) (evs : List Ev) :
    decodeDoc X (.location tag) s evs =
      match decodeDoc X (.named tag) .str evs with
      | .ok w => .ok (locationVal w)
      | .error e => .error e := by
  -- the same chain of four steps on both sides; `locationVal` is applied where it answers
  simp only [decodeDoc]
  repeat' split
  all_goals simp_all

/-- the hand-written `GetBucketLocationOutput` (xml/mod.rs): `Some(constraint)` with a non-empty constraint and
`None` come back; `Some("")` is written like `None` (not in normal form) -/
theorem C13_bucket_location_roundtrip (X : Ext) (tag : Bytes) (ns : Option Bytes) (s : Sch) :
    (∀ b : Bytes, b ≠ [] → utf8Valid b = true →
      decodeDoc X (.location tag) s (encodeDoc (.location tag ns) s (.struct [.one (.str b)])) = .ok (.struct [.one (.str b)])) ∧
    decodeDoc X (.location tag) s (encodeDoc (.location tag ns) s (.struct [.absent])) = .ok (.struct [.absent]) := by
  have hwf : Sch.wf .str = true := rfl
  obtain ⟨he1, he2⟩ := encodeDoc_location tag ns s
  constructor
  · intro b hb hv
    rw [decodeDoc_location, he1, decodeDoc_encodeDoc_named X tag ns .str (.str b) hwf (by rw [fits_str]; exact hv)]
    cases b with
    | nil => exact absurd rfl hb
    | cons c cs => rfl
  · rw [decodeDoc_location, he2, decodeDoc_encodeDoc_named X tag ns .str (.str []) hwf (by rw [fits_str]; decide)]
    rfl

/-! ## bytes: writer and tokeniser -/

/-- **The tokeniser reads back what the writer wrote.** For every well-nested event sequence (`WN`: element names of
name bytes, attributes ` key="value"` with such names as keys and `"`-free values — the `xmlns` attribute and, since
680006e, the attributes of a value —, texts non-empty, free of `<` and of `]]>` and never adjacent; a text outside every
element is white space — since d51737b the deserialiser refuses any other character data there) that begins with a
tag, `Deserializer` over the written bytes sees exactly the written events — and everything the encoder produces for
a schema with good element names is such a sequence (next theorem). -/
theorem C13_tokenize_write (evs : List Ev) (hhead : headNotText evs = true) (h : WN [] evs) :
    deEvents (tokenize (write evs)) = evs :=
  tokenize_write evs hhead h

def tagsOk (t : Ty) : Bool :=
  goodName t.selfTag &&
  (match serSchema t with | some s => s.tagsGood | none => false) &&
  (match serRoot t with | some r => r.tagsGood | none => true)

theorem tagsOk_all : Ty.all.all tagsOk = true := by decide +kernel

/-- **Every element name of the tables is a plain name** (re-decided on every run): ASCII letters, digits and
`: _ - .` only — so nothing the serialiser writes as a tag can be mistaken by the tokeniser; and the attribute keys
that can be written into the start tag of one struct (`xmlns` of a root, the prefix declarations `xmlns:xsi`, the
members bound to attributes: `attrKeys`) are pairwise distinct — so `check_attributes` (quick-xml's duplicate check,
since the repair 2bbb69d) refuses nothing the serialiser writes. -/
theorem C13_tables_tags_good (t : Ty) :
    goodName t.selfTag = true ∧ (∃ s, serSchema t = some s ∧ s.tagsGood = true) ∧
    (∀ r, serRoot t = some r → r.tagsGood = true) := by
  have hall := Ty.forall_of_all tagsOk_all t
  simp only [tagsOk, Bool.and_eq_true] at hall
  exact ⟨hall.1.1, match serSchema t, hall.1.2 with | some s, h => ⟨s, rfl, h⟩, fun r hr => by simpa [hr] using hall.2⟩

/-- **Round trip through bytes, for every generated type**: the document `T::serialize` writes — as *bytes* — is
tokenised and decoded by `T::deserialize` + `expect_eof` to the value that was written; under the type's own root
(`serRoot`, when `impl Serialize` exists) and under the synthetic root the harness uses for nested-only types. -/
theorem C13_bytes_roundtrip (X : Ext) (t : Ty) (hde : (deDef t).isSome = true) :
    ∃ sd ss, deSchema t = some sd ∧ serSchema t = some ss ∧ ∀ v, Fits X sd v →
      (∀ tag ns, serRoot t = some (.named tag ns) →
        decodeDoc X (.named tag) sd (deEvents (tokenize (write (encodeDoc (.named tag ns) ss v)))) = .ok v) ∧
      (∀ o i ns, serRoot t = some (.nested o i ns) →
        decodeDoc X (.nested o i) sd (deEvents (tokenize (write (encodeDoc (.nested o i ns) ss v)))) = .ok v) ∧
      decodeDoc X (.named t.selfTag) sd (deEvents (tokenize (write (encodeDoc (.named t.selfTag none) ss v)))) = .ok v := by
  obtain ⟨sd, ss, h1, h2, hrt⟩ := C13_codec_roundtrip_types X t hde
  obtain ⟨hself, ⟨ss', hss', hgood⟩, hroot⟩ := C13_tables_tags_good t
  rw [h2] at hss'; cases hss'
  refine ⟨sd, ss, h1, h2, ?_⟩
  intro v hfit
  obtain ⟨_, hnamed, hnested⟩ := hrt v hfit
  refine ⟨?_, ?_, ?_⟩
  · intro tag ns hr
    rw [tokenize_write_doc _ ss v (hroot _ hr) hgood]
    exact hnamed tag ns
  · intro o i ns hr
    rw [tokenize_write_doc _ ss v (hroot _ hr) hgood]
    exact hnested o i ns
  · rw [tokenize_write_doc (.named t.selfTag none) ss v (by simpa [SerRoot.tagsGood] using hself) hgood]
    exact hnamed t.selfTag none

/-! ## strictness -/

/-- **Schema-strict acceptance** — the clauses of the property, each a fact about the decoder that mirrors
the Rust code statement by statement:

1. *expected root, nothing before or after the root* (FULL since the repair d51737b of `Deserializer::read_event`;
   until then text outside the root was skipped, finding `xml-text-outside-root`, now fixed): for every token
   sequence `q` of a document, an accepted document is `ws* <root …> content text* </root> ws*` and the end of
   input, where `ws` is a text piece of white space only (space, tab, CR, LF) — no other character data and no
   CDATA section outside the root, no second element, no stray end tag, no tokeniser error anywhere;
   and, whatever the root kind (generated root, the two-level STS wrapper, the unwrapped `LocationConstraint`)
   and whether or not the document is accepted: every character-data event the deserialiser is handed outside all
   elements is a white-space text (`TopClean`) — anything else ends the run with `InvalidContent`;
2. *known elements*: the element-name dispatch of a struct (`decodeField`) and of a union (`decodeVariant`) succeeds
   only for the element name of a member / variant — of a member that is read from child elements (`Flds.elemTags`):
   a member bound to an attribute (`Grantee.xsi:type`, since 680006e) is not one, a child element of its name is
   refused like any unknown element;
3. *no repeated single-valued member*: when the member an element name belongs to is not a flattened list and already
   has a value, the dispatch fails with `DuplicateField`; a successful dispatch leaves the member with a value, and no
   dispatch ever removes a value — so the second element of such a member is always refused;
4. *required members present*: a struct value is only produced with every required member set — the members read
   from child elements and those read from the attributes of the start tag alike. -/
theorem C13_decode_strict (X : Ext) :
    (∀ (root : Bytes) (s : Sch) (q : List QEv) (v : Val), decodeDoc X (.named root) s (deEvents q) = .ok v →
      ∃ pre a body post mid tail,
        deEvents q = pre ++ .start root a :: body ∧ pre.all Ev.isWsText = true ∧ decode X s a body = .ok (v, post) ∧
        post = mid ++ .stop root :: tail ∧ mid.all Ev.isText = true ∧ tail.all Ev.isWsText = true) ∧
    (∀ (q : List QEv), TopClean 0 (deEvents q)) ∧
    (∀ (fs : Flds) (name a : Bytes) (evs : List Ev) (acc : List FVal) (r : List FVal × List Ev),
      decodeField X fs name a evs acc = .ok r → name ∈ fs.elemTags) ∧
    (∀ (vars : Vars) (name a : Bytes) (evs : List Ev) (r : Val × List Ev),
      decodeVariant X vars name a evs = .ok r → name ∈ vars.tags) ∧
    (∀ (fs : Flds) (acc : List FVal) (name a : Bytes) (evs : List Ev) (shape : Shape) (slot : FVal),
      firstSlot fs acc name = some (shape, slot) → shape ≠ .flat → slot.isAbsent = false →
      decodeField X fs name a evs acc = .error .duplicateField) ∧
    (∀ (fs : Flds) (acc : List FVal) (name a : Bytes) (evs : List Ev) (acc' : List FVal) (r : List Ev),
      decodeField X fs name a evs acc = .ok (acc', r) →
      (∃ shape slot, firstSlot fs acc' name = some (shape, slot) ∧ slot.isAbsent = false) ∧
      (∀ name' shape slot, firstSlot fs acc name' = some (shape, slot) → slot.isAbsent = false →
        ∃ slot', firstSlot fs acc' name' = some (shape, slot') ∧ slot'.isAbsent = false)) ∧
    (∀ (fs : Flds) (a : Bytes) (evs rest : List Ev) (v : Val), decode X (.struct fs) a evs = .ok (v, rest) →
      ∃ fvs, v = .struct fvs ∧ ReqPresent fs fvs) :=
  ⟨fun _ _ q _ h => decodeDoc_named_clean X (deEventsAt_topClean q 0) h,
   fun q => deEventsAt_topClean q 0,
   decodeField_known X,
   decodeVariant_known X,
   decodeField_repeated X,
   decodeField_ok_filled X,
   fun _ _ _ _ _ h => decode_struct_required X h⟩

/-- **An accepted document has exactly one document element** (XML 1.0 production [1]; the clause
`document-element` of well-formedness) — also under the hand-written root of `GetBucketLocationOutput`, whose document is
the member element `LocationConstraint` itself (FULL since the repair 7f2ce46 of xml/mod.rs; until then the decoder
looped over top-level elements and accepted the empty document and `<LocationConstraint/>` followed by a second
element: finding `xml-illformed-accepted:document-element`, now fixed). For every token sequence `q` of a document that
`GetBucketLocationOutput::deserialize` + `expect_eof` accept: the events are
`ws* <root …> character-data text* </root> ws*` and the end of input — there *is* a root element, it is named `root`,
its content is read as a string `w` up to its end tag, nothing but white space stands before and after it (no second
element, no stray end tag, no tokeniser error), and the value is `locationVal w` (the empty constraint is `None`).
Clause 1 of `C13_decode_strict` says the same of every generated root. -/
theorem C13_accepted_documents_wellformed_document_element (X : Ext) (root : Bytes) (s : Sch) (q : List QEv) (v : Val)
    (h : decodeDoc X (.location root) s (deEvents q) = .ok v) :
    ∃ pre a body post mid tail w,
      deEvents q = pre ++ .start root a :: body ∧ pre.all Ev.isWsText = true ∧ decode X .str a body = .ok (w, post) ∧
      post = mid ++ .stop root :: tail ∧ mid.all Ev.isText = true ∧ tail.all Ev.isWsText = true ∧
      v = locationVal w := by
  rw [decodeDoc_location] at h
  cases hn : decodeDoc X (.named root) .str (deEvents q) with
  | error e => simp [hn] at h
  | ok w =>
    simp only [hn, Except.ok.injEq] at h
    obtain ⟨pre, a, body, post, mid, tail, h1, h2, h3, h4, h5, h6⟩ := decodeDoc_named_clean X (deEventsAt_topClean q 0) hn
    exact ⟨pre, a, body, post, mid, tail, w, h1, h2, h3, h4, h5, h6, h.symm⟩

/-- **The comments of an accepted document are well-formed** (XML 1.0 production [15]; the clause `comment` of
well-formedness; FULL since the repair 5bbd9e0: `Deserializer::new` switches quick-xml's `check_comments` on — until then
`<!-- a -- b -->` and `<!-- a --->` were skipped like any comment: finding `xml-illformed-accepted:comment`, now fixed).
For every document (any bytes):

1. whenever the reader, standing behind a `<` of the input with any stack of open elements, hands out a comment event,
   the input there is `!--` body `-->` followed by what it reads next, and the body is one production [15] allows
   (`CommentBody`: no `--` inside, no `-` at its end — so the `-->` is the first `--` behind the opening); every other
   text behind `<!-` is a reader error;
2. a reader error anywhere in the token sequence ends with `InvalidXml` whatever the root and the schema: an accepted
   document has none (`QEv.err ∉ q`) — so every comment of an accepted document went through (1). -/
theorem C13_accepted_documents_wellformed_comment (X : Ext) :
    (∀ (inp : Bytes) (stack stack' : List Bytes) (rest : Bytes), markup inp stack = some (.comment, rest, stack') →
      ∃ c, inp = [33, 45, 45] ++ c ++ [45, 45, 62] ++ rest ∧ CommentBody c ∧ stack' = stack) ∧
    (∀ (root : Bytes) (s : Sch) (q : List QEv) (v : Val), decodeDoc X (.named root) s (deEvents q) = .ok v → QEv.err ∉ q) :=
  ⟨fun _ _ _ _ h => markup_comment h, fun _ _ _ _ h => decodeDoc_named_no_err X h⟩

/-- **The character data of an accepted document holds no `]]>`** (XML 1.0 production [14]; the clause `cdata-end`
of well-formedness; FULL since the repair 5946f21 of `Deserializer::read_event` — until then a text with `]]>` passed like
any other: finding `xml-illformed-accepted:cdata-end`, now fixed). For every token sequence `q` of a document, at every
depth `d`, accepted or not: no text event the deserialiser is handed — read as the content of a scalar or skipped
between elements — holds `]]>` (the specification's test, `XmlSpec.containsSub`, which is what `XmlSpec.charData`
refuses; the model's test `hasCdataEnd` *is* that test); `read_event` answers `InvalidContent` instead, which ends every
run. `]]>` stays what it is inside a CDATA section's end, in comments, PIs and attribute values, and written as
`]]&gt;` (the serialiser writes every `>` that way, so nothing it writes is refused). -/
theorem C13_accepted_documents_wellformed_cdata_end (q : List QEv) (d : Nat) :
    (∀ raw, Ev.text raw ∈ deEventsAt d q → containsSub [93, 93, 62] raw = false) ∧
    (∀ raw : Bytes, hasCdataEnd raw = containsSub [93, 93, 62] raw) :=
  ⟨deEventsAt_text_clean q d, hasCdataEnd_eq⟩

/-- **The processing instructions of an accepted document are well-formed** (XML 1.0 productions [16], [17]; the
clause `pi-target` of well-formedness; FULL since the repair 61061ab of `Deserializer::read_event` — until then `<??>`,
`<?1a?>` and `<?XML?>` were skipped like any processing instruction: finding `xml-illformed-accepted:pi-target`, now
fixed). For every token sequence `q` of a document that is accepted: every processing instruction in it — wherever it
stands: in the prolog, between elements, inside character data, behind the root — has a body `target rest` whose
target is a Name by the *specification's* definition (`XmlSpec.isName`), is followed by nothing or by white space, and
is not `xml` in any case (`PiBody`); and no token of `q` is one at which `read_event` fails (`QEv.stopsRun`: a reader
error, a processing instruction with an illegal target). The XML declaration (`<?xml …?>`, a token of its own) is not a
processing instruction: where it may stand is the clause `xmldecl`, still open. -/
theorem C13_accepted_documents_wellformed_pi_target (X : Ext) (root : Bytes) (s : Sch) (q : List QEv) (v : Val)
    (h : decodeDoc X (.named root) s (deEvents q) = .ok v) :
    (∀ c, QEv.pi c ∈ q → PiBody c) ∧ q.any QEv.stopsRun = false :=
  ⟨fun _ hc => decodeDoc_named_pi X h hc, decodeDoc_named_no_stop X h⟩

/-- **The attributes of every start tag of an accepted document are syntactically well-formed** (clause
attribute-syntax of well-formedness: production [41] Attribute `Name Eq AttValue`, [10] AttValue quoted and closed,
constraint *Unique Att Spec*; FULL since the repair 2bbb69d: `Deserializer::read_event` runs quick-xml's attribute
iterator with its checks over every `Start` and `Empty` event, `check_attributes` — until then only the start tag of
`Grantee` was looked at, without the duplicate check: finding `xml-illformed-accepted:attribute-syntax`, fixed). For
every token sequence `q`, every schema, every expected root: when the document is accepted, the bytes behind the
element name of **every** start tag and empty-element tag — at any depth, read or skipped — are a sequence of
`S* key S* '=' S* q value q` (`q` one of the two quotes, the value free of it: quoted and terminated; the key not
empty and free of white space) with pairwise distinct keys, followed by white space only (`AttrList []`); and no
token at which `read_event` fails is left. Nothing the serialiser writes is refused: the keys written into one start
tag are pairwise distinct (`C13_tables_tags_good`). -/
theorem C13_accepted_documents_wellformed_attribute_syntax (X : Ext) (root : Bytes) (s : Sch) (q : List QEv) (v : Val)
    (h : decodeDoc X (.named root) s (deEvents q) = .ok v) :
    (∀ n r, QEv.start n r ∈ q ∨ QEv.empty n r ∈ q → AttrList [] r) ∧ q.any QEv.stopsRun = false :=
  ⟨fun _ _ hc => decodeDoc_named_attrs X h hc, decodeDoc_named_no_stop X h⟩

/-! ## meaning -/

/-- **An accepted document is given its XML meaning** (FULL since the repairs c575458 and d365e05 of
`Deserializer::text`; until then false for CDATA sections and interrupted text, findings `xml-cdata-dropped` /
`xml-comment-splits-text`, and for literal CR LF / CR line ends, finding `xml-eol-not-normalised`; all fixed). For the
character data of every scalar element `<name>run</name>` — at any nesting depth: `d` elements are open around `name`
(`d = 0`: the element is the root) — whatever mix of text pieces with entity and character references, CDATA
sections, comments and PIs the run is written as, and however its line ends are written (`charsMeaning run = some m`,
no further hypothesis; `charsMeaning` normalises the line ends of the literal text and of CDATA sections with the
specification's `XmlSpec.normEol`, XML 1.0 §2.11, before references are resolved — `a CR LF b` and `a CR b` denote
`a LF b`, `a&#13;b` denotes `a CR b`):

1. `Deserializer::text` consumes the whole run up to the end tag and hands the scalar parser (string, str-enum,
   integer, boolean, timestamp alike) a text `raw` whose unescaped form is exactly the string `m` the run denotes —
   never a shortened one, never one with a line end left as it was written;
2. a string element is read as `m`, and the cursor is behind the element. -/
theorem C13_decode_meaning (X : Ext) (run : List QEv) (name a : Bytes) (rest : List QEv) (d : Nat) (m : Bytes)
    (hm : charsMeaning run = some m) :
    (∃ raw, textOf (deEventsAt (d + 1) (run ++ .stop name :: rest)) = .ok (raw, .stop name :: deEventsAt d rest) ∧
      decodeStr raw = .ok m) ∧
    readStringElement X name a (deEventsAt (d + 1) (run ++ .stop name :: rest)) = .ok (.str m, deEventsAt d rest) :=
  ⟨textOf_meaning name rest d run m hm, readString_meaning X name a rest d run m hm⟩

/-- **Line ends are read as XML 1.0 §2.11 demands** (since the repair d365e05; finding `xml-eol-not-normalised`,
fixed). What `xml/de.rs` does to the raw text of a CDATA section (`normLineEnds`: nothing when there is no CR,
otherwise `replace("\r\n", "\n")` then `replace('\r', "\n")`) and of a text piece (`normText`, before references are
resolved) *is* the specification's line-end normalisation `XmlSpec.normEol` (every CR LF pair and every other CR is
one LF): for every byte string, respectively every UTF-8 text (a text that is not UTF-8 is refused by every scalar
parser). The result holds no CR and is UTF-8 again; and a text the serialiser wrote (`escapeText`: CR goes out as
`&#13;`) passes through untouched — which is why the round-trip theorems above hold for strings with carriage
returns. -/
theorem C13_line_ends (x : Bytes) :
    normLineEnds x = normEol x ∧
    (utf8Valid x = true → normText x = normEol x ∧ utf8Valid (normEol x) = true) ∧
    (∀ c ∈ normEol x, c ≠ 13) ∧
    normText (escapeText x) = escapeText x :=
  ⟨normLineEnds_eq_normEol x,
   fun hv => ⟨normText_eq_normEol hv, utf8Valid_normEol hv⟩,
   normEol_noCr x,
   normText_eq_self (escapeText_noCr x)⟩

/-! ## non-vacuity -/

/-- the schema of `Tagging`: `<TagSet><Tag><Key>…</Key><Value>…</Value></Tag>*</TagSet>` -/
def taggingSch : Sch :=
  .struct (.cons t_TagSet .req (.wrapped t_Tag)
    (.struct (.cons t_Key .opt .single .str (.cons t_Value .opt .single .str .nil))) .nil)

example : optSchBeq (deSchema .Tagging) (some taggingSch) = true := by decide +kernel
example : WfSch taggingSch := by decide +kernel

/-- two tags; the first key is ` <a>&'" é `, the second tag has an empty value and no key -/
def taggingVal : Val :=
  .struct [.many [.struct [.one (.str [32, 60, 97, 62, 38, 39, 34, 32, 195, 169, 32]), .one (.str [98])],
                  .struct [.absent, .one (.str [])]]]

example (X : Ext) : Fits X taggingSch taggingVal := by
  unfold taggingSch taggingVal
  rw [fits_struct, fitsFields_wrapped, fitsFields_nil]
  refine ⟨List.forall_mem_cons.2 ⟨?_, List.forall_mem_cons.2 ⟨?_, nofun⟩⟩, trivial⟩
  · rw [fits_struct, fitsFields_one, fitsFields_one, fitsFields_nil, fits_str, fits_str]
    exact ⟨by decide, by decide, trivial⟩
  · rw [fits_struct, fitsFields_absent, fitsFields_one, fitsFields_nil, fits_str]
    exact ⟨rfl, by decide, trivial⟩

/-- the schema of `Grantee`: four optional string elements and the required attribute `xsi:type` -/
def granteeSch : Sch :=
  .struct (.cons t_DisplayName .opt .single .str (.cons t_EmailAddress .opt .single .str (.cons t_ID .opt .single .str
    (.cons t_URI .opt .single .str (.cons t_xsi_x3Atype .req .attr .enm .nil)))))

example : optSchBeq (deSchema .Grantee) (some granteeSch) = true := by decide +kernel
example : optSchBeq (serSchema .Grantee) (some granteeSch) = true := by decide +kernel
example : WfSch granteeSch := by decide +kernel

/-- `ID` = `abc`, `xsi:type` = ` <a>&'" TAB CR LF é ` (markup characters, white space an XML reader would turn into
spaces, non-ASCII) -/
def granteeVal : Val :=
  .struct [.absent, .absent, .one (.str [97, 98, 99]), .absent, .one (.str [32, 60, 97, 62, 38, 39, 34, 9, 13, 10, 32, 195, 169, 32])]

example (X : Ext) : Fits X granteeSch granteeVal := by
  unfold granteeSch granteeVal
  rw [fits_struct, fitsFields_absent, fitsFields_absent, fitsFields_one, fitsFields_absent, fitsFields_attr,
    fitsFields_nil, fits_str]
  exact ⟨rfl, rfl, by decide, rfl, by decide, trivial⟩

/-- what the serialiser writes for it: `<Grantee xmlns:xsi="…" xsi:type=" &lt;a&gt;&amp;&apos;&quot;&#9;&#13;&#10; é ">` -/
example : write (encodeDoc (.named t_Grantee none) granteeSch granteeVal)
    = [60, 71, 114, 97, 110, 116, 101, 101, 32, 120, 109, 108, 110, 115, 58, 120, 115, 105, 61, 34, 104, 116, 116, 112, 58, 47, 47, 119, 119, 119, 46, 119, 51, 46, 111, 114, 103, 47, 50, 48, 48, 49, 47, 88, 77, 76, 83, 99, 104, 101, 109, 97, 45, 105, 110, 115, 116, 97, 110, 99, 101, 34, 32, 120, 115, 105, 58, 116, 121, 112, 101, 61, 34, 32, 38, 108, 116, 59, 97, 38, 103, 116, 59, 38, 97, 109, 112, 59, 38, 97, 112, 111, 115, 59, 38, 113, 117, 111, 116, 59, 38, 35, 57, 59, 38, 35, 49, 51, 59, 38, 35, 49, 48, 59, 32, 195, 169, 32, 34, 62, 60, 73, 68, 62, 97, 98, 99, 60, 47, 73, 68, 62, 60, 47, 71, 114, 97, 110, 116, 101, 101, 62] := by
  decide +kernel

/-- white space around the root is accepted: ` \n<Key>k</Key>\n` (the hypothesis of clause 1 is inhabited) … -/
example : (match decodeDoc { tsParse := fun _ _ => none } (.named t_Key) .str
      (deEvents (tokenize ([32, 10] ++ [60, 75, 101, 121, 62, 107, 60, 47, 75, 101, 121, 62] ++ [10]))) with
    | .ok (.str b) => b == [107] | _ => false) = true := by decide +kernel

/-- … other character data there is not: `x<Key>k</Key>` and `<Key>k</Key><![CDATA[]]>` end with `InvalidContent` -/
example : deEvents (tokenize [120, 60, 75, 101, 121, 62, 107, 60, 47, 75, 101, 121, 62]) = [.bad .invalidContent] := by decide +kernel
example : deEvents (tokenize ([60, 75, 101, 121, 62, 107, 60, 47, 75, 101, 121, 62] ++
    [60, 33, 91, 67, 68, 65, 84, 65, 91, 93, 93, 62]))
    = [.start t_Key [], .text [107], .stop t_Key, .bad .invalidContent] := by decide +kernel

/-- `a CR LF b CR` + comment + `LF c &#13;` + CDATA `CR LF` denotes `a LF b LF LF c CR LF` (a CR at the end of a piece
and a LF at the start of the next are two line ends: markup stands between them) -/
example : charsMeaning [.text [97, 13, 10, 98, 13], .comment, .text [10, 99, 38, 35, 49, 51, 59], .cdata [13, 10]]
    = some [97, 10, 98, 10, 10, 99, 13, 10] := by decide +kernel

/-- `<!-- -->a&lt;<![CDATA[b&]]><?pi?>c` denotes `a<b&c` -/
example : charsMeaning [.comment, .text [97, 38, 108, 116, 59], .cdata [98, 38], .pi [112, 105], .text [99]] = some [97, 60, 98, 38, 99] := by
  decide +kernel

/-- the hypothesis of `C13_accepted_documents_wellformed_document_element` is inhabited: `\n<L>EU</L>\n` and `<L/>` are
accepted under the unwrapped root `L` (as `Some("EU")` and `None`) … -/
example : (match decodeDoc { tsParse := fun _ _ => none } (.location [76]) .str
      (deEvents (tokenize [10, 60, 76, 62, 69, 85, 60, 47, 76, 62, 10])) with
    | .ok (.struct [.one (.str b)]) => b == [69, 85] | _ => false) = true := by decide +kernel
example : (match decodeDoc { tsParse := fun _ _ => none } (.location [76]) .str (deEvents (tokenize [60, 76, 47, 62])) with
    | .ok (.struct [.absent]) => true | _ => false) = true := by decide +kernel

/-- … the empty document and a comment alone are not (`UnexpectedEof`), nor is `<L/><L>EU</L>` (`UnexpectedStart`) -/
example : (match decodeDoc { tsParse := fun _ _ => none } (.location [76]) .str (deEvents (tokenize [])) with
    | .error e => e == .unexpectedEof | _ => false) = true := by decide +kernel
example : (match decodeDoc { tsParse := fun _ _ => none } (.location [76]) .str
      (deEvents (tokenize [60, 33, 45, 45, 32, 45, 45, 62])) with
    | .error e => e == .unexpectedEof | _ => false) = true := by decide +kernel
example : (match decodeDoc { tsParse := fun _ _ => none } (.location [76]) .str
      (deEvents (tokenize [60, 76, 47, 62, 60, 76, 62, 69, 85, 60, 47, 76, 62])) with
    | .error e => e == .unexpectedStart | _ => false) = true := by decide +kernel

/-- the hypotheses of `C13_accepted_documents_wellformed_comment` are inhabited: `<!-- - -->` (a single `-`) is a comment
event, and `<Key><!-- c -->k</Key>` is accepted … -/
example : markup [33, 45, 45, 32, 45, 32, 45, 45, 62, 120] [] = some (.comment, [120], []) := by decide +kernel
example : (match decodeDoc { tsParse := fun _ _ => none } (.named t_Key) .str
      (deEvents (tokenize [60, 75, 101, 121, 62, 60, 33, 45, 45, 32, 99, 32, 45, 45, 62, 107, 60, 47, 75, 101, 121, 62])) with
    | .ok (.str b) => b == [107] | _ => false) = true := by decide +kernel

/-- … `<!-- -- -->`, `<!-- --->` and `<!----->` are reader errors -/
example : markup [33, 45, 45, 32, 45, 45, 32, 45, 45, 62] [] = none := by decide +kernel
example : markup [33, 45, 45, 32, 45, 45, 45, 62] [] = none := by decide +kernel
example : markup [33, 45, 45, 45, 45, 45, 62] [] = none := by decide +kernel

/-- `C13_accepted_documents_wellformed_cdata_end` at work: `<Key>a]]>b</Key>` ends with `InvalidContent`, `<Key>a]]&gt;b</Key>`
and `<Key>a]] >b</Key>` are read (the hypothesis `Ev.text raw ∈ …` is inhabited) -/
example : deEvents (tokenize [60, 75, 101, 121, 62, 97, 93, 93, 62, 98, 60, 47, 75, 101, 121, 62])
    = [.start t_Key [], .bad .invalidContent] := by decide +kernel
example : (match decodeDoc { tsParse := fun _ _ => none } (.named t_Key) .str
      (deEvents (tokenize [60, 75, 101, 121, 62, 97, 93, 93, 38, 103, 116, 59, 98, 60, 47, 75, 101, 121, 62])) with
    | .ok (.str b) => b == [97, 93, 93, 62, 98] | _ => false) = true := by decide +kernel
example : Ev.text [97, 93, 93, 32, 62, 98] ∈
    deEvents (tokenize [60, 75, 101, 121, 62, 97, 93, 93, 32, 62, 98, 60, 47, 75, 101, 121, 62]) := by decide +kernel

/-- the hypothesis of `C13_accepted_documents_wellformed_pi_target` is inhabited: `<Key><?p i?>k</Key>` is accepted and
holds a processing instruction … -/
example : tokenize [60, 75, 101, 121, 62, 60, 63, 112, 32, 105, 63, 62, 107, 60, 47, 75, 101, 121, 62]
    = [.start t_Key [], .pi [112, 32, 105], .text [107], .stop t_Key] := by decide +kernel
example : (match decodeDoc { tsParse := fun _ _ => none } (.named t_Key) .str
      (deEvents (tokenize [60, 75, 101, 121, 62, 60, 63, 112, 32, 105, 63, 62, 107, 60, 47, 75, 101, 121, 62])) with
    | .ok (.str b) => b == [107] | _ => false) = true := by decide +kernel

/-- … `<??>`, `<?1a?>` and `<?XML?>` end the run with `InvalidContent`; `<?xml-stylesheet?>` passes -/
example : deEvents [.start t_Key [], .pi [], .stop t_Key] = [.start t_Key [], .bad .invalidContent] := by decide +kernel
example : deEvents [.start t_Key [], .pi [49, 97], .stop t_Key] = [.start t_Key [], .bad .invalidContent] := by decide +kernel
example : deEvents [.start t_Key [], .pi [88, 77, 76], .stop t_Key] = [.start t_Key [], .bad .invalidContent] := by decide +kernel
example : deEvents [.start t_Key [], .pi [120, 109, 108, 45, 115], .stop t_Key] = [.start t_Key [], .stop t_Key] := by decide +kernel

/-- the hypothesis of `C13_accepted_documents_wellformed_attribute_syntax` is inhabited: `<Key a = 'x' b="y" >k</Key>` is
accepted and its start tag carries two attributes … -/
example : tokenize [60, 75, 101, 121, 32, 97, 32, 61, 32, 39, 120, 39, 32, 98, 61, 34, 121, 34, 32, 62, 107, 60, 47, 75, 101, 121, 62]
    = [.start t_Key [32, 97, 32, 61, 32, 39, 120, 39, 32, 98, 61, 34, 121, 34, 32], .text [107], .stop t_Key] := by decide +kernel
example : (match decodeDoc { tsParse := fun _ _ => none } (.named t_Key) .str
      (deEvents (tokenize [60, 75, 101, 121, 32, 97, 32, 61, 32, 39, 120, 39, 32, 98, 61, 34, 121, 34, 32, 62, 107, 60, 47, 75, 101, 121, 62])) with
    | .ok (.str b) => b == [107] | _ => false) = true := by decide +kernel

/-- … ` a=b` (unquoted), ` a` (no `=`), ` a=` (no value), ` a="b` (not closed) and ` a="1" a="2"` (written twice) end
the run with `InvalidXml`, in a start tag and in an empty-element tag; ` a="1" b='2'` passes -/
example : deEvents [.start t_Key [32, 97, 61, 98], .stop t_Key] = [.bad .invalidXml] := by decide +kernel
example : deEvents [.start t_Key [32, 97], .stop t_Key] = [.bad .invalidXml] := by decide +kernel
example : deEvents [.start t_Key [32, 97, 61], .stop t_Key] = [.bad .invalidXml] := by decide +kernel
example : deEvents [.start t_Key [32, 97, 61, 34, 98], .stop t_Key] = [.bad .invalidXml] := by decide +kernel
example : deEvents [.start t_Key [32, 97, 61, 34, 49, 34, 32, 97, 61, 34, 50, 34], .stop t_Key] = [.bad .invalidXml] := by decide +kernel
example : deEvents [.empty t_Key [32, 97, 61, 34, 49, 34, 32, 97, 61, 34, 50, 34]] = [.bad .invalidXml] := by decide +kernel
example : deEvents [.start t_Key [32, 97, 61, 34, 49, 34, 32, 98, 61, 39, 50, 39], .stop t_Key]
    = [.start t_Key [32, 97, 61, 34, 49, 34, 32, 98, 61, 39, 50, 39], .stop t_Key] := by decide +kernel

end S3V.C13
