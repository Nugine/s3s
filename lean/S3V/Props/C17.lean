import S3V.Thm.FsPathPlan
import S3V.Thm.FsPathInj
import S3V.Thm.FsPathAbs
/-!
# C17 — the file-system backend never leaves its root nor crosses bucket boundaries (property theorems, their vocabulary, examples)

Model: `S3V/Model/FsPath.lean` (string-level mirror of `std::path`, path-dedot, path-absolutize and of the path
functions and operations of s3s-fs, current tree = after e22160c). Vocabulary of the statements:
`S3V/Spec/FsPathOwn.lean`. A location is the list of its path components (`components`); a location without
`.`/`..` components (`NoDots`) denotes, under POSIX resolution without symbolic links, exactly the node reached by
descending through its names — so "is a strict extension of `root/<bucket>`" on dot-free component lists *is*
confinement.

Quantifiers: all byte strings as bucket names, keys, copy sources, upload ids (no length bound, any bytes — `..`,
absolute, empty and repeated separators included; percent-encoded spellings are ordinary bytes here because the
adapter has decoded once, C12); every root that is absolute and free of `..` (`RootOk`; `FileSystem::new`
canonicalises); every process CWD (for `C17_resolve_abs_path_confines_every_string`: every CWD that is absolute and free
of `..`, as `std::env::current_dir()` returns it).

Assumptions (hypotheses, not axioms): `EncNoSlash enc` / `NoDot (enc x)` / injectivity for
`base64_simd::URL_SAFE_NO_PAD` (alphabet `A–Z a–z 0–9 - _`); a freshly drawn UUID prints without `/` (`OpOk`).
-/
namespace S3V.C17
open S3V S3V.FsPath

/-- **Key confinement.** Whatever the bucket string and the key, if `get_object_path` returns a path at all, that
    path is dot-free, lies *strictly* below the directory `root/<bn>` of the bucket's single component `bn`, and
    consists below it of exactly the key's `Normal` components (at least one). -/
theorem C17_object_path_confined (e : Env) (hr : RootOk e.root) (b k p : Bytes)
    (h : getObjectPath e b k = .ok p) :
    StrictlyInBucket e b (components p) ∧ NoDots (components p) := by
  obtain ⟨bn, ks, hbc, _, hne, _, _, _, hpc, _⟩ := getObjectPath_shape e hr h
  exact ⟨⟨bn, ks, hbc, hne, hpc⟩, noDots_under hr hpc (allNormal_map (bn :: ks))⟩

/-- the refusals of `get_object_path` are exactly: the bucket string is not one `Normal` component
    (`InvalidBucketName`), or the key has a component other than `Normal`/leading `.` or no `Normal` component
    (`InvalidArgument`); every other key is accepted (no key is lost to an internal error or a panic of
    path-dedot) -/
theorem C17_object_path_total (e : Env) (hr : RootOk e.root) (b k : Bytes) :
    (∃ p, getObjectPath e b k = .ok p) ∨ getObjectPath e b k = .error .invalidBucketName ∨
      getObjectPath e b k = .error .invalidArgument := by
  rw [getObjectPath_eq]
  cases hg : getBucketPath e b with
  | error x => exact .inr (.inl (congrArg _ (getBucketPath_error e hr hg)))
  | ok dir =>
    by_cases hk : keyScan (components k) false = some true
    · obtain ⟨_, _, p, _, _, _, _, _, _, hp, _⟩ := resolve_object e hr hg hk
      exact .inl ⟨p, (if_pos hk).trans hp⟩
    · exact .inr (.inr (if_neg hk))

/-- **Bucket directories are children of the root.** If `get_bucket_path` returns a path, it is the root's child
    named by the bucket string's single `Normal` component. -/
theorem C17_bucket_path_is_child_of_root (e : Env) (hr : RootOk e.root) (b p : Bytes)
    (h : getBucketPath e b = .ok p) :
    ∃ bn, components b = [.normal bn] ∧ components p = components e.root ++ [.normal bn] ∧ NoDots (components p) := by
  obtain ⟨bn, hbc, _, hpc, _⟩ := getBucketPath_shape e hr h
  exact ⟨bn, hbc, hpc, noDots_under hr hpc (allNormal_map [bn])⟩

/-- **Bookkeeping files are dot-named children of the root** — all five kinds: the path functions are total on
    them (no error, no panic) and return `root/<name>` with `<name>` one component starting with `.`. -/
theorem C17_bookkeeping_paths (e : Env) (hr : RootOk e.root) (enc : Bytes → Bytes) (he : EncNoSlash enc)
    (b k : Bytes) (uo : Option Bytes) (u : Bytes) (hu : (47 : UInt8) ∉ u) (huo : ∀ x, uo = some x → (47 : UInt8) ∉ x)
    (n : Int) (c : Nat) :
    ∀ name ∈ [metadataName enc b k uo, internalInfoName enc b k, uploadInfoName u, uploadPartName u n, tmpName c],
      name.head? = some 46 ∧
      ∃ p, resolveAbsPath e name = .ok p ∧ components p = components e.root ++ [.normal name] := by
  have key : ∀ name ∈ [metadataName enc b k uo, internalInfoName enc b k, uploadInfoName u, uploadPartName u n, tmpName c],
      DotName name :=
    List.forall_mem_cons.mpr ⟨good_metadataName he b k huo, List.forall_mem_cons.mpr ⟨good_internalInfoName he b k,
      List.forall_mem_cons.mpr ⟨good_uploadInfoName hu, List.forall_mem_cons.mpr ⟨good_uploadPartName hu n,
        List.forall_mem_cons.mpr ⟨good_tmpName c, nofun⟩⟩⟩⟩⟩
  intro name hn
  obtain ⟨p, hp, hc, _⟩ := resolve_good e hr (key name hn).good
  exact ⟨(key name hn).dot, p, hp, hc⟩

/-- **Buckets that can arrive over HTTP never collide with bookkeeping.** A bucket string whose first byte is a
    lower-case letter or digit (a clause of `s3s::path::check_bucket_name`, which the adapter applies to every
    request) resolves to a root child whose name does not start with `.`; bookkeeping names all do
    (`C17_bookkeeping_paths`). Through the `S3` trait directly this does not hold: see
    `S3V.Findings.C17.trait_bucket_can_name_a_bookkeeping_file`. -/
theorem C17_bookkeeping_disjoint (e : Env) (hr : RootOk e.root) (b p : Bytes)
    (hf : bucketNameFirstOk b = true) (h : getBucketPath e b = .ok p) :
    ∀ name : Bytes, name.head? = some 46 → components p ≠ components e.root ++ [.normal name] := by
  obtain ⟨bn, hbc, _, hpc, _⟩ := getBucketPath_shape e hr h
  intro name hname heq
  rw [hpc] at heq
  have := List.append_cancel_left heq
  simp only [List.cons.injEq, Comp.normal.injEq, and_true] at this
  subst this
  exact bucket_comp_head hf hbc hname

/-- **Bookkeeping names identify their owner.** Two metadata / internal-info / upload-record / part / temporary
    names coincide only if they are of the same kind and belong to the same (bucket, key[, upload]) resp.
    (upload[, part]) resp. counter value — so "the operation's own bookkeeping files" are never another object's
    or another upload's. -/
theorem C17_bookkeeping_names_injective (enc : Bytes → Bytes) (hi : ∀ x y, enc x = enc y → x = y)
    (hd : ∀ x, NoDot (enc x)) :
    (∀ b k b' k' (u u' : Option Bytes), (∀ x, u = some x → NoDot x) → (∀ x, u' = some x → NoDot x) →
        metadataName enc b k u = metadataName enc b' k' u' → b = b' ∧ k = k' ∧ u = u') ∧
    (∀ b k b' k', internalInfoName enc b k = internalInfoName enc b' k' → b = b' ∧ k = k') ∧
    (∀ u u', NoDot u → NoDot u' → uploadInfoName u = uploadInfoName u' → u = u') ∧
    (∀ u u' (n n' : Int), NoDot u → NoDot u' → uploadPartName u n = uploadPartName u' n' → u = u' ∧ n = n') ∧
    (∀ c c' : Nat, tmpName c = tmpName c' → c = c') ∧
    (∀ b k uo b' k' u u' (n : Int) (c : Nat),
        metadataName enc b k uo ≠ internalInfoName enc b' k' ∧
        metadataName enc b k uo ≠ uploadInfoName u ∧ metadataName enc b k uo ≠ uploadPartName u n ∧
        metadataName enc b k uo ≠ tmpName c ∧ internalInfoName enc b k ≠ uploadInfoName u ∧
        internalInfoName enc b k ≠ uploadPartName u n ∧ internalInfoName enc b k ≠ tmpName c ∧
        uploadInfoName u ≠ uploadPartName u' n ∧ uploadInfoName u ≠ tmpName c ∧ uploadPartName u n ≠ tmpName c) :=
  ⟨fun _ _ _ _ _ _ hu hu' h => metadataName_inj hi hd hu hu' h,
   fun _ _ _ _ h => internalInfoName_inj hi hd h,
   fun _ _ hu hu' h => uploadInfoName_inj hu hu' h,
   fun _ _ _ _ hu hu' h => uploadPartName_inj hu hu' h,
   fun _ _ h => tmpName_inj h,
   fun b k uo b' k' u u' n c => ⟨metadataName_ne_internalInfoName hd b k b' k' uo, kinds_disjoint enc b k uo u u' n c⟩⟩

/-- **The library layer confines every string.** Independently of the key check: for ANY string handed to
    `resolve_abs_path` (= `absolutize_virtually(root)`), with a root and a process CWD that are absolute and free
    of `..`, the result — if there is one; the alternatives are `InvalidInput` and the path-dedot panic — is a
    dot-free location that has the root's components as a prefix. (`..` is resolved lexically and clamped, an
    absolute string outside the root is refused.) This is what keeps every path of the backend under the root
    even for call sites that do no checking of their own; it does *not* keep a key inside its bucket — that is
    `C17_object_path_confined`. -/
theorem C17_resolve_abs_path_confines_every_string (e : Env) (hr : RootOk e.root) (hc : RootOk e.cwd)
    (s p : Bytes) (h : resolveAbsPath e s = .ok p) :
    NoDots (components p) ∧ components e.root <+: components p :=
  resolveAbsPath_under_root e hr hc h

/-- **Every operation stays under the root.** For every operation and all inputs, every entry of the may-touch
    table is anchored at a dot-free location, and every node it denotes has the root's components as a prefix. -/
theorem C17_touched_under_root (e : Env) (enc : Bytes → Bytes) (hr : RootOk e.root) (he : EncNoSlash enc)
    (op : Op) (hop : OpOk op) (t : Touch) (ht : t ∈ (plan e enc op).touches) :
    TgtOk t.tgt ∧ ∀ q, covers e t.tgt q = true → components e.root <+: q := by
  have hP := plan_allowed e enc hr he op hop t ht
  refine ⟨hP.anchor, fun q hq => ?_⟩
  rcases hP.allowed q hq with ⟨b, _, bn, _, hpre⟩ | ⟨b, _, ⟨bn, _, hpre⟩, _⟩ | ⟨name, _, _, rfl⟩ | ⟨_, _, rfl⟩ |
    ⟨_, _, name, rfl⟩
  · exact List.IsPrefix.trans (List.prefix_append _ _) hpre
  · exact List.IsPrefix.trans (List.prefix_append _ _) hpre
  · exact List.prefix_append _ _
  · exact List.prefix_refl _
  · exact List.prefix_append _ _

/-- **Every operation stays in its own bucket(s) and its own bookkeeping.** For every operation and all inputs,
    every node an entry of the may-touch table denotes is (see `Allowed`)
    * in or below the directory of a bucket the operation is addressed to (the copy *source* bucket: read/list
      only), or
    * a root child whose name starts with `.` and is one of the operation's own bookkeeping names (`OwnName`:
      metadata / internal info of its (bucket, key), record / parts / metadata of its upload id, its temporary
      file), or
    * the root directory itself, for listing only, by `list_buckets`, `list_parts`, `abort_multipart_upload`, or
    * (only `list_buckets`) a root child, for reading its attributes. -/
theorem C17_touched_in_own_bucket (e : Env) (enc : Bytes → Bytes) (hr : RootOk e.root) (he : EncNoSlash enc)
    (op : Op) (hop : OpOk op) (t : Touch) (ht : t ∈ (plan e enc op).touches) (q : List Comp)
    (hq : covers e t.tgt q = true) : Allowed e enc op t.acc q :=
  (plan_allowed e enc hr he op hop t ht).allowed q hq

/-! ## uploads bound to a bucket and a key (41e1cf2) -/

/-- the operations that address an existing upload, with the bucket, the key and the upload id they are addressed to -/
def uploadOpAddr : Op → Option (Bytes × Bytes × Bytes)
  | .uploadPart b k uid _ _ _ => some (b, k, uid)
  | .uploadPartCopy _ _ _ b k uid _ _ => some (b, k, uid)
  | .listParts b k uid => some (b, k, uid)
  | .completeMultipartUpload b k uid _ _ => some (b, k, uid)
  | .abortMultipartUpload b k uid => some (b, k, uid)
  | _ => none

/-- the table ends with an error and holds nothing but reads of the record of upload `u` -/
def OnlyRecordRead (e : Env) (u : Bytes) (pl : Plan) : Prop :=
  pl.err.isSome = true ∧ ∀ t ∈ pl.touches, t.acc = .read ∧ ∃ info, uploadInfoPath e u = .ok info ∧ t.tgt = .path info

theorem onlyRecordRead_fail_nil (e : Env) (u : Bytes) (x : Err) : OnlyRecordRead e u (.fail [] x) :=
  ⟨rfl, fun _ h => absurd h List.not_mem_nil⟩

theorem onlyRecordRead_verifyUpload (e : Env) (u b k : Bytes) (cont : List Touch → Plan)
    (h : (e.uploadRec u).allows b k = false) : OnlyRecordRead e u (verifyUpload e u b k [] cont) := by
  refine verifyUpload_elim (onlyRecordRead_fail_nil e u) (fun _ _ ha => nomatch h.symm.trans ha) fun info hi _ => ?_
  refine ⟨rfl, fun t ht => ?_⟩
  cases List.mem_singleton.mp ht
  exact ⟨rfl, info, hi, rfl⟩

/-- **An upload bound to another bucket or key is not reached.** For each of upload_part, upload_part_copy, list_parts,
    complete_multipart_upload and abort_multipart_upload, addressed to bucket `b` and key `k` with an id that names upload `u`:
    when the record of `u` is an object whose `bucket` member is not exactly (byte for byte: `reports` ≠ `Reports`) the string
    `b`, or whose `key` member is not exactly `k` (or is missing), the operation ends with an error and its may-touch table
    holds nothing but the read of that record: no part file, no metadata file, no temporary file, no object, no directory, and
    the record itself is neither written nor removed. All inputs, every root and CWD, no hypothesis on their shape. -/
theorem C17_bound_upload_not_reached_from_other_bucket (e : Env) (enc : Bytes → Bytes) (op : Op) (b k uid u : Bytes)
    (rb rk : Option Bytes) (hop : uploadOpAddr op = some (b, k, uid)) (hu : parseUuid uid = some u)
    (hrec : e.uploadRec u = .obj rb rk) (hne : rb ≠ some b ∨ rk ≠ some k) :
    OnlyRecordRead e u (plan e enc op) := by
  have hallow : (e.uploadRec u).allows b k = false := by
    rw [hrec]
    simp only [UploadRec.allows, Bool.and_eq_false_iff, decide_eq_false_iff_not]
    exact hne
  obtain ⟨h1, h2, h3, h4, h5⟩ := plan_uploadOps_elim (e := e) (enc := enc) (R := OnlyRecordRead e u) (b := b) (k := k)
    (uid := uid) (onlyRecordRead_fail_nil e u) fun _ => by rw [hu]; exact onlyRecordRead_verifyUpload e u b k _ hallow
  cases op with
  | uploadPart => cases hop; exact h1 ..
  | uploadPartCopy => cases hop; exact h2 ..
  | listParts => cases hop; exact h3
  | completeMultipartUpload => cases hop; exact h4 ..
  | abortMultipartUpload => cases hop; exact h5
  | _ => cases hop

/-- hence no entry of that table creates, writes, deletes or lists anything -/
theorem C17_bound_upload_nothing_changed (e : Env) (enc : Bytes → Bytes) (op : Op) (b k uid u : Bytes)
    (rb rk : Option Bytes) (hop : uploadOpAddr op = some (b, k, uid)) (hu : parseUuid uid = some u)
    (hrec : e.uploadRec u = .obj rb rk) (hne : rb ≠ some b ∨ rk ≠ some k) (t : Touch) (ht : t ∈ (plan e enc op).touches) :
    t.acc ≠ .create ∧ t.acc ≠ .write ∧ t.acc ≠ .delete ∧ t.acc ≠ .list := by
  have h := ((C17_bound_upload_not_reached_from_other_bucket e enc op b k uid u rb rk hop hu hrec hne).2 t ht).1
  rw [h]; decide

/-! ## non-vacuity: realistic inputs meet the hypotheses and reach the main branches -/

/-- root `/r`, CWD `/w` -/
def exEnv : Env := { cwd := [47, 119], root := [47, 114] }

example : RootOk exEnv.root := ⟨rfl, by decide⟩
/-- key `./a//b/` in bucket `bk` is accepted and resolves to `/r/bk/a/b` -/
example : getObjectPath exEnv [98, 107] [46, 47, 97, 47, 47, 98, 47] = .ok [47, 114, 47, 98, 107, 47, 97, 47, 98] := by
  rfl
/-- key `../x`, key `/x`, key `.` and bucket `a/b` are refused -/
example : getObjectPath exEnv [98, 107] [46, 46, 47, 120] = .error .invalidArgument := by rfl
example : getObjectPath exEnv [98, 107] [47, 120] = .error .invalidArgument := by rfl
example : getObjectPath exEnv [98, 107] [46] = .error .invalidArgument := by rfl
example : getObjectPath exEnv [97, 47, 98] [120] = .error .invalidBucketName := by rfl
/-- the tables are not empty: `copy_object bk/a/b → bk/c` has 16 entries and no input error, `get_object` has 4 -/
example : ((plan exEnv id (.copyObject false [98, 107] [97, 47, 98] [98, 107] [99])).touches.length,
    (plan exEnv id (.copyObject false [98, 107] [97, 47, 98] [98, 107] [99])).err) = (16, none) := by decide +kernel
example : (plan exEnv id (.getObject [98, 107] [97, 47, 98])).touches.length = 4 := by decide +kernel
example : bucketNameFirstOk [98, 107] = true := by decide
/-- `a/../../x` is clamped at the root: `/r/x`; an absolute path outside the root is refused -/
example : resolveAbsPath exEnv [97, 47, 46, 46, 47, 46, 46, 47, 120] = .ok [47, 114, 47, 120] := by rfl
example : resolveAbsPath exEnv [47, 101, 116, 99] = .error .internalError := by rfl
example : RootOk exEnv.cwd := ⟨rfl, by decide⟩

/-- upload `u` (canonical id of 36 bytes) bound to bucket `bk`, key `mp`; the case variant `Bk`; another key -/
def exU : Bytes := [49,49,49,49,49,49,49,49,45,50,50,50,50,45,52,51,51,51,45,56,52,52,52,45,53,53,53,53,53,53,53,53,53,53,53,53]
def exEnvB : Env :=
  { cwd := [47, 119], root := [47, 114],
    uploadRec := fun u => if u = exU then .obj (some [98, 107]) (some [109, 112]) else .old }
example : parseUuid exU = some exU := by decide +kernel
/-- own bucket and key: abort reaches the part files and the record (5 entries, no input error) -/
example : ((plan exEnvB id (.abortMultipartUpload [98, 107] [109, 112] exU)).touches.length,
    (plan exEnvB id (.abortMultipartUpload [98, 107] [109, 112] exU)).err) = (5, none) := by decide +kernel
/-- bucket `Bk`, key `MP`, another bucket: `NoSuchUpload` after the one read -/
example : ((plan exEnvB id (.abortMultipartUpload [66, 107] [109, 112] exU)).touches.length,
    (plan exEnvB id (.abortMultipartUpload [66, 107] [109, 112] exU)).err) = (1, some .noSuchUpload) := by decide +kernel
example : ((plan exEnvB id (.completeMultipartUpload [98, 107] [77, 80] exU (some [1]) 0)).touches.length,
    (plan exEnvB id (.completeMultipartUpload [98, 107] [77, 80] exU (some [1]) 0)).err) = (1, some .noSuchUpload) := by
  decide +kernel
example : ((plan exEnvB id (.listParts [120] [109, 112] exU)).touches.length,
    (plan exEnvB id (.listParts [120] [109, 112] exU)).err) = (1, some .noSuchUpload) := by decide +kernel
/-- a record of the old form binds nothing: the same request reaches the upload -/
example : (plan exEnv id (.listParts [120] [109, 112] exU)).err = none := by decide +kernel

end S3V.C17
