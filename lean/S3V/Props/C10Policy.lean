import S3V.Props.C10Sig
import S3V.Thm.PostPolicy
/-!
# C10 (policy clause) — an upload is accepted only while it satisfies the policy it carries

Since commit 64704af `ops::prepare` decodes the policy of a POST form addressed to a bucket and refuses the upload
unless the policy has not expired, every condition holds, every field is covered and the file length lies in every
`content-length-range` (`PostPolicy::from_base64`, `check_fields`, `check_content_length`; model:
`S3V/Model/PostPolicy.lean`, `gate`). The specification is `S3V/Spec/PostPolicy.lean`, written from the AWS POST-policy
document; its reader of the expiration text is a parameter.
-/
namespace S3V.C10
open S3V S3V.SigV4

/-- what `ops::prepare` demands before a POST form becomes an object write: the signature check accepts the form and
    the POST-object gate passes. `nowNs` = the clock in nanoseconds since the epoch, `bucket` = the bucket of the request
    (path or Host header), `fileLen` = the length of the file part -/
def UploadAccepted (hmac : Bytes → Bytes → Bytes) (look : Bytes → Option Bytes) (rawFields : List (Bytes × Bytes))
    (bucket : Bytes) (fileLen : Nat) (nowNs : Int) : Prop :=
  (∃ ak region service,
    v4CheckPostSignature hmac (some look) (multipartFields rawFields) = .accept ak region service) ∧
  PostPolicyModel.gate nowNs (findFieldValue (multipartFields rawFields) b!"policy") bucket (multipartFields rawFields)
    fileLen = .pass

/-- the instant `time`'s RFC 3339 parser (the model, not the specification's `DtoSpec.rfc3339Instant`) assigns to a text
    (what it denotes is C14's subject:
    `C14_ts_instant_preserved_parse`) -/
def rfc3339Instant (e : Bytes) : Option Int := (Dto.parseRfc3339 e).map (·.unix)

/-- what the gate answers otherwise (the error codes of `ops::prepare`): no decodable policy → InvalidPolicyDocument;
    expired / condition / coverage → AccessDenied; length → EntityTooSmall / EntityTooLarge. In particular nothing but
    `pass` lets the upload on. -/
theorem C10_post_gate_cases (nowNs : Int) (policyField : Option Bytes) (bucket : Bytes)
    (fields : List (Bytes × Bytes)) (fileLen : Nat) :
    (PostPolicyModel.gate nowNs policyField bucket fields fileLen = .invalidPolicyDocument ↔
      policyField.bind PostPolicyModel.fromBase64 = none) ∧
    (∀ p, policyField.bind PostPolicyModel.fromBase64 = some p →
      (PostPolicyModel.gate nowNs policyField bucket fields fileLen = .accessDenied ↔
        PostPolicyModel.checkFields nowNs p bucket fields = false) ∧
      (PostPolicyModel.gate nowNs policyField bucket fields fileLen = .pass ↔
        PostPolicyModel.checkFields nowNs p bucket fields = true ∧
        PostPolicyModel.checkContentLength fileLen p.conditions = .ok)) := by
  unfold PostPolicyModel.gate
  constructor
  · cases policyField.bind PostPolicyModel.fromBase64 with
    | none => simp
    | some p =>
      simp only [reduceCtorEq, iff_false]
      split
      · simp
      · cases PostPolicyModel.checkContentLength fileLen p.conditions <;> simp
  · intro p hp
    rw [hp]
    simp only
    cases hc : PostPolicyModel.checkFields nowNs p bucket fields <;>
      cases PostPolicyModel.checkContentLength fileLen p.conditions <;> simp

/-- The policy clause, full strength: whenever the gate lets a form through, the form carries a policy that the
    specification decodes, that has not expired at `now` (whole seconds), whose every exact-match, starts-with and
    content-length-range condition holds for the bucket written to, the form fields as sent (any case, any order, every
    occurrence) and the file length, and which covers every field — `PostPolicy.formCompliantWith`, for every reader
    `rd` of the expiration text that agrees with the code's parser where that parser succeeds. No bound on sizes. -/
theorem C10_post_policy_enforced (rd : Bytes → Option Int)
    (hrd : ∀ e t, Dto.parseRfc3339 e = some t → rd e = some t.unix)
    (rawFields : List (Bytes × Bytes)) (policyField : Option Bytes) (bucket : Bytes) (fileLen : Nat) (nowNs : Int)
    (h : PostPolicyModel.gate nowNs policyField bucket (multipartFields rawFields) fileLen = .pass) :
    ∃ policyB64, policyField = some policyB64 ∧
      PostPolicy.formCompliantWith rd (nowNs / 1000000000) policyB64 rawFields bucket fileLen = true := by
  obtain ⟨hinv, hsome⟩ := C10_post_gate_cases nowNs policyField bucket (multipartFields rawFields) fileLen
  cases hb : policyField.bind PostPolicyModel.fromBase64 with
  | none =>
    rw [hinv.mpr hb] at h
    cases h
  | some pm =>
    obtain ⟨hcf, hlen⟩ := (hsome pm hb).2.mp h
    obtain ⟨pol, hp, hd⟩ := Option.bind_eq_some_iff.mp hb
    obtain ⟨hdec, hn⟩ := PostPolicyThm.fromBase64_refines rd hrd hd
    refine ⟨pol, hp, (PostPolicy.formCompliantWith_iff ..).mpr ⟨_, hdec, ?_⟩⟩
    unfold PostPolicy.PolicyCompliant
    rw [PostPolicyThm.evaluation_refines nowNs pm hn bucket rawFields fileLen hcf hlen]
    rfl

/-- the same with the code's own reading of the expiration text: no hypothesis -/
theorem C10_post_policy_enforced_rfc3339 (rawFields : List (Bytes × Bytes)) (policyField : Option Bytes)
    (bucket : Bytes) (fileLen : Nat) (nowNs : Int)
    (h : PostPolicyModel.gate nowNs policyField bucket (multipartFields rawFields) fileLen = .pass) :
    ∃ policyB64, policyField = some policyB64 ∧
      PostPolicy.formCompliantWith rfc3339Instant (nowNs / 1000000000) policyB64 rawFields bucket fileLen = true :=
  C10_post_policy_enforced rfc3339Instant (fun e t ht => by simp [rfc3339Instant, ht]) rawFields policyField bucket
    fileLen nowNs h

/-- signature clause and policy clause together: an accepted upload carries one policy text (the last `policy` field)
    that is both signed with the named key's secret and complied with -/
theorem C10_upload_accepted_signed_and_compliant (hmac : Bytes → Bytes → Bytes) (look : Bytes → Option Bytes)
    (rawFields : List (Bytes × Bytes)) (bucket : Bytes) (fileLen : Nat) (nowNs : Int)
    (h : UploadAccepted hmac look rawFields bucket fileLen nowNs) :
    ∃ (ak region service policy sig : Bytes) (d : AmzDate) (secret : Bytes),
      findFieldValue (multipartFields rawFields) b!"policy" = some policy ∧
      findFieldValue (multipartFields rawFields) b!"x-amz-signature" = some sig ∧ look ak = some secret ∧
      sig = SigV4Spec.postSignature hmac secret ⟨d.fmtDate, region, service⟩ policy ∧
      PostPolicy.formCompliantWith rfc3339Instant (nowNs / 1000000000) policy rawFields bucket fileLen = true := by
  obtain ⟨⟨ak, region, service, hacc⟩, hgate⟩ := h
  obtain ⟨policy, sig, d, secret, hp, hs, hk, hsig⟩ :=
    C10_post_accept_implies_policy_signed hmac look (multipartFields rawFields) ak region service hacc
  obtain ⟨pol, hpol, hcomp⟩ := C10_post_policy_enforced_rfc3339 rawFields _ bucket fileLen nowNs hgate
  rw [hp] at hpol
  injection hpol with hpol
  subst hpol
  exact ⟨ak, region, service, policy, sig, d, secret, hp, hs, hk, hsig, hcomp⟩

/-! non-vacuity: the compliant example form of `C10Sig` passes the gate, its variants are refused with the right code;
    and on this policy text the strict reader of the AWS document and the code's reader agree -/

/-- 2013-05-24T00:00:00Z in nanoseconds -/
def exampleNowNs : Int := 1369353600000000000

theorem C10_gate_examples :
    PostPolicyModel.gate exampleNowNs (some examplePolicyB64) b!"bkt" (multipartFields exampleFields) 5 = .pass ∧
    PostPolicyModel.gate 4070908800000000001 (some examplePolicyB64) b!"bkt" (multipartFields exampleFields) 5 = .accessDenied ∧
    PostPolicyModel.gate exampleNowNs (some examplePolicyB64) b!"other" (multipartFields exampleFields) 5 = .accessDenied ∧
    PostPolicyModel.gate exampleNowNs (some examplePolicyB64) b!"bkt"
      (multipartFields ((b!"KEY", b!"elsewhere/a") :: exampleFields)) 5 = .accessDenied ∧
    PostPolicyModel.gate exampleNowNs (some examplePolicyB64) b!"bkt"
      (multipartFields ((b!"acl", b!"public-read") :: exampleFields)) 5 = .accessDenied ∧
    PostPolicyModel.gate exampleNowNs (some examplePolicyB64) b!"bkt" (multipartFields exampleFields) 11 = .entityTooLarge ∧
    PostPolicyModel.gate exampleNowNs (some examplePolicyB64) b!"bkt" (multipartFields exampleFields) 0 = .entityTooSmall ∧
    PostPolicyModel.gate exampleNowNs (some b!"bm90IGpzb24=") b!"bkt" (multipartFields exampleFields) 5 = .invalidPolicyDocument ∧
    PostPolicyModel.gate exampleNowNs none b!"bkt" (multipartFields exampleFields) 5 = .invalidPolicyDocument := by
  decide +kernel

theorem C10_example_readers_agree :
    PostPolicy.parseInstant b!"2099-01-01T00:00:00.000Z" = rfc3339Instant b!"2099-01-01T00:00:00.000Z" := by
  decide +kernel

end S3V.C10
