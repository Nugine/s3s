import S3V.Props.C01
import S3V.Props.C12
import S3V.Thm.RouteCompose
/-!
# C01 ∘ C12 — dispatch does not depend on the addressing style (property theorems only)

C01's router theorems speak about `RReq` (method, path *kind*, query keys, discriminating headers);
C12's theorems say that `ops::prepare` resolves the path-style and the virtual-hosted-style form of
a request to the same `S3Path`. Here the two are composed: `pathKind` is the first step of
`resolve_route` (`match s3_path { Root, Bucket{..}, Object{..} }`), `routerInput` is C12's `classify`
followed by that step, `dispatch` is `routerInput` followed by C01's `resolve`
(definitions in `S3V/Thm/RouteCompose.lean`, with `view`, `RRest`, `keyKind`, `intended`; `target` is defined in
`S3V/Thm/Path.lean`, the host forms `PathStyleChosen`, `ConfiguredDomain` in `S3V/Thm/PathClassify.lean`).

Quantifier: every host configuration (`HostCfg.none` / `.single` / `.multi`), every bucket label,
every raw path / every key and every percent-spelling of it, every method, every presence/value
pattern of every query key, every set of discriminating headers, every exposed operation. No
bound on any length.

Result values of `dispatch`: `.error c` = `prepare` answers S3 error `c` before routing;
`.ok none` = the router answers `unknown_operation()` (NotImplemented); `.ok (some (op, full))` =
operation `op` is selected (then `C01_call_shape`: one typed hook, one backend call of `op`'s own
method). In the first two cases no backend method is invoked.

What `prepare` does between the two steps — query-string extraction, the result of the signature
check, a custom route, the POST-multipart special case, the `events` refusal, the access check — is
modelled in `S3V/Model/Prepare.lean` and composed with this file in `S3V/Props/C01Prepare.lean`
(`C01_intended_operation_reached_through_prepare`). Not part of either: the signature check itself
(C05/C06/C10/C11) and `http`/`hyper` handing over method, path, query and headers as modelled.
-/
namespace S3V.C01
open S3V S3V.Net S3V.Host S3V.Path S3V.PathSpec S3V.Gen S3V.Route S3V.RouteSpec S3V.RouteCompose S3V.C12

/-! ## 1. the path kind of a resolved `S3Path`, as the router sees it -/

/-- `pathKind` connects C12's `S3Path` to C01's `PK`: it is the `match s3_path` at the head of every
    arm of `resolve_route` and forgets bucket and key -/
theorem C01_path_kind :
    pathKind .root = .root ∧ (∀ b, pathKind (.bucket b) = .bucket) ∧ (∀ b k, pathKind (.object b k) = .object) :=
  ⟨rfl, fun _ => rfl, fun _ _ => rfl⟩

/-- a request for bucket `b` and key `k` is a bucket request when `k` is empty and an object request
    otherwise, whatever `b` is -/
theorem C01_path_kind_of_target (b k : Bytes) :
    pathKind (target b k) = (if k = [] then PK.bucket else PK.object) :=
  pathKind_target b k

/-! ## 2. both addressing styles give the router the same request -/

/-- the virtual-hosted-style form of a request (host `b.t`, raw path `/e`) and its path-style form (raw path
    `/b/e`, handled path-style) give the router the same input — the same `RReq` or the same S3 error — and
    hence the same dispatch, for every raw rest `e` (`e = ""` is the bucket request `/b/`; well-formed escapes
    or not). Every valid bucket name meets the hypotheses on `b` (`label_of_valid_bucket`); the others are
    those of `C12_classify_style_equiv`. -/
theorem C01_dispatch_style_independent (cfg cfg' : HostCfg) (host' : Option Bytes) (d t b e : Bytes)
    (hc : ConfiguredDomain cfg d) (ht : toAsciiLower t = toAsciiLower d)
    (hs : headerToStrOk (b ++ dot :: t) = true)
    (hip : isSocketAddrOrIpAddr (b ++ dot :: t) = false) (hps : PathStyleChosen cfg' host')
    (hb1 : ∀ c ∈ b, c.toNat < 128) (hb2 : pct ∉ b) (hb3 : slash ∉ b) (x : RRest) :
    routerInput cfg (some (b ++ dot :: t)) (slash :: e) x =
        routerInput cfg' host' (slash :: (b ++ slash :: e)) x ∧
    dispatch cfg (some (b ++ dot :: t)) (slash :: e) x =
        dispatch cfg' host' (slash :: (b ++ slash :: e)) x :=
  dispatch_congr (C12_classify_style_equiv cfg cfg' host' d t b e hc ht hs hip hps hb1 hb2 hb3) x

/-- the bucket request written without the trailing slash: path-style `/b` against
    virtual-hosted-style `/` (`b ≠ ""`: path-style `/` is the root). Parser level:
    `C12_style_equiv_bucket`; lifted to the glue in `classify_style_equiv_bucket`. -/
theorem C01_dispatch_style_independent_bucket (cfg cfg' : HostCfg) (host' : Option Bytes) (d t b : Bytes)
    (hc : ConfiguredDomain cfg d) (ht : toAsciiLower t = toAsciiLower d)
    (hs : headerToStrOk (b ++ dot :: t) = true)
    (hip : isSocketAddrOrIpAddr (b ++ dot :: t) = false) (hps : PathStyleChosen cfg' host')
    (hb2 : pct ∉ b) (hb3 : slash ∉ b) (hne : b ≠ []) (x : RRest) :
    routerInput cfg (some (b ++ dot :: t)) [slash] x = routerInput cfg' host' (slash :: b) x ∧
    dispatch cfg (some (b ++ dot :: t)) [slash] x = dispatch cfg' host' (slash :: b) x :=
  dispatch_congr (classify_style_equiv_bucket (hostBucket_sub hc ht hs hip) (hostBucket_pathStyle hps) hb2 hb3 hne) x

/-- the remaining way to send a path-style request: under a configured single / multi domain with a
    `Host` that is a base domain itself (`Host: s3.example.com`, path `/b/k`). It is dispatched
    exactly like the same path without any host parser, so the two theorems above apply to it with
    `cfg' = .none`, `host' = none`. (For IP / socket-address hosts: `C12_ip_host_is_path_style`.) -/
theorem C01_domain_host_is_path_style (cfg : HostCfg) (d t p : Bytes) (hc : ConfiguredDomain cfg d)
    (ht : toAsciiLower t = toAsciiLower d) (hs : headerToStrOk t = true)
    (hip : isSocketAddrOrIpAddr t = false) (x : RRest) :
    routerInput cfg (some t) p x = routerInput .none none p x ∧
    dispatch cfg (some t) p x = dispatch .none none p x :=
  dispatch_congr (classify_congr_host (hostBucket_domain hc ht hs hip) rfl p) x

/-! ## 3. the denoted operation is reached in both styles -/

/-- whichever style brings the request to the router as `r`: an operation `r` denotes per the Smithy model is
    the one selected in both styles, with the body flag its decoder needs, and if `r` denotes no operation,
    not even weakly, both are refused with `unknown_operation` -/
theorem C01_denoted_operation_reached_in_both_styles (cfg cfg' : HostCfg) (host' : Option Bytes)
    (d t b e : Bytes)
    (hc : ConfiguredDomain cfg d) (ht : toAsciiLower t = toAsciiLower d)
    (hs : headerToStrOk (b ++ dot :: t) = true)
    (hip : isSocketAddrOrIpAddr (b ++ dot :: t) = false) (hps : PathStyleChosen cfg' host')
    (hb1 : ∀ c ∈ b, c.toNat < 128) (hb2 : pct ∉ b) (hb3 : slash ∉ b) (x : RRest) (r : RReq)
    (hr : routerInput cfg (some (b ++ dot :: t)) (slash :: e) x = .ok r ∨
          routerInput cfg' host' (slash :: (b ++ slash :: e)) x = .ok r) :
    (∀ op, Denotes (smithySpec op) r →
        dispatch cfg (some (b ++ dot :: t)) (slash :: e) x = .ok (some (op, usesBufferedBody op)) ∧
        dispatch cfg' host' (slash :: (b ++ slash :: e)) x = .ok (some (op, usesBufferedBody op))) ∧
    ((∀ op, ¬ WeaklyDenotes (smithySpec op) r) →
        dispatch cfg (some (b ++ dot :: t)) (slash :: e) x = .ok none ∧
        dispatch cfg' host' (slash :: (b ++ slash :: e)) x = .ok none) := by
  have h := dispatch_congr_of
    (C12_classify_style_equiv cfg cfg' host' d t b e hc ht hs hip hps hb1 hb2 hb3) hr
  exact ⟨fun op hd => C01_route_complete op r hd ▸ h, fun hn => C01_route_none r hn ▸ h⟩

/-- the same for the bucket request without trailing slash (`/b` against `/`) -/
theorem C01_denoted_operation_reached_in_both_styles_bucket (cfg cfg' : HostCfg) (host' : Option Bytes)
    (d t b : Bytes)
    (hc : ConfiguredDomain cfg d) (ht : toAsciiLower t = toAsciiLower d)
    (hs : headerToStrOk (b ++ dot :: t) = true)
    (hip : isSocketAddrOrIpAddr (b ++ dot :: t) = false) (hps : PathStyleChosen cfg' host')
    (hb2 : pct ∉ b) (hb3 : slash ∉ b) (hne : b ≠ []) (x : RRest) (r : RReq)
    (hr : routerInput cfg (some (b ++ dot :: t)) [slash] x = .ok r ∨
          routerInput cfg' host' (slash :: b) x = .ok r) :
    (∀ op, Denotes (smithySpec op) r →
        dispatch cfg (some (b ++ dot :: t)) [slash] x = .ok (some (op, usesBufferedBody op)) ∧
        dispatch cfg' host' (slash :: b) x = .ok (some (op, usesBufferedBody op))) ∧
    ((∀ op, ¬ WeaklyDenotes (smithySpec op) r) →
        dispatch cfg (some (b ++ dot :: t)) [slash] x = .ok none ∧
        dispatch cfg' host' (slash :: b) x = .ok none) := by
  have h := dispatch_congr_of
    (classify_style_equiv_bucket (hostBucket_sub hc ht hs hip) (hostBucket_pathStyle hps) hb2 hb3 hne) hr
  exact ⟨fun op hd => C01_route_complete op r hd ▸ h, fun hn => C01_route_none r hn ▸ h⟩

/-- a request that path classification refuses in either style is refused in both, with the same S3
    error, before any routing -/
theorem C01_path_error_in_both_styles (cfg cfg' : HostCfg) (host' : Option Bytes) (d t b e : Bytes)
    (hc : ConfiguredDomain cfg d) (ht : toAsciiLower t = toAsciiLower d)
    (hs : headerToStrOk (b ++ dot :: t) = true)
    (hip : isSocketAddrOrIpAddr (b ++ dot :: t) = false) (hps : PathStyleChosen cfg' host')
    (hb1 : ∀ c ∈ b, c.toNat < 128) (hb2 : pct ∉ b) (hb3 : slash ∉ b) (x : RRest) (c : Code)
    (hr : routerInput cfg (some (b ++ dot :: t)) (slash :: e) x = .error c ∨
          routerInput cfg' host' (slash :: (b ++ slash :: e)) x = .error c) :
    dispatch cfg (some (b ++ dot :: t)) (slash :: e) x = .error c ∧
    dispatch cfg' host' (slash :: (b ++ slash :: e)) x = .error c :=
  dispatch_congr_of (C12_classify_style_equiv cfg cfg' host' d t b e hc ht hs hip hps hb1 hb2 hb3) hr

/-! ## 4. from the request as the client means it -/

/-- end to end from the client's intention: the request for a valid bucket `b` and key `k` (`k = ""`: the bucket
    itself), sent path-style as any percent-spelling of `/b/k` and virtual-hosted-style as any percent-spelling
    of `/k` under host `b.t`: if the intended request denotes `op`, both forms select exactly `op`; if it
    denotes no operation, both are refused with `unknown_operation`. Hypotheses: those of `C12_key_verbatim`
    and `C12_key_verbatim_vhost`, without their `0 < k.length`. -/
theorem C01_intended_operation_reached_in_both_styles (cfg cfg' : HostCfg) (host' : Option Bytes)
    (d t b k e₁ e₂ : Bytes)
    (hc : ConfiguredDomain cfg d) (ht : toAsciiLower t = toAsciiLower d)
    (hs : headerToStrOk (b ++ dot :: t) = true)
    (hip : isSocketAddrOrIpAddr (b ++ dot :: t) = false) (hps : PathStyleChosen cfg' host')
    (hb : checkBucketName b = true) (hk : k.length ≤ 1024) (hu : utf8Valid k = true)
    (hsp₁ : Spelling e₁ (slash :: (b ++ slash :: k))) (hsp₂ : Spelling e₂ (slash :: k)) (x : RRest) :
    (∀ op, Denotes (smithySpec op) (intended x k) →
        dispatch cfg' host' e₁ x = .ok (some (op, usesBufferedBody op)) ∧
        dispatch cfg (some (b ++ dot :: t)) e₂ x = .ok (some (op, usesBufferedBody op))) ∧
    ((∀ op, ¬ WeaklyDenotes (smithySpec op) (intended x k)) →
        dispatch cfg' host' e₁ x = .ok none ∧ dispatch cfg (some (b ++ dot :: t)) e₂ x = .ok none) := by
  have h1 := dispatch_of_classify (classify_path_target hps hb hk hu hsp₁) x
  have h2 := dispatch_of_classify (classify_host_target (hostBucket_sub hc ht hs hip) hb hk hu hsp₂) x
  rw [view_target] at h1 h2
  exact ⟨fun op hd => C01_route_complete op _ hd ▸ ⟨h1, h2⟩, fun hn => C01_route_none _ hn ▸ ⟨h1, h2⟩⟩

/-- … and the bucket request spelled without the trailing slash, path-style (any percent-spelling
    `e` of `/b`) -/
theorem C01_intended_bucket_operation_reached (cfg : HostCfg) (host : Option Bytes) (b e : Bytes)
    (hps : PathStyleChosen cfg host) (hb : checkBucketName b = true)
    (hsp : Spelling e (slash :: b)) (x : RRest) :
    (∀ op, Denotes (smithySpec op) (intended x []) →
        dispatch cfg host e x = .ok (some (op, usesBufferedBody op))) ∧
    ((∀ op, ¬ WeaklyDenotes (smithySpec op) (intended x [])) → dispatch cfg host e x = .ok none) := by
  have h1 := dispatch_of_classify (classify_path_bucket hps hb hsp) x
  have hv : view x (.bucket b) = intended x [] := rfl
  rw [hv] at h1
  exact ⟨fun op hd => C01_route_complete op _ hd ▸ h1, fun hn => C01_route_none _ hn ▸ h1⟩

/-- requests without a bucket (`GET /` = ListBuckets): `/` in any spelling, handled path-style —
    or, by `C01_domain_host_is_path_style`, under a `Host` that is a configured base domain -/
theorem C01_root_operation_reached (cfg : HostCfg) (host : Option Bytes) (e : Bytes)
    (hps : PathStyleChosen cfg host) (hsp : Spelling e [slash]) (x : RRest) :
    (∀ op, Denotes (smithySpec op) (view x .root) →
        dispatch cfg host e x = .ok (some (op, usesBufferedBody op))) ∧
    ((∀ op, ¬ WeaklyDenotes (smithySpec op) (view x .root)) → dispatch cfg host e x = .ok none) := by
  have h1 := dispatch_of_classify (classify_root (hostBucket_pathStyle hps) hsp) x
  exact ⟨fun op hd => C01_route_complete op _ hd ▸ h1, fun hn => C01_route_none _ hn ▸ h1⟩

/-! ## 5. the boundary: the one operation whose URI is a literal path

`smithySpec .WriteGetObjectResponse` files the operation under `POST` + path kind *bucket* because
that is how `resolve_route` files it (`literalPathOps`); its Smithy URI is the literal path
`/WriteGetObjectResponse`. In the composition this literal must pass `classify` as a bucket name, and
it does not (upper-case letters): the request is answered `InvalidBucketName` before routing,
whatever its headers. This is the model-level form of the open finding `route:WriteGetObjectResponse`;
the theorems of section 4 are about requests for a valid bucket and do not contradict it. -/

/-- `/WriteGetObjectResponse` -/
def wgorPath : Bytes :=
  [47, 87, 114, 105, 116, 101, 71, 101, 116, 79, 98, 106, 101, 99, 116, 82, 101, 115, 112, 111, 110, 115, 101]

theorem C01_literal_path_operation_refused (cfg : HostCfg) (host : Option Bytes)
    (hps : PathStyleChosen cfg host) (x : RRest) :
    dispatch cfg host wgorPath x = .error .invalidBucketName := by
  apply dispatch_of_classify_error
  rw [classify_pathStyle hps]
  rfl

/-! ## 6. non-vacuity: realistic inputs meet the hypotheses -/

/-- `localhost:9000` -/
def exLocalHost : Bytes := [108, 111, 99, 97, 108, 104, 111, 115, 116, 58, 57, 48, 48, 48]
/-- `127.0.0.1:9000` -/
def exIpHost : Bytes := [49, 50, 55, 46, 48, 46, 48, 46, 49, 58, 57, 48, 48, 48]
/-- `S3.Example.COM` -/
def exDomainMixed : Bytes := [83, 51, 46, 69, 120, 97, 109, 112, 108, 101, 46, 67, 79, 77]
/-- the raw path rest `a/%20%25%c3%A9` (one spelling of `exKey`) -/
def exRest : Bytes := [97, 47, 37, 50, 48, 37, 50, 53, 37, 99, 51, 37, 65, 57]
/-- a malformed raw path rest, `a%zz%` -/
def exRestBad : Bytes := [97, 37, 122, 122, 37]

/-- `/a/%20%25%c3%A9` spells `/` ++ `a/ %é` … -/
theorem exSpelling_rest : Spelling (slash :: exRest) (slash :: exKey) := exSpelling_ok

/-- … and `/my.bucket-1/a/%20%25%c3%A9` spells `/my.bucket-1/` ++ `a/ %é` -/
theorem exSpelling_path :
    Spelling (slash :: (exBucket ++ slash :: exRest)) (slash :: (exBucket ++ slash :: exKey)) := by
  have h := spelling_lit_append (p := slash :: exBucket) (by decide +kernel) exSpelling_rest
  simpa using h

/-- `GET`, no query, no discriminating header -/
def exPlainGet : RRest := ⟨.GET, fun _ => .absent, fun _ => false⟩
/-- method, query (`list-type=2&prefix=…`) and headers of C01's `exampleReq` -/
def exListV2 : RRest := ⟨exampleReq.method, exampleReq.q, exampleReq.h⟩
/-- `POST` without query and discriminating headers: on a bucket it denotes no operation -/
def exPlainPost : RRest := ⟨.POST, fun _ => .absent, fun _ => false⟩
/-- a method S3 does not use (`PATCH`), with `?acl` -/
def exPatchAcl : RRest := ⟨.other, fun k => if k = .q_acl then .once .other else .absent, fun _ => false⟩

/-- `S3.Example.COM` is the base domain `s3.example.com` up to ASCII case; the two theorems behind this one:
    `my.bucket-1.S3.Example.COM` is a readable `Host` value and no IP or socket address -/
theorem exDomainMixed_lower : toAsciiLower exDomainMixed = toAsciiLower exDomain := by decide +kernel
theorem exMixedHost_str : headerToStrOk (exBucket ++ dot :: exDomainMixed) = true := by decide +kernel
theorem exMixedHost_not_ip : isSocketAddrOrIpAddr (exBucket ++ dot :: exDomainMixed) = false := by decide +kernel

theorem exLocalHost_pathStyle : PathStyleChosen .none (some exLocalHost) :=
  Or.inr ⟨_, rfl, by decide +kernel, Or.inl rfl⟩
theorem exIpHost_pathStyle : PathStyleChosen (.single exDomain) (some exIpHost) :=
  Or.inr ⟨_, rfl, by decide +kernel, Or.inr (by decide +kernel)⟩

/-- the three ways a request is handled path-style -/
example : PathStyleChosen (.multi [exDomain2, exDomain]) none := Or.inl rfl
example : PathStyleChosen .none (some exLocalHost) := exLocalHost_pathStyle
example : PathStyleChosen (.single exDomain) (some exIpHost) := exIpHost_pathStyle

/-- every valid bucket name meets the label hypotheses of section 2 -/
example (b : Bytes) (hb : checkBucketName b = true) :
    (∀ c ∈ b, c.toNat < 128) ∧ pct ∉ b ∧ slash ∉ b ∧ b ≠ [] :=
  ⟨(label_of_valid_bucket hb).1, (label_of_valid_bucket hb).2.1, (label_of_valid_bucket hb).2.2,
    ne_nil_of_check hb⟩

/-- `C01_dispatch_style_independent` on `/e`, `Host: my.bucket-1.S3.Example.COM` under a multi-domain
    configuration, against `/my.bucket-1/e`, `Host: localhost:9000` without host parser — for every
    raw rest `e` and everything else the router looks at -/
example (e : Bytes) (x : RRest) :
    dispatch (.multi [exDomain2, exDomain]) (some (exBucket ++ dot :: exDomainMixed)) (slash :: e) x =
      dispatch .none (some exLocalHost) (slash :: (exBucket ++ slash :: e)) x :=
  (C01_dispatch_style_independent (.multi [exDomain2, exDomain]) .none (some exLocalHost) exDomain exDomainMixed
    exBucket e
    exMulti_configured exDomainMixed_lower exMixedHost_str exMixedHost_not_ip exLocalHost_pathStyle
    (label_of_valid_bucket exBucket_ok).1 (label_of_valid_bucket exBucket_ok).2.1
    (label_of_valid_bucket exBucket_ok).2.2 x).2

/-- the intended requests of the examples denote what they should -/
theorem exPlainGet_denotes : Denotes (smithySpec .GetObject) (intended exPlainGet exKey) :=
  ⟨rfl, by decide +kernel, by decide +kernel, by decide +kernel, by decide +kernel, fun _ hk => absurd rfl hk,
    by decide +kernel, nofun⟩

theorem exListV2_denotes : Denotes (smithySpec .ListObjectsV2) (intended exListV2 []) :=
  exampleReq_denotes

theorem exPlainPost_denotes_none : ∀ op, ¬ WeaklyDenotes (smithySpec op) (intended exPlainPost []) :=
  Op.forall_of_all (by decide +kernel)

theorem exPatchAcl_denotes_none (k : Bytes) : ∀ op, ¬ WeaklyDenotes (smithySpec op) (intended exPatchAcl k) := by
  have hm : ∀ op, (smithySpec op).method ≠ .other := Op.forall_of_all (by decide +kernel)
  exact fun op h => hm op h.method.symm

/-- `GetObject` of key `a/ %é`: path-style `/my.bucket-1/%61/%20%25%C3%A9` (the letter `a` and every
    byte other than lower-case letters, digits, `.`, `-`, `/` escaped, upper-case hex) under a single
    domain with an IP host, virtual-hosted-style `/a/%20%25%c3%A9` under
    `my.bucket-1.S3.Example.COM` — two different spellings, both select `GetObject` -/
example :
    dispatch (.single exDomain) (some exIpHost)
        (pctEncode (fun c => c = 97 || !(isLowerAlnum c || c = 46 || c = 45 || c = 47))
          (slash :: (exBucket ++ slash :: exKey))) exPlainGet = .ok (some (.GetObject, false)) ∧
    dispatch (.single exDomain) (some (exBucket ++ dot :: exDomainMixed)) (slash :: exRest) exPlainGet =
        .ok (some (.GetObject, false)) :=
  (C01_intended_operation_reached_in_both_styles (.single exDomain) (.single exDomain) (some exIpHost)
    exDomain exDomainMixed exBucket exKey _ (slash :: exRest) (Or.inl rfl) exDomainMixed_lower exMixedHost_str
    exMixedHost_not_ip exIpHost_pathStyle exBucket_ok (by decide +kernel) exKey_utf8
    (C12_pctEncode_is_spelling _ _)
    exSpelling_rest
    exPlainGet).1 .GetObject exPlainGet_denotes

/-- `ListObjectsV2` (`GET /my.bucket-1/?list-type=2&prefix=…` against `GET /?list-type=2&prefix=…`
    with the bucket in the host): the empty key -/
example :
    dispatch .none none (slash :: (exBucket ++ [slash])) exListV2 = .ok (some (.ListObjectsV2, false)) ∧
    dispatch (.single exDomain) (some (exBucket ++ dot :: exDomain)) [slash] exListV2 =
        .ok (some (.ListObjectsV2, false)) :=
  (C01_intended_operation_reached_in_both_styles (.single exDomain) .none none
    exDomain exDomain exBucket [] _ _ (Or.inl rfl) rfl exHost_str exHost_not_ip
    (Or.inl rfl) exBucket_ok (by decide +kernel) (by decide +kernel)
    (C12_pctEncode_is_spelling (fun _ => false) _) (C12_pctEncode_is_spelling (fun _ => false) _)
    exListV2).1 .ListObjectsV2 exListV2_denotes

/-- … and without the trailing slash: `GET /my.bucket-1?list-type=2&prefix=…` -/
example : dispatch .none none (slash :: exBucket) exListV2 = .ok (some (.ListObjectsV2, false)) :=
  (C01_intended_bucket_operation_reached .none none exBucket _ (Or.inl rfl) exBucket_ok
    (C12_pctEncode_is_spelling (fun _ => false) _) exListV2).1 .ListObjectsV2 exListV2_denotes

/-- a plain `POST` on a bucket denotes no operation: refused in both styles -/
example :
    dispatch .none none (slash :: (exBucket ++ [slash])) exPlainPost = .ok none ∧
    dispatch (.single exDomain) (some (exBucket ++ dot :: exDomain)) [slash] exPlainPost = .ok none :=
  (C01_intended_operation_reached_in_both_styles (.single exDomain) .none none
    exDomain exDomain exBucket [] _ _ (Or.inl rfl) rfl exHost_str exHost_not_ip
    (Or.inl rfl) exBucket_ok (by decide +kernel) (by decide +kernel)
    (C12_pctEncode_is_spelling (fun _ => false) _) (C12_pctEncode_is_spelling (fun _ => false) _)
    exPlainPost).2 exPlainPost_denotes_none

/-- `PATCH …?acl` on the object `a/ %é`: refused in both styles -/
example :
    dispatch .none none (slash :: (exBucket ++ slash :: exRest)) exPatchAcl = .ok none ∧
    dispatch (.single exDomain) (some (exBucket ++ dot :: exDomain)) (slash :: exRest) exPatchAcl = .ok none :=
  (C01_intended_operation_reached_in_both_styles (.single exDomain) .none none
    exDomain exDomain exBucket exKey _ _ (Or.inl rfl) rfl exHost_str exHost_not_ip
    (Or.inl rfl) exBucket_ok (by decide +kernel) exKey_utf8
    exSpelling_path exSpelling_rest
    exPatchAcl).2 (exPatchAcl_denotes_none exKey)

/-- the hypothesis `hr` of `C01_denoted_operation_reached_in_both_styles` is met: the
    virtual-hosted-style request of the `GetObject` example reaches the router -/
theorem exRouterInput :
    routerInput (.single exDomain) (some (exBucket ++ dot :: exDomainMixed)) (slash :: exRest) exPlainGet =
      .ok (intended exPlainGet exKey) := by
  rw [routerInput_of_classify (s := .object exBucket exKey)]
  · rfl
  · exact C12_key_verbatim_vhost (.single exDomain) exDomain exDomainMixed exBucket exKey (slash :: exRest)
      (Or.inl rfl) exDomainMixed_lower exMixedHost_str exMixedHost_not_ip exBucket_ok (by decide +kernel) (by decide +kernel)
      exKey_utf8 exSpelling_rest

/-- … so `C01_denoted_operation_reached_in_both_styles` applies: `GET /a/%20%25%c3%A9` under
    `my.bucket-1.S3.Example.COM` and `GET /my.bucket-1/a/%20%25%c3%A9` under `localhost:9000` without
    host parser both select `GetObject` -/
example :
    dispatch (.single exDomain) (some (exBucket ++ dot :: exDomainMixed)) (slash :: exRest) exPlainGet =
        .ok (some (.GetObject, false)) ∧
    dispatch .none (some exLocalHost) (slash :: (exBucket ++ slash :: exRest)) exPlainGet =
        .ok (some (.GetObject, false)) :=
  (C01_denoted_operation_reached_in_both_styles (.single exDomain) .none (some exLocalHost) exDomain
    exDomainMixed exBucket exRest (Or.inl rfl) exDomainMixed_lower exMixedHost_str exMixedHost_not_ip
    exLocalHost_pathStyle (label_of_valid_bucket exBucket_ok).1 (label_of_valid_bucket exBucket_ok).2.1
    (label_of_valid_bucket exBucket_ok).2.2 exPlainGet _
    (Or.inl exRouterInput)).1 .GetObject exPlainGet_denotes

/-- `C01_dispatch_style_independent_bucket`: `/` under `my.bucket-1.s3.example.com` against
    `/my.bucket-1` -/
example (x : RRest) :
    dispatch (.single exDomain) (some (exBucket ++ dot :: exDomain)) [slash] x =
      dispatch .none none (slash :: exBucket) x :=
  (C01_dispatch_style_independent_bucket (.single exDomain) .none none exDomain exDomain exBucket
    (Or.inl rfl) rfl exHost_str exHost_not_ip (Or.inl rfl) (label_of_valid_bucket exBucket_ok).2.1
    (label_of_valid_bucket exBucket_ok).2.2 (ne_nil_of_check exBucket_ok) x).2

/-- `C01_domain_host_is_path_style`: `Host: S3.Example.COM` under the single domain `s3.example.com` -/
example (p : Bytes) (x : RRest) :
    dispatch (.single exDomain) (some exDomainMixed) p x = dispatch .none none p x :=
  (C01_domain_host_is_path_style (.single exDomain) exDomain exDomainMixed p (Or.inl rfl) (by decide +kernel)
    (by decide +kernel) (by decide +kernel) x).2

/-- `C01_path_error_in_both_styles`: the label `ab` is too short for a bucket name — `/ab/k` and `/k`
    under `ab.s3.example.com` are both answered `InvalidBucketName` -/
example (x : RRest) :
    dispatch (.single exDomain) (some ([97, 98] ++ dot :: exDomain)) (slash :: [107]) x =
        .error .invalidBucketName ∧
    dispatch .none none (slash :: ([97, 98] ++ slash :: [107])) x = .error .invalidBucketName :=
  C01_path_error_in_both_styles (.single exDomain) .none none exDomain exDomain [97, 98] [107]
    (Or.inl rfl) rfl (by decide +kernel) (by decide +kernel) (Or.inl rfl) (by decide +kernel) (by decide +kernel) (by decide +kernel) x _
    (Or.inr rfl)

/-- a malformed rest (`/a%zz%`) is still covered by section 2: both styles see the same thing -/
example (x : RRest) :
    dispatch (.single exDomain) (some (exBucket ++ dot :: exDomain)) (slash :: exRestBad) x =
      dispatch .none none (slash :: (exBucket ++ slash :: exRestBad)) x :=
  (C01_dispatch_style_independent (.single exDomain) .none none exDomain exDomain exBucket exRestBad
    (Or.inl rfl) rfl exHost_str exHost_not_ip (Or.inl rfl) (label_of_valid_bucket exBucket_ok).1
    (label_of_valid_bucket exBucket_ok).2.1 (label_of_valid_bucket exBucket_ok).2.2 x).2

/-- `GET /` is `ListBuckets` -/
example : dispatch .none none [slash] exPlainGet = .ok (some (.ListBuckets, false)) :=
  (C01_root_operation_reached .none none [slash] (Or.inl rfl) (.lit (by decide +kernel) .nil) exPlainGet).1 .ListBuckets
    ⟨rfl, rfl, by decide +kernel, by decide +kernel, by decide +kernel, fun _ hk => absurd rfl hk,
      by decide +kernel, nofun⟩

end S3V.C01

#print axioms S3V.C01.C01_path_kind
#print axioms S3V.C01.C01_path_kind_of_target
#print axioms S3V.C01.C01_dispatch_style_independent
#print axioms S3V.C01.C01_dispatch_style_independent_bucket
#print axioms S3V.C01.C01_domain_host_is_path_style
#print axioms S3V.C01.C01_denoted_operation_reached_in_both_styles
#print axioms S3V.C01.C01_denoted_operation_reached_in_both_styles_bucket
#print axioms S3V.C01.C01_path_error_in_both_styles
#print axioms S3V.C01.C01_intended_operation_reached_in_both_styles
#print axioms S3V.C01.C01_intended_bucket_operation_reached
#print axioms S3V.C01.C01_root_operation_reached
#print axioms S3V.C01.C01_literal_path_operation_refused
#print axioms S3V.C01.exSpelling_rest
#print axioms S3V.C01.exSpelling_path
#print axioms S3V.C01.exRouterInput
#print axioms S3V.C01.exPlainGet_denotes
#print axioms S3V.C01.exListV2_denotes
#print axioms S3V.C01.exPlainPost_denotes_none
#print axioms S3V.C01.exPatchAcl_denotes_none
