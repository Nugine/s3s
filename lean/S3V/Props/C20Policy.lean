import S3V.Thm.PolicyStable
import S3V.Thm.PolicyExamples
/-!
# C20 — policy documents through JSON

"Every policy document value survives JSON encoding and decoding unchanged, single values and
one-element forms are kept distinct as written, and JSON that is outside the IAM policy grammar
(unknown effect or version, wrong shapes) is refused."

Quantifier: every `Policy` value / every JSON value (`Json`: objects are ordered member lists in which
names may repeat, strings arbitrary byte strings, numbers arbitrary tokens); no bound on the number of
statements, members, list lengths or nesting.

Model: `S3V.Policy.toJson` / `fromJson` (`S3V/Model/Policy.lean`), the serde impls of
`s3s-policy/src/model.rs` at JSON-value level. Specification: `S3V.PolicySpec` (`S3V/Spec/Policy.lean`),
the IAM grammar (`inGrammar`: as published; `inStringGrammar`: condition values strings only) and
`canon` ("as written").
-/
namespace S3V.C20
open S3V S3V.Policy S3V.PolicySpec

/-- full statement of the round trip: every value whose maps satisfy the `IndexMap` invariant (that is,
    every Rust value) survives. FALSE of the model and of the code: see
    `S3V.C20.C20_policy_roundtrip_full_false` in `S3V/Findings/C20Policy.lean`. -/
def C20_policy_roundtrip_full : Prop := ∀ p : Policy, p.mapsWf → fromJson (toJson p) = .ok p

/-- "every policy document value survives JSON encoding and decoding unchanged" — for every value in
    which no `Action`/`NotAction`/`Resource`/`NotResource` is `One("*")` (that value is written `"*"`,
    which is read as `Wildcard`: the excluded region is the decidable `Policy.hasOneStar`) -/
theorem C20_policy_roundtrip_partial (p : Policy) (hw : p.mapsWf) (hs : p.hasOneStar = false) :
    fromJson (toJson p) = .ok p := by
  simp [fromJson, fromJson?_toJson p hw, p.norm_eq hs]

/-- whatever is decoded (from *any* accepted document, in the grammar or not) is a value of the
    round-trip domain: encoding it and decoding again gives the same value -/
theorem C20_policy_decode_stable (j : Json) (p : Policy) (h : fromJson j = .ok p) :
    fromJson (toJson p) = .ok p := by
  have h' : fromJson? j = some p := (fromJson_ok_iff j p).mp h
  obtain ⟨hw, hs⟩ := fromJson?_wf j p h'
  exact C20_policy_roundtrip_partial p hw hs

/-- different values are written differently (in particular `One(x)` and `More([x])`, at every place
    the datatype has the choice) -/
theorem C20_policy_encoding_injective (p q : Policy) (hp : p.mapsWf) (hq : q.mapsWf)
    (hps : p.hasOneStar = false) (hqs : q.hasOneStar = false) (h : toJson p = toJson q) : p = q := by
  have h1 := C20_policy_roundtrip_partial p hp hps
  have h2 := C20_policy_roundtrip_partial q hq hqs
  rw [h] at h1
  rw [h1] at h2
  cases h2; rfl

/-- "kept … as written": every document of the grammar (string condition values) is accepted, and the
    value read is written back as `canon` of the document — its blocks in the grammar's order, absent
    optional scalars as `null`, foreign members dropped, everything below a block unchanged (a single
    string stays a string, a one-element list stays a list); the hypothesis `mapNamesUnique` excludes
    only documents that repeat a name inside a principal or condition map -/
theorem C20_policy_json_stable (j : Json) (hg : inStringGrammar j = true) :
    ∃ p, fromJson j = .ok p ∧ (mapNamesUnique j = true → toJson p = canon j) := by
  obtain ⟨p, hp⟩ := (fromJson?_some_iff j).mpr ((inStringGrammar_iff j).mp hg)
  exact ⟨p, (fromJson_ok_iff j p).mpr hp, toJson_of_fromJson? j p hp⟩

/-- "single values and one-element forms are kept distinct": a bare string and the one-element list of
    it are read as different values and written as different JSON, for action/resource patterns, for
    principal identifiers / condition values, and for the statement itself -/
theorem C20_policy_one_vs_many_distinct (s : Bytes) (ms : List (Bytes × Json)) (st : Statement) :
    (oomOfJson (.str s) = some (.one s) ∧ oomOfJson (.arr [.str s]) = some (.more [s])) ∧
    (woomOfJson (.str s) = some (if s = nStar then .wildcard else .one s) ∧
      woomOfJson (.arr [.str s]) = some (.more [s])) ∧
    (oomJson (.one s) = .str s ∧ oomJson (.more [s]) = .arr [.str s]) ∧
    (woomJson (.one s) = .str s ∧ woomJson (.more [s]) = .arr [.str s]) ∧
    (statementsOfJson (.obj ms) = (statementOfMembers ms).map .one ∧
      statementsOfJson (.arr [.obj ms]) = (statementOfMembers ms).map fun x => .more [x]) ∧
    (statementsJson (.one st) = statementJson st ∧ statementsJson (.more [st]) = .arr [statementJson st]) ∧
    Json.str s ≠ Json.arr [.str s] ∧ statementJson st ≠ Json.arr [statementJson st] := by
  refine ⟨⟨rfl, rfl⟩, ⟨?_, rfl⟩, ⟨rfl, rfl⟩, ⟨rfl, rfl⟩, ⟨rfl, ?_⟩, ⟨rfl, rfl⟩, by simp, by simp [statementJson]⟩
  · by_cases h : s = nStar <;> simp [woomOfJson, h]
  · simp only [statementsOfJson, List.mapM_cons, List.mapM_nil, statementOfJson]
    cases statementOfMembers ms <;> rfl

/-- value side of the same clause, as the correspondence run judges the real encoder's output: at
    every place the datatype has the choice, `One` is written as a bare value and `More` as a list of
    the same length (`valueShape`, specification side) -/
theorem C20_policy_encoder_one_vs_many (p : Policy) : valueShape p (toJson p) = true :=
  valueShape_toJson p

/-- the documents accepted are exactly those of the grammar with string condition values -/
theorem C20_policy_accept_iff (j : Json) : (∃ p, fromJson j = .ok p) ↔ inStringGrammar j = true :=
  fromJson_ok_iff_grammar j

/-- "wrong shapes": a document that is not a JSON object — an array (of any length: the three-element
    array `[version, id, statement]` was accepted until the reader of `Policy` was repaired), a string,
    a number, a Boolean, null — is refused, whatever it contains -/
theorem C20_policy_non_object_refused (j : Json) (h : ∀ ms, j ≠ .obj ms) : fromJson j = .error .refused := by
  cases j with
  | obj ms => exact absurd rfl (h ms)
  | _ => rfl

/-- the grammar used in the two theorems above lies inside the published one (which also allows
    numbers and Booleans as condition values) -/
theorem C20_policy_string_grammar_in_grammar (j : Json) (h : inStringGrammar j = true) : inGrammar j = true := by
  simp [inGrammar, violation_mono j ((inStringGrammar_iff j).mp h)]

/-- "JSON that is outside the IAM policy grammar is refused" — for every JSON value, no region excluded.
    In particular a document that is not an object (an array of the three fields included), a
    `Version`/`Effect` written `{"<name>": null}`, a statement with two principal, two action or two
    resource blocks and a statement whose principal block has a malformed value are refused (the
    hand-written readers of `Statement`, of `Policy` and of `Version`/`Effect` refuse them). -/
theorem C20_policy_outside_grammar_refused (j : Json) (hg : inGrammar j = false) :
    fromJson j = .error .refused := by
  -- what is accepted is in the string-valued grammar (`C20_policy_accept_iff`), which lies inside the published one
  cases h : fromJson j with
  | error e => cases e; rfl
  | ok p =>
    rw [C20_policy_string_grammar_in_grammar j ((C20_policy_accept_iff j).mp ⟨p, h⟩)] at hg
    cases hg

/-- the same as one proposition; it holds: `C20_policy_outside_grammar_refused_full_holds` in
    `S3V/Findings/C20Policy.lean` -/
def C20_policy_outside_grammar_refused_full : Prop :=
  ∀ j : Json, inGrammar j = false → fromJson j = .error .refused

/-- the stated shapes are refused with no assumption about the rest of the document: a document is
    refused as soon as (`headMust`) it is not an object, a `Version` is neither null nor a known version, an `Id` is neither
    null nor a string, or `Statement` is missing; or (`stmtMust`) something standing where a statement
    belongs is not an object, has a `Sid` that is neither string nor null, has no `Effect` or an
    `Effect` other than the strings `Allow`/`Deny`, has no action (resource) block, more than one (under either
    name), or one that is not a string or a list of strings (a number, an object, null, a list
    containing a non-string), has more than one principal block or one whose value is neither `"*"` nor
    a map of strings / string lists, or has a `Condition` that is not a map of maps of strings / string
    lists -/
theorem C20_policy_stated_shapes_refused (j : Json)
    (h : headMust j = false ∨ ∃ x ∈ statementNodes j, stmtMust x = false) :
    fromJson j = .error .refused := by
  cases hj : fromJson? j with
  | none => simp [fromJson, hj]
  | some p =>
    obtain ⟨h1, h2⟩ := must_of_grammar j ((fromJson?_some_iff j).mp ⟨p, hj⟩)
    rcases h with h | ⟨x, hx, hm⟩
    · rw [h1] at h; cases h
    · rw [h2 x hx] at hm; cases hm

/-- "wrong shapes": a `Version` or an `Effect` written as the one-member object `{"<name>": null}` (the
    form serde_json's `deserialize_enum` takes for a unit-variant enum, accepted until the readers of
    `Version` and `Effect` were repaired) makes the document refused, whatever name the object carries
    and whatever else the document contains -/
theorem C20_policy_enum_object_form_refused (j : Json)
    (h : (∃ ms, j = .obj ms ∧ ∃ v ∈ valuesOf kVersion ms, enumObjectForm v = true) ∨
         ∃ x ∈ statementNodes j, ∃ ms, x = .obj ms ∧ ∃ v ∈ valuesOf kEffect ms, enumObjectForm v = true) :
    fromJson j = .error .refused := by
  apply C20_policy_stated_shapes_refused
  rcases h with ⟨ms, rfl, v, hv, he⟩ | ⟨x, hx, ms, rfl, v, hv, he⟩
  · exact .inl (headMust_false_of_enumObjectForm ms v hv he)
  · exact .inr ⟨_, hx, stmtMust_false_of_enumObjectForm ms v hv he⟩

/-! ## non-vacuity -/

/-- a value with a principal map, one/many forms and a condition meets the round-trip hypotheses … -/
example : Ex.policyA.mapsWf ∧ Ex.policyA.hasOneStar = false := by
  refine ⟨?_, by decide⟩
  intro s hs
  simp only [Ex.policyA, OneOrMore.toList, List.mem_cons, List.not_mem_nil, or_false] at hs
  rcases hs with rfl | rfl
  · refine ⟨fun r hr => ?_, fun c hc => ?_⟩
    · cases hr; simp [PrincipalRule.wf, Principal.wf, keysUnique]
    · cases hc; simp [conditionWf, keysUnique]
  · refine ⟨fun r hr => ?_, fun c hc => ?_⟩
    · cases hr; trivial
    · cases hc
/-- … and `example2_json` of the crate's tests is in the grammar, is read as the expected value and
    written back as its `canon` -/
example : inStringGrammar Ex.doc2 = true ∧ mapNamesUnique Ex.doc2 = true ∧
    fromJson? Ex.doc2 = some (Ex.policy2 (some .v2012_10_17)) := by decide
/-- one-element list, other member order, foreign member: accepted, list kept a list -/
example : inStringGrammar Ex.doc2List = true ∧
    (fromJson? Ex.doc2List).map (·.statement) =
      some (.more [{ sid := none, principal := none, effect := .allow, action := .action (.more [Ex.sListBucket]),
                     resource := .resource (.one Ex.sArn), condition := none }]) := by decide
/-- the refusal theorem applies to (and the model refuses) each stated shape -/
example : ∀ j ∈ [Ex.docUnknownEffect, Ex.docUnknownVersion, Ex.docNumberAction, Ex.docObjectEffect, Ex.docNoAction,
      Ex.docTwoSids, Ex.docBothActions, Ex.docNotActionThenAction, Ex.docResourceTwice, Ex.docBothPrincipals,
      Ex.docNumberPrincipal, Ex.docStringPrincipal, Ex.docNullPrincipal, Ex.docArrayForm, Ex.docArrayFormList,
      Ex.docArrayFormShort, Ex.docArrayFormLong, Ex.docEffectObjectForm, Ex.docVersionObjectForm,
      Ex.docEffectObjectFormInList, Ex.docBothObjectForms],
    inGrammar j = false ∧ fromJson? j = none := by decide
example : ∀ j ∈ [Ex.docUnknownEffect, Ex.docNumberAction, Ex.docObjectEffect, Ex.docNoAction, Ex.docTwoSids,
      Ex.docBothActions, Ex.docNotActionThenAction, Ex.docResourceTwice, Ex.docBothPrincipals,
      Ex.docNumberPrincipal, Ex.docStringPrincipal, Ex.docNullPrincipal],
    ∃ x ∈ statementNodes j, stmtMust x = false := by decide
example : headMust Ex.docUnknownVersion = false ∧ headMust Ex.docArrayForm = false := by decide
example : ∀ ms, Ex.docArrayForm ≠ .obj ms := fun _ h => nomatch h
/-- the hypothesis of `C20_policy_enum_object_form_refused`, both disjuncts -/
example : (∃ v ∈ valuesOf kVersion [(kVersion, .obj [(n2012, .null)]), (kStatement, Ex.stmtWith (.str nAllow) [])],
      enumObjectForm v = true) ∧
    (∃ x ∈ statementNodes Ex.docEffectObjectFormInList, ∃ ms, x = .obj ms ∧
      ∃ v ∈ valuesOf kEffect ms, enumObjectForm v = true) := by
  refine ⟨⟨.obj [(n2012, .null)], ?_, rfl⟩, ⟨Ex.stmtWith (.obj [(nDeny, .null)]) [], ?_, _, rfl,
    .obj [(nDeny, .null)], ?_, rfl⟩⟩
  · simp (config := { decide := true }) [valuesOf]
  · simp (config := { decide := true }) [statementNodes, Ex.docEffectObjectFormInList, valuesOf, stmtItems]
  · simp (config := { decide := true }) [valuesOf]

end S3V.C20
