import S3V.Gen.Consts
import S3V.Props.C11
/-!
# C11 — constants of the hand-written code, re-read from the source on every run (tie A, translate/consts.py)
-/
namespace S3V.C11
open S3V

/-- the sub-resource list of `sig_v2::create_string_to_sign` (`INCLUDED_QUERY`, in source order) is the list the model
    uses — which `C11_whitelist_eq_doc` proves equal to the list of the AWS document -/
theorem C11_whitelist_from_source : Gen.Consts.v2IncludedQuery = SigV2.includedQuery := rfl

end S3V.C11
