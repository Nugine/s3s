import S3V.Gen.Consts
/-!
# C03 — constants of the hand-written code, re-read from the source on every run (tie A, translate/consts.py)
-/
namespace S3V.C03
open S3V

/-- the keep-alive body of CompleteMultipartUpload ticks every 100 ms (the tick of the property's quantifier; in the
    theorems of `C03KeepAlive` the timer is an input, so they hold for any tick) -/
theorem C03_keepalive_tick_from_source : Gen.Consts.keepAliveTickMillis = 100 := by decide

end S3V.C03
