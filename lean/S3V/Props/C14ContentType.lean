import S3V.Thm.DtoContentType
/-!
# C14 — content types

`ContentType` is `mime::Mime`; the value a content-type text denotes is (RFC 9110 §8.3.1) its type and subtype, both
case-insensitive, and its parameters: case-insensitive names, values as written (the `charset` value is
case-insensitive).  The two theorems are stated on the modelled subset
`type "/" subtype *( ";" *SP name "=" value )` with token values, for every number of parameters.

Tied to `mime` by component `dto` (kind `ctype`: real `ContentType` parse, `TryIntoHeaderValue`, re-parse).
Quoted parameter values, `*/*`-style ranges and trailing `;` are outside the model (UNMODELLED in the driver).
-/
namespace S3V.C14
open S3V S3V.Dto S3V.Dto.ContentType

/-- a parameter as a client writes it: optional spaces after the `;`, name, value -/
structure WParam where
  sp : Bytes
  name : Bytes
  value : Bytes

def WParam.ok (p : WParam) : Prop := (∀ x ∈ p.sp, x = 32) ∧ isTok p.name = true ∧ isTok p.value = true

def WParam.text (p : WParam) : Bytes := p.sp ++ p.name ++ [61] ++ p.value

def WParam.denotes (p : WParam) : Bytes × Bytes :=
  (lowerAll p.name, if lowerAll p.name = charsetName then lowerAll p.value else p.value)

def mediaText (t st : Bytes) (ps : List WParam) : Bytes :=
  t ++ [47] ++ st ++ (ps.map fun p => 59 :: p.text).flatten

theorem mapM_build (ps : List WParam) (h : ∀ p ∈ ps, p.ok) :
    (ps.map WParam.text).mapM parseParam =
      some (ps.map fun p => (p.denotes, p.sp ++ p.denotes.1 ++ [61] ++ p.denotes.2)) :=
  mapM_map parseParam WParam.text _ ps fun p hp =>
    parseParam_build p.sp p.name p.value (h p hp).1 (h p hp).2.1 (h p hp).2.2

/-- decoding: the text `type/subtype;p1;…;pn` is read as the value it denotes -/
theorem C14_content_type_parse_denotes (t st : Bytes) (ps : List WParam)
    (ht : isTok t = true) (hst : isTok st = true) (hps : ∀ p ∈ ps, p.ok) :
    ∃ r, parseSubset (mediaText t st ps) = some r ∧
      r.essence = lowerAll t ++ [47] ++ lowerAll st ∧ r.params = ps.map WParam.denotes := by
  have hfree : ∀ g ∈ ps.map WParam.text, ∀ x ∈ g, x ≠ 59 := by
    intro g hg
    obtain ⟨p, hp, rfl⟩ := List.mem_map.mp hg
    obtain ⟨h1, h2, h3⟩ := hps p hp
    exact param_free p.sp p.name p.value h1 h2 h3
  have hp := parseSubset_join t st (ps.map WParam.text) ht hst hfree
  rw [mapM_build ps hps, List.map_map] at hp
  exact ⟨_, hp, rfl, by simp only [List.map_map, Function.comp_def]⟩

/-- encoding: the text stored for an accepted content type (the text s3s writes into the header) is accepted and
    denotes the same value — same essence, same parameters in the same order — and writing it again gives the same
    text -/
theorem C14_content_type_written_text_denotes_same (s : Bytes) (r : Parsed) (h : parseSubset s = some r) :
    ∃ r', parseSubset r.text = some r' ∧ r'.essence = r.essence ∧ r'.params = r.params ∧ r'.text = r.text := by
  obtain ⟨t, st, segs, ps, ht, hst, hps, rfl⟩ := parseSubset_eq_some h
  obtain ⟨hm, hfree⟩ := mapM_parseParam_text segs ps hps
  have hp := parseSubset_join (lowerAll t) (lowerAll st) (ps.map (·.2)) (isTok_lowerAll t ht) (isTok_lowerAll st hst) hfree
  rw [hm, List.map_map, lowerAll_lowerAll, lowerAll_lowerAll] at hp
  exact ⟨_, hp, rfl, rfl, rfl⟩

/-! non-vacuity: `Text/HTML; Charset=UTF-8;q=0.5` -/
example : (parseSubset [84,101,120,116,47,72,84,77,76,59,32,67,104,97,114,115,101,116,61,85,84,70,45,56,59,113,61,48,46,53]).map
      (fun r => (r.essence, r.params)) =
    some ([116,101,120,116,47,104,116,109,108], [([99,104,97,114,115,101,116], [117,116,102,45,56]), ([113], [48,46,53])]) := by
  decide +kernel

end S3V.C14
