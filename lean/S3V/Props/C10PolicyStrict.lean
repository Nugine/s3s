import S3V.Props.C10Policy
import S3V.Thm.PostPolicyInstant
/-!
# C10 (policy clause), the document's own reader

`C10_post_policy_enforced` (Props/C10Policy) holds for every reader of the expiration text that agrees with the code's
RFC 3339 parser. The strict reader of the AWS document (`PostPolicy.parseInstant`: exactly `YYYY-MM-DDTHH:MM:SS[.digits]Z`)
does not satisfy that hypothesis on lenient spellings the code also accepts (`t`/`z`, `+01:00`, second 60 — kernel-checked in
`PostPolicyThm.parseRfc3339_more_lenient`), but the two readers agree on every text the strict one accepts, and compliance
depends on the reader only through its value on the expiration text of the policy (`formCompliantWith_congr`): hence the
clause for the strict reader, for policies whose expiration is written in the strict form.
-/
namespace S3V.C10
open S3V

/-- on every text the strict reader of the AWS document accepts, the code's parser succeeds and denotes the same second
    (so the strict form is accepted by the code, with its documented meaning; year 0000 and fractions of any length included;
    second 60 is refused by the strict reader itself) -/
theorem C10_instant_readers_agree {e : Bytes} {u : Int} (h : PostPolicy.parseInstant e = some u) :
    ∃ t, Dto.parseRfc3339 e = some t ∧ t.unix = u := by
  obtain ⟨t, ht, hu, -⟩ := PostPolicyThm.parseInstant_implies_parseRfc3339 h
  exact ⟨t, ht, hu⟩

/-- The policy clause as the specification itself judges it (`PostPolicy.formCompliant`, strict reader): whenever the gate
    lets a form through and the `expiration` of the policy it carries is written in the strict form of the AWS document,
    the policy is unexpired, every condition holds and every field is covered. No bound on sizes. -/
theorem C10_post_policy_enforced_strict (rawFields : List (Bytes × Bytes)) (policyField : Option Bytes) (bucket : Bytes)
    (fileLen : Nat) (nowNs : Int)
    (h : PostPolicyModel.gate nowNs policyField bucket (SigV4.multipartFields rawFields) fileLen = .pass)
    (hstrict : ∀ policyB64 e, policyField = some policyB64 → PostPolicyThm.expirationText policyB64 = some e →
      (PostPolicy.parseInstant e).isSome = true) :
    ∃ policyB64, policyField = some policyB64 ∧
      PostPolicy.formCompliant (nowNs / 1000000000) policyB64 rawFields bucket fileLen = true := by
  obtain ⟨p, hp, hc⟩ := C10_post_policy_enforced_rfc3339 rawFields policyField bucket fileLen nowNs h
  refine ⟨p, hp, hc ▸ PostPolicyThm.formCompliantWith_congr _ _ p (fun e he => ?_) ..⟩
  -- on a text it accepts, the document's reader returns what the code's reader returns
  exact (congrFun PostPolicyThm.parseInstant_eq_code e).trans (if_pos (hstrict p e hp he))

/-- non-vacuity: the example form of `C10Sig` passes the gate and its expiration text
    (`2099-01-01T00:00:00.000Z`) is strict, kernel-checked; the `example` after it derives compliance through the theorem -/
theorem C10_strict_example :
    PostPolicyModel.gate exampleNowNs (some examplePolicyB64) [98, 107, 116] (SigV4.multipartFields exampleFields) 5 = .pass ∧
    PostPolicyThm.expirationText examplePolicyB64 =
      some [50, 48, 57, 57, 45, 48, 49, 45, 48, 49, 84, 48, 48, 58, 48, 48, 58, 48, 48, 46, 48, 48, 48, 90] ∧
    (PostPolicy.parseInstant
      [50, 48, 57, 57, 45, 48, 49, 45, 48, 49, 84, 48, 48, 58, 48, 48, 58, 48, 48, 46, 48, 48, 48, 90]).isSome = true :=
  ⟨C10_gate_examples.1, by decide +kernel, by decide +kernel⟩

example : PostPolicy.formCompliant (S3V.C10.exampleNowNs / 1000000000) S3V.C10.examplePolicyB64 S3V.C10.exampleFields
    [98, 107, 116] 5 = true := by
  obtain ⟨hg, he, hs⟩ := C10_strict_example
  obtain ⟨p, hp, hc⟩ := C10_post_policy_enforced_strict exampleFields (some examplePolicyB64) [98, 107, 116] 5
    exampleNowNs hg (by
      intro p e hp hee
      cases hp
      rw [he] at hee
      cases hee
      exact hs)
  cases hp
  exact hc

end S3V.C10

#print axioms S3V.C10.C10_post_policy_enforced_strict
#print axioms S3V.C10.C10_strict_example
