import S3V.Gen.Consts
/-!
# C12 — constants of the hand-written code, re-read from the source on every run (tie A, translate/consts.py)
-/
namespace S3V.C12
open S3V

/-- `check_bucket_name` admits lengths 3 … 63 and `check_key` at most 1024 bytes: the bounds of the property, of the
    model (`S3V/Model/Path.lean`) and of the naming-rule specification -/
theorem C12_length_bounds_from_source :
    Gen.Consts.bucketMinLen = 3 ∧ Gen.Consts.bucketMaxLenExcl = 63 + 1 ∧ Gen.Consts.keyMaxLen = 1024 := by decide

end S3V.C12
