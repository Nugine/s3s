import S3V.Thm.MultipartCompose
import S3V.Thm.MultipartFields
/-!
# C10 — POST form uploads: stored exactly (the multipart half of the property)

Covered here: "an accepted upload reaches the backend … whose content is exactly the bytes of the file
part, whatever those bytes are", and how form fields are looked up (`find_field_value`: names are
lower-cased, of duplicates the last one sent wins). Not covered here: the signature over the policy
(`Props/C10Sig.lean`), the evaluation of the policy's expiration and conditions (`Props/C10Policy.lean`,
`C10PolicyStrict.lean`), and which form field fills which member of the object write (`Props/C10Form.lean`,
`C10FormScalar.lean`).
-/
namespace S3V.C10
open S3V S3V.Multipart S3V.MultipartSpec

/-- "stored exactly", file stream alone: whatever the parser left over (`rest`) and however the remaining
    body is framed, if `content` is what precedes the first `CRLF--boundary` in
    `rest ++ (data before a transport error)`, the stream hands on exactly `content` — for all contents,
    including CR/LF runs, proper prefixes of the delimiter and binary data — and ends `ok` -/
theorem C10_file_part_exact (b rest : Bytes) (frames : List (Option Bytes)) (content : Bytes)
    (hc : FirstOcc (crlfPat b) (rest ++ dataBeforeError frames) content) :
    (fileStream b rest frames).1.flatten = content ∧ (fileStream b rest frames).2 = .ok :=
  fileStream_of_firstOcc hc

/-- "stored exactly", whole upload (corollary of the C09d refinement): if the form parses on the whole
    body with the file part starting at `start`, and `content` precedes the first `CRLF--boundary` from
    there on, then under every framing the run yields that form, exactly `content`, and ends `ok` -/
theorem C10_post_content_exact (b : Bytes) (frames : List (Option Bytes))
    (f : List (Bytes × Bytes)) (n c : Bytes) (start : Nat) (content : Bytes)
    (hp : tryParse b (dataBeforeError frames) = .parsed f n c start)
    (hc : FirstOcc (crlfPat b) ((dataBeforeError frames).drop start) content) :
    (run b frames).form = some (f, n, c) ∧ (run b frames).chunks.flatten = content ∧
    (run b frames).terminal = .ok :=
  run_parsed_exact b frames f n c start content hp ((beforeFirst_eq_some_iff _ _ _).mpr hc)

/-- without the delimiter nothing is accepted as complete: the upload ends `incomplete` (or `underlying`
    after a transport error), never `ok` -/
theorem C10_no_delimiter_not_ok (b rest : Bytes) (frames : List (Option Bytes))
    (hn : ∀ b', ¬ OccursAt (crlfPat b) (rest ++ dataBeforeError frames) b') :
    (fileStream b rest frames).2 ≠ .ok := by
  rw [fileStream_of_no_occ hn]
  split <;> nofun

/-- field mapping, what the code does: `find_field_value` on the field list built by `try_parse`
    (`raw` = the fields in the order they were sent) returns the value of the last field whose
    ASCII-lower-cased name equals `name`; it is `none` iff there is no such field -/
theorem C10_field_lookup (raw : List (Bytes × Bytes)) (name : Bytes) :
    findFieldValue (finishFields raw) name = lastField name (raw.map fun f => (asciiLower f.1, f.2)) :=
  findFieldValue_finishFields raw name

/-- the field list handed on is sorted by name (what `partition_point` relies on) -/
theorem C10_fields_sorted (raw : List (Bytes × Bytes)) :
    (finishFields raw).Pairwise fun x y => bytesLe x.1 y.1 = true :=
  (sortFields_sorted _).imp bytesLe_iff_le.mpr

/-! ## non-vacuity: a form with duplicate names in two spellings and a file full of look-alikes

    --b / Content-Disposition: form-data; name="Key" / / v1
    --b / Content-Disposition: form-data; name="key" / / v2
    --b / Content-Disposition: form-data; name="file"; filename="f" / Content-Type: t / / A CR CR LF - -
    --b--
-/

def exBody : Bytes := [45, 45, 98, 13, 10, 67, 111, 110, 116, 101, 110, 116, 45, 68, 105, 115, 112, 111, 115, 105, 116, 105, 111, 110, 58, 32, 102, 111, 114, 109, 45, 100, 97, 116, 97, 59, 32, 110, 97, 109, 101, 61, 34, 75, 101, 121, 34, 13, 10, 13, 10, 118, 49, 13, 10, 45, 45, 98, 13, 10, 67, 111, 110, 116, 101, 110, 116, 45, 68, 105, 115, 112, 111, 115, 105, 116, 105, 111, 110, 58, 32, 102, 111, 114, 109, 45, 100, 97, 116, 97, 59, 32, 110, 97, 109, 101, 61, 34, 107, 101, 121, 34, 13, 10, 13, 10, 118, 50, 13, 10, 45, 45, 98, 13, 10, 67, 111, 110, 116, 101, 110, 116, 45, 68, 105, 115, 112, 111, 115, 105, 116, 105, 111, 110, 58, 32, 102, 111, 114, 109, 45, 100, 97, 116, 97, 59, 32, 110, 97, 109, 101, 61, 34, 102, 105, 108, 101, 34, 59, 32, 102, 105, 108, 101, 110, 97, 109, 101, 61, 34, 102, 34, 13, 10, 67, 111, 110, 116, 101, 110, 116, 45, 84, 121, 112, 101, 58, 32, 116, 13, 10, 13, 10, 65, 13, 13, 10, 45, 45, 13, 10, 45, 45, 98, 45, 45, 13, 10]
def exContent : Bytes := [65, 13, 13, 10, 45, 45]

theorem exBody_parsed :
    tryParse [98] exBody = .parsed [([107, 101, 121], [118, 49]), ([107, 101, 121], [118, 50])] [102] [116] 193 := by
  decide +kernel

theorem exBody_content : beforeFirst (crlfPat [98]) (exBody.drop 193) = some exContent := by decide +kernel

/-- the hypotheses of `C10_post_content_exact` hold for it … -/
example : tryParse [98] exBody = .parsed [([107, 101, 121], [118, 49]), ([107, 101, 121], [118, 50])] [102] [116] 193 :=
  exBody_parsed

example : beforeFirst (crlfPat [98]) (exBody.drop 193) = some exContent := exBody_content

/-- … so under a framing that cuts inside the first boundary line and inside the file's CR run the run
    delivers exactly the file bytes -/
example : (run [98] [some (exBody.take 7), some ((exBody.drop 7).take 189), some (exBody.drop 196)]).chunks.flatten
    = exContent := by
  have hd : dataBeforeError [some (exBody.take 7), some ((exBody.drop 7).take 189), some (exBody.drop 196)] = exBody := by
    decide +kernel
  exact (run_parsed_exact [98] _ _ [102] [116] 193 exContent (by rw [hd]; exact exBody_parsed)
    (by rw [hd]; exact exBody_content)).2.1

/-- … and the lookup of `key` answers the value sent last (`v2`), `Key` (not lower-case) is not found -/
example : findFieldValue (finishFields [([75, 101, 121], [118, 49]), ([107, 101, 121], [118, 50])]) [107, 101, 121] = some [118, 50] := by
  decide +kernel
example : findFieldValue (finishFields [([75, 101, 121], [118, 49]), ([107, 101, 121], [118, 50])]) [75, 101, 121] = none := by
  decide +kernel

end S3V.C10
