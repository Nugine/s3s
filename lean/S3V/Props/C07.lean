import S3V.Thm.Service
/-!
# C07 — no backend or custom route runs without verified identity and access approval (property theorems)

Quantifiers: every configuration (provider present or not, the five access-hook behaviours with an arbitrary set
of denied operations, the four custom-route behaviours), every kind of presented signature material, every
resolved operation (or none), every route-match result, every identity type.
The order of hooks inside each generated `call` body is tied to the source by `translate/ops_tables.py`
(`C01_call_shape`); the order of the steps of `prepare` by the end-to-end correspondence `svcauth`.
-/
namespace S3V.C07
open S3V.Gen S3V.Service S3V.ServiceSpec

variable {I : Type} [DecidableEq I]

/-- every component that runs sees exactly the verified signer's identity — never another one, and never an
    identity for an unverified request -/
theorem C07_identity_is_verified_signer (cfg : Cfg) (p : Presented I) (rm : Bool) (op : Option Op) :
    identityOk cfg.auth p (serviceCall cfg p rm op).events = true := by
  rw [identityOk, List.all_eq_true]
  intro e he
  exact beq_iff_eq.mpr ((ServiceThm.serviceCall_run cfg p rm op).cred_eq e he)

/-- with a provider configured, a backend method runs only after the access hook (or, without a hook object, the
    default check, which refuses anonymous requests) approved, then the operation-specific hook approved, in that
    order, all with the same identity -/
theorem C07_backend_gated (cfg : Cfg) (hauth : cfg.auth = true) (p : Presented I) (rm : Bool) (op : Option Op) :
    backendGated (cfg.access != .none) (serviceCall cfg p rm op).events = true :=
  (ServiceThm.serviceCall_run cfg p rm op).backendGated hauth

/-- with a provider configured, a custom route handler runs only after its access check approved (by default:
    only for a verified identity) -/
theorem C07_route_gated (cfg : Cfg) (hauth : cfg.auth = true) (p : Presented I) (rm : Bool) (op : Option Op) :
    routeGated (serviceCall cfg p rm op).events = true :=
  (ServiceThm.serviceCall_run cfg p rm op).routeGated

/-- a denial from the provider (no events, error) or from a hook is the response and stops processing -/
theorem C07_denial_stops (cfg : Cfg) (p : Presented I) (rm : Bool) (op : Option Op) :
    denialStops (serviceCall cfg p rm op).events (serviceCall cfg p rm op).ok = true :=
  (ServiceThm.serviceCall_run cfg p rm op).denialStops

/-- signature material that does not verify never reaches any hook, route or backend -/
theorem C07_invalid_signature_stops (cfg : Cfg) (rm : Bool) (op : Option Op) :
    (serviceCall cfg (Presented.invalid : Presented I) rm op).events = [] ∧
      (serviceCall cfg (Presented.invalid : Presented I) rm op).ok = false :=
  ⟨rfl, rfl⟩

/-- without a provider a request that presents a signature — valid for some key or not — is refused rather than
    treated as authenticated or anonymous -/
theorem C07_no_provider_signature_refused (cfg : Cfg) (hauth : cfg.auth = false) (p : Presented I)
    (hp : p ≠ .nothing) (rm : Bool) (op : Option Op) :
    (serviceCall cfg p rm op).events = [] ∧ (serviceCall cfg p rm op).ok = false := by
  cases p with
  | nothing => exact absurd rfl hp
  | valid ak => rw [ServiceThm.serviceCall_valid, hauth]; exact ⟨rfl, rfl⟩
  | invalid => exact ⟨rfl, rfl⟩

/-- exactly one handler at most: never two backend calls, never a backend call and a route call -/
theorem C07_at_most_one_handler (cfg : Cfg) (p : Presented I) (rm : Bool) (op : Option Op) :
    atMostOneHandler (serviceCall cfg p rm op).events = true :=
  (ServiceThm.serviceCall_run cfg p rm op).atMostOneHandler

/-- a success response for an operation means its backend method ran (nothing is answered from thin air) -/
theorem C07_success_means_handler_ran (cfg : Cfg) (p : Presented I) (rm : Bool) (op : Option Op)
    (h : (serviceCall cfg p rm op).ok = true) :
    ∃ e ∈ (serviceCall cfg p rm op).events, Event.isBackend e = true ∨ Event.isRouteCall e = true :=
  (ServiceThm.serviceCall_run cfg p rm op).handler_of_ok h

/-! non-vacuity: a verified request with an allowing hook reaches the backend through both hooks -/
example : (serviceCall (I := Nat) ⟨true, .allow, .none, fun _ => false⟩ (.valid 7) false (some .GetObject)).events
    = [.accessCheck .GetObject (some 7) true, .typedHook .GetObject (some 7) true, .backend .GetObject (some 7)] := by
  rfl

example : (serviceCall (I := Nat) ⟨true, .none, .none, fun _ => false⟩ .nothing false (some .GetObject)).events = [] := by
  rfl

end S3V.C07
