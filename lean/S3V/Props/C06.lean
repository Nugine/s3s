import S3V.Thm.SigV4Presigned
import S3V.Thm.SigV4Verdict
import S3V.Thm.SigV4Inj
import S3V.Thm.SigV4Calendar
/-!
# C06 — SigV4 presigned URLs: correctly signed and inside their window (property theorems only)

`now` (nanoseconds since the epoch), the hash and the MAC are parameters: every statement holds for all times and
arbitrary functions. No bound on the number or size of parameters and headers.
-/
namespace S3V.C06
open S3V S3V.SigV4

/-- the verdict logic, exactly (no well-formedness hypothesis): `v4_check_presigned_url` accepts, and attributes the
    request to the access key / region / service of `X-Amz-Credential`, iff the six parameters parse, the algorithm
    is AWS4-HMAC-SHA256, the credential scope names the day of `X-Amz-Date`, every listed header is in the request,
    `x-amz-content-sha256` (if present; edge SP / HTAB removed, d453cd3) is admissible, the date is a calendar instant, the key
    is known, `now` lies in `[date − 900 s, date + expires]`, and the recomputed signature is the presented one -/
theorem C06_accept_conditions (sha256hex : Bytes → Bytes) (hmac : Bytes → Bytes → Bytes)
    (look : Bytes → Option Bytes) (nowNs : Int) (c : Ctx) (ak region service : Bytes) :
    v4CheckPresignedUrl sha256hex hmac (some look) nowNs c = .accept ak region service ↔
      ∃ p secret date, PresignedChecks look c p secret date ∧
        p.credential.accessKey = ak ∧ p.credential.region = region ∧ p.credential.service = service ∧
        SigV4Spec.inWindow nowNs date p.expires ∧
        presignedSignature sha256hex hmac c p secret = p.signature := by
  simp only [presigned_accept_iff_provider, Option.some.injEq, exists_eq_left']

/-- the two comparisons of the code (`duration < 0 ∧ |duration| > 15 min` refused, `duration > expires` refused) are
    exactly the window of the property, edges included, at nanosecond resolution -/
theorem C06_window_exact (nowNs date : Int) (expires : Nat) :
    (¬ ((nowNs - date * 1000000000 < 0 && -(nowNs - date * 1000000000) > 900 * 1000000000) = true) ∧
     ¬ (nowNs - date * 1000000000 > (expires : Int) * 1000000000)) ↔ SigV4Spec.inWindow nowNs date expires :=
  window_iff nowNs date expires

/-- FULL statement: accepted iff the signature is the specified one over method, path, all other query parameters
    and the signed headers, under the credential's scope, and `now` is inside the window. False (`Findings.C05`) only
    through the open class `sigv4-dup-query-unsorted` (the one remaining deviation), and for `X-Amz-SignedHeaders`
    lists outside the specification's domain (unsorted, repeating a name, or listing `authorization`). -/
def C06_presigned_iff_full : Prop :=
  ∀ (sha256hex : Bytes → Bytes) (hmac : Bytes → Bytes → Bytes) (look : Bytes → Option Bytes) (nowNs : Int) (c : Ctx)
    (raw : List (Bytes × Bytes)) (ak region service : Bytes), orderedHeaders raw = some c.hs →
    (v4CheckPresignedUrl sha256hex hmac (some look) nowNs c = .accept ak region service ↔
      ∃ p secret date, PresignedChecks look c p secret date ∧
        p.credential.accessKey = ak ∧ p.credential.region = region ∧ p.credential.service = service ∧
        SigV4Spec.inWindow nowNs date p.expires ∧
        p.signature = SigV4Spec.signature sha256hex hmac secret p.amzDate.fmtIso8601
          ⟨p.credential.date, region, service⟩
          (SigV4Spec.presignedRequest c.method c.path c.qs (effectiveRaw c.http2 c.authority raw) p.signedHeaders))

/-- for every context satisfying `wfPresignedCtx` (the names of `X-Amz-SignedHeaders` sorted, distinct, not
    `authorization`; duplicate parameter names with ascending values), all times `now`, arbitrary hash and MAC.
    `PresignedChecks` contains the code's own checks that the credential scope names the day of `X-Amz-Date` (4011296)
    and that every listed header is in the request (d4ba65c). -/
theorem C06_presigned_iff_partial (sha256hex : Bytes → Bytes) (hmac : Bytes → Bytes → Bytes)
    (look : Bytes → Option Bytes) (nowNs : Int) (c : Ctx) (raw : List (Bytes × Bytes)) (ak region service : Bytes)
    (hraw : orderedHeaders raw = some c.hs) (hwf : wfPresignedCtx c = true) :
    v4CheckPresignedUrl sha256hex hmac (some look) nowNs c = .accept ak region service ↔
      ∃ p secret date, PresignedChecks look c p secret date ∧
        p.credential.accessKey = ak ∧ p.credential.region = region ∧ p.credential.service = service ∧
        SigV4Spec.inWindow nowNs date p.expires ∧
        p.signature = SigV4Spec.signature sha256hex hmac secret p.amzDate.fmtIso8601
          ⟨p.credential.date, region, service⟩
          (SigV4Spec.presignedRequest c.method c.path c.qs (effectiveRaw c.http2 c.authority raw) p.signedHeaders) := by
  rw [C06_accept_conditions]
  refine exists_congr fun p => exists_congr fun secret => exists_congr fun date =>
    and_congr_right fun hc => and_congr_right fun _ => and_congr_right fun h2 => and_congr_right fun h3 =>
    and_congr_right fun _ => ?_
  rw [presignedSignature_eq_spec sha256hex hmac hraw hwf hc, h2, h3]
  exact eq_comm

/-- every query parameter other than `X-Amz-Signature` — expiry, date, credential, signed-header list included — is
    part of the signed view (in its encoded form) -/
theorem C06_every_query_param_bound (method path : Bytes) (qs headers : List (Bytes × Bytes)) (signed : List Bytes)
    {k v : Bytes} (hmem : (k, v) ∈ qs) (hk : k ≠ SigV4Spec.xAmzSignature) :
    (SigV4Spec.uriEncode false k, SigV4Spec.uriEncode false v) ∈
      (signedView (SigV4Spec.presignedRequest method path qs headers signed)).query := by
  exact mem_encodedQuery.mpr ⟨(k, v), List.mem_filter.mpr ⟨hmem, by simpa using hk⟩, rfl⟩

/-- so a URL in which such a parameter no longer occurs with that value has another signed view (and, by
    `C05_tamper_changes_signature`, another specified signature unless hash or MAC collide on the two messages) -/
theorem C06_param_change_changes_view (method path : Bytes) (qs qs' headers headers' : List (Bytes × Bytes))
    (signed signed' : List Bytes) {k v : Bytes} (hmem : (k, v) ∈ qs) (hk : k ≠ SigV4Spec.xAmzSignature)
    (hnot : (k, v) ∉ qs') :
    signedView (SigV4Spec.presignedRequest method path qs headers signed) ≠
      signedView (SigV4Spec.presignedRequest method path qs' headers' signed') := by
  intro h
  have h1 := C06_every_query_param_bound method path qs headers signed hmem hk
  rw [h] at h1
  obtain ⟨⟨k', v'⟩, hm', he⟩ := mem_encodedQuery.mp h1
  simp only [Prod.mk.injEq] at he
  have ek := uriEncode_injective false he.1
  have ev := uriEncode_injective false he.2
  subst ek; subst ev
  exact hnot (List.mem_filter.mp hm').1

/-- a URL in which one of the six `X-Amz-*` authentication parameters is missing or occurs more than once is
    refused with InvalidRequest, whatever else it contains and whatever the time (`c.qs` is the sorted list
    `OrderedQs::parse` produces) -/
theorem C06_duplicate_or_missing_xamz_rejected (sha256hex : Bytes → Bytes) (hmac : Bytes → Bytes → Bytes)
    (lookup : Option (Bytes → Option Bytes)) (nowNs : Int) (c : Ctx) (hsorted : SortedBy c.qs)
    (name : Bytes) (hname : name ∈ xAmzNames) (hcount : (c.qs.filter fun p => p.1 = name).length ≠ 1) :
    v4CheckPresignedUrl sha256hex hmac lookup nowNs c = .err .InvalidRequest := by
  unfold v4CheckPresignedUrl
  rw [parsePresigned_none hname (getUnique_none_of_count hsorted hcount)]

/-- the sorted list the previous theorem assumes is what `OrderedQs::parse` yields -/
theorem C06_ordered_qs_sorted (query : Bytes) : SortedBy (orderedQs query) := sortByFirst_sorted _

/-- calendar: `AmzDate::to_time` (Hinnant's era algorithm, the model of `time::Date`) is the instant the counting
    definition of the proleptic Gregorian calendar assigns — days in whole years + days in whole months + day — and
    exists exactly for valid civil times; for every year 0…9999 and beyond (no bound) -/
theorem C06_to_time_correct (d : AmzDate) :
    d.toTime = if SigV4Spec.validCivil d.year d.month d.day d.hour d.minute d.second = true then
      some (SigV4Spec.civilToUnix d.year d.month d.day d.hour d.minute d.second) else none :=
  toTime_eq_spec d

/-- the underlying day count -/
theorem C06_days_from_civil (y m d : Nat) (h1 : 1 ≤ m) (h2 : m ≤ 12) (h3 : 1 ≤ d) :
    daysFromCivil y m d =
      ((SigV4Spec.daysBeforeYear y + SigV4Spec.daysBeforeMonth y m + (d - 1) : Nat) : Int) - 719528 :=
  daysFromCivil_eq y m d h1 h2 h3

example : SigV4Spec.inWindow (1369353600 * 1000000000 + 5) 1369353600 86400 := by decide
example : ¬ SigV4Spec.inWindow ((1369353600 - 901) * 1000000000) 1369353600 86400 := by decide
example : (⟨2013, 5, 24, 0, 0, 0⟩ : AmzDate).toTime = some 1369353600 := by decide
example : (⟨2023, 2, 29, 0, 0, 0⟩ : AmzDate).toTime = none := by decide

end S3V.C06
