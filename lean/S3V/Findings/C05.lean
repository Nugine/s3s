import S3V.Props.C05
import S3V.Props.C06
import S3V.Props.C10Sig
import S3V.Spec.SigV4Verify
/-!
# Findings of C05 / C06 / C10 (signature clause): kernel-checked facts about concrete requests

Outside the pass/fail gate. State of the code: after the repairs b7c08fd, 4011296, 10af2bf, d4ba65c, d453cd3, 4d2a913.

* OPEN deviation (counterexamples to the FULL statements): duplicate query names with unsorted values
  (`sigv4-dup-query-unsorted`, header and presigned path) — the only remaining obstacle.
* REPAIRED classes, kept as regression facts: on the former counterexamples the model (which mirrors the repaired code
  and agrees with it on the replayed witnesses, `corpus/sigv4*.txt`) now equals the specification or refuses.
-/
deriving instance DecidableEq for Except

namespace S3V.Findings.C05
open S3V S3V.SigV4 S3V.C05

def sha0 : Bytes → Bytes := fun _ => []
def none0 : Bytes → Option Bytes := fun _ => none

def base : Req :=
  { method := b!"GET", path := b!"/bkt/k", qs := [],
    headers := [(b!"host", b!"h"), (b!"x-amz-meta-a", b!"v")], signed := [b!"host", b!"x-amz-meta-a"], payload := .unsigned }

/-! ### repaired (b7c08fd): former counterexamples now agree with the specification -/

/-- former class `sigv4-inner-whitespace`: `x  y` is now written `x y` -/
theorem inner_whitespace_repaired :
    canonImpl sha0 none0 { base with headers := [(b!"host", b!"h"), (b!"x-amz-meta-a", b!"x  y")] } =
    canonSpec sha0 { base with headers := [(b!"host", b!"h"), (b!"x-amz-meta-a", b!"x  y")] } := by decide +kernel

/-- former class `sigv4-repeated-header`: two lines now give one canonical line `a,b` -/
theorem repeated_header_repaired :
    canonImpl sha0 none0 { base with headers := [(b!"host", b!"h"), (b!"x-amz-meta-a", b!"a"), (b!"x-amz-meta-a", b!"b")] } =
    canonSpec sha0 { base with headers := [(b!"host", b!"h"), (b!"x-amz-meta-a", b!"a"), (b!"x-amz-meta-a", b!"b")] } := by
  decide +kernel

/-! ### open: `sigv4-dup-query-unsorted` -/

/-- `prefix=b&prefix=a` keeps its order in the code, is sorted by value in the specification -/
theorem dup_query_unsorted :
    canonImpl sha0 none0 { base with qs := [(b!"prefix", b!"b"), (b!"prefix", b!"a")] } ≠
    canonSpec sha0 { base with qs := [(b!"prefix", b!"b"), (b!"prefix", b!"a")] } := by decide +kernel

theorem C05_canon_impl_eq_spec_full_false : ¬ C05_canon_impl_eq_spec_full :=
  fun h => dup_query_unsorted (h sha0 none0 _)

/-- at the level of the canonicalisation function alone a listed name without a header line is still dropped; the
    callers `v4_check_header_auth` (10af2bf) and `v4_check_presigned_url` (d4ba65c) refuse such requests before -/
theorem absent_signed_header_function_level :
    canonImpl sha0 none0 { base with signed := [b!"host", b!"x-amz-meta-a", b!"x-not-there"] } ≠
    canonSpec sha0 { base with signed := [b!"host", b!"x-amz-meta-a", b!"x-not-there"] } := by decide +kernel

/-! ### the verdict of header authentication -/

def hmac0 : Bytes → Bytes → Bytes := fun _ _ => []
def look0 : Bytes → Option Bytes := fun ak => if ak = b!"AK" then some b!"secret" else none

def ctxWith (auth date : Bytes) (qs : List (Bytes × Bytes)) : Ctx :=
  { http2 := false, authority := none, method := b!"GET", path := b!"/bkt/k", qs,
    hs := [(b!"authorization", auth), (b!"host", b!"h"), (b!"x-amz-content-sha256", b!"UNSIGNED-PAYLOAD"),
           (b!"x-amz-date", date)],
    body := [], bodyOnce := true, contentLength := none, decodedContentLength := none }

/-- repaired (4011296), former class `sigv4-algorithm-unchecked` -/
theorem other_algorithm_refused :
    v4CheckHeaderAuth sha0 hmac0 (some look0)
      (ctxWith b!"AWS4-HMAC-SHA512 Credential=AK/20130524/r/s3/aws4_request,SignedHeaders=host,Signature="
        b!"20130524T000000Z" []) = .err .NotImplemented := by decide +kernel

/-- repaired (4011296), former class `sigv4-credential-date-ignored` -/
theorem other_scope_day_refused :
    v4CheckHeaderAuth sha0 hmac0 (some look0)
      (ctxWith b!"AWS4-HMAC-SHA256 Credential=AK/20130524/r/s3/aws4_request,SignedHeaders=host,Signature="
        b!"20130525T000000Z" []) = .err .AuthorizationHeaderMalformed := by decide +kernel

/-- repaired (10af2bf), former class `sigv4-absent-signed-header` -/
theorem absent_signed_header_refused :
    v4CheckHeaderAuth sha0 hmac0 (some look0)
      (ctxWith b!"AWS4-HMAC-SHA256 Credential=AK/20130524/r/s3/aws4_request,SignedHeaders=host;x-not-there,Signature="
        b!"20130524T000000Z" []) = .err .InvalidRequest := by decide +kernel

/-- …while the same header without the absent name is accepted (the constant MAC makes the empty signature right) -/
theorem plain_context_accepted :
    v4CheckHeaderAuth sha0 hmac0 (some look0)
      (ctxWith b!"AWS4-HMAC-SHA256 Credential=AK/20130524/r/s3/aws4_request,SignedHeaders=host,Signature="
        b!"20130524T000000Z" []) = .accept b!"AK" b!"r" b!"s3" := by decide +kernel

/-! the open class refutes the full verdict statement: a request signed as the specification says, with
    `prefix=b&prefix=a`, is refused. Hash = identity and MAC = its message, so that signatures tell texts apart. -/

def shaId : Bytes → Bytes := fun m => m
def hmacMsg : Bytes → Bytes → Bytes := fun _ m => m

def dupQs : List (Bytes × Bytes) := [(b!"prefix", b!"b"), (b!"prefix", b!"a")]

def dupSpecRequest : SigV4Spec.Request :=
  { method := b!"GET", path := b!"/bkt/k", query := dupQs,
    headers := [(b!"authorization", []), (b!"host", b!"h"), (b!"x-amz-content-sha256", b!"UNSIGNED-PAYLOAD"),
                (b!"x-amz-date", b!"20130524T000000Z")],
    signedHeaders := [b!"host"], payload := b!"UNSIGNED-PAYLOAD" }

/-- the signature the specification defines (the `authorization` line is not signed, its value is irrelevant) -/
def dupSpecSig : Bytes :=
  SigV4Spec.signature shaId hmacMsg b!"secret" b!"20130524T000000Z" ⟨b!"20130524", b!"r", b!"s3"⟩ dupSpecRequest

def ctxDup : Ctx :=
  ctxWith (b!"AWS4-HMAC-SHA256 Credential=AK/20130524/r/s3/aws4_request,SignedHeaders=host,Signature=" ++ dupSpecSig)
    b!"20130524T000000Z" dupQs

theorem spec_signed_dup_query_refused :
    v4CheckHeaderAuth shaId hmacMsg (some look0) ctxDup = .err .SignatureDoesNotMatch := by decide +kernel

def dupAuth : Authorization :=
  ⟨b!"AWS4-HMAC-SHA256", ⟨b!"AK", b!"20130524", b!"r", b!"s3"⟩, [b!"host"], dupSpecSig⟩

theorem C05_verdict_iff_full_false : ¬ C05_verdict_iff_full := by
  intro h
  have hraw : orderedHeaders ctxDup.hs = some ctxDup.hs := by decide +kernel
  have hchecks : HeaderChecks look0 ctxDup dupAuth b!"secret" ⟨2013, 5, 24, 0, 0, 0⟩ .unsigned :=
    { parsed := by decide +kernel
      algorithm := rfl
      service := Or.inl rfl
      mode := ⟨some .unsignedPayload, by decide +kernel, by decide, by decide +kernel, by decide⟩
      key := by decide
      date := ⟨b!"20130524T000000Z", by decide +kernel, by decide⟩
      scopeDate := by decide
      present := by decide +kernel }
  -- the two requests differ in the (unsigned) `authorization` line only: their canonical texts are the same
  have hcr : SigV4Spec.canonicalRequest ((ctxDup.req ctxDup.hs dupAuth.signedHeaders .unsigned).toSpec shaId) =
      SigV4Spec.canonicalRequest dupSpecRequest := by decide +kernel
  have hts : AmzDate.fmtIso8601 ⟨2013, 5, 24, 0, 0, 0⟩ = b!"20130524T000000Z" := by decide
  have hsig : dupAuth.signature = SigV4Spec.signature shaId hmacMsg b!"secret" (AmzDate.fmtIso8601 ⟨2013, 5, 24, 0, 0, 0⟩)
      ⟨dupAuth.credential.date, b!"r", b!"s3"⟩ ((ctxDup.req ctxDup.hs dupAuth.signedHeaders .unsigned).toSpec shaId) := by
    unfold SigV4Spec.signature
    rw [hcr, hts]
    rfl
  have hacc := (h shaId hmacMsg look0 ctxDup ctxDup.hs b!"AK" b!"r" b!"s3" hraw).mpr
    ⟨dupAuth, b!"secret", ⟨2013, 5, 24, 0, 0, 0⟩, .unsigned, hchecks, rfl, rfl, rfl, hsig⟩
  rw [spec_signed_dup_query_refused] at hacc
  cases hacc

/-! ### repaired (d453cd3): former class `sigv4-edge-whitespace-amz-header`

`extract_amz_date` / `extract_amz_content_sha256` parse `trim_ows(val)`: a correctly signed request whose `x-amz-date` /
`x-amz-content-sha256` line carries leading or trailing SP / HTAB (the canonical request trims them anyway) is no longer
refused with InvalidRequest / XAmzContentSHA256Mismatch. Regression facts: the model, which mirrors the repaired code and
agrees with it on the replayed witness (`corpus/sigv4e2e.txt`, `w-sigv4-edge-whitespace-amz-header`), parses and accepts. -/

/-- the `x-amz-date` value of the corpus witness, HTAB before and SP after, is read as its timestamp -/
theorem edge_blank_amz_date_parsed :
    extractAmzDate [(b!"x-amz-date", b!"\t20171030T102620Z ")] = .ok (some ⟨2017, 10, 30, 10, 26, 20⟩) := by decide +kernel

/-- all three payload modes are recognised with edge blanks -/
theorem edge_blank_content_sha_parsed :
    extractContentSha [(b!"x-amz-content-sha256", b!" UNSIGNED-PAYLOAD\t")] = .ok (some .unsignedPayload) ∧
    extractContentSha [(b!"x-amz-content-sha256", b!"\t STREAMING-AWS4-HMAC-SHA256-PAYLOAD ")] = .ok (some .multipleChunks) ∧
    extractContentSha [(b!"x-amz-content-sha256",
      b!" e3b0c44298fc1c149afbf4c8996fb92427ae41e4649b934ca495991b7852b855 ")] =
      .ok (some (.singleChunk b!"e3b0c44298fc1c149afbf4c8996fb92427ae41e4649b934ca495991b7852b855")) := by decide +kernel

/-- `trim_ows` removes SP and HTAB only, and only at the edges: an inner blank still spoils the value -/
theorem inner_blank_amz_date_refused :
    extractAmzDate [(b!"x-amz-date", b!"20171030T 102620Z")] = .error .InvalidRequest ∧
    extractContentSha [(b!"x-amz-content-sha256", b!"UNSIGNED PAYLOAD")] = .error .XAmzContentSHA256Mismatch := by decide +kernel

def edgeHeaders (auth : Bytes) : List (Bytes × Bytes) :=
  [(b!"authorization", auth), (b!"host", b!"h"), (b!"x-amz-content-sha256", b!" UNSIGNED-PAYLOAD\t"),
   (b!"x-amz-date", b!"\t20130524T000000Z ")]

def edgeSigned : List Bytes := [b!"host", b!"x-amz-content-sha256", b!"x-amz-date"]

/-- the request with edge blanks around both headers, both of them signed, as the specification sees it -/
def edgeSpecRequest : SigV4Spec.Request :=
  { method := b!"GET", path := b!"/bkt/k", query := [], headers := edgeHeaders [], signedHeaders := edgeSigned,
    payload := b!"UNSIGNED-PAYLOAD" }

/-- the signature the specification defines for it (timestamp and payload line are the trimmed values) -/
def edgeSpecSig : Bytes :=
  SigV4Spec.signature shaId hmacMsg b!"secret" b!"20130524T000000Z" ⟨b!"20130524", b!"r", b!"s3"⟩ edgeSpecRequest

def edgeAuthValue : Bytes :=
  b!"AWS4-HMAC-SHA256 Credential=AK/20130524/r/s3/aws4_request,SignedHeaders=host;x-amz-content-sha256;x-amz-date,Signature=" ++
    edgeSpecSig

def ctxEdge : Ctx :=
  { http2 := false, authority := none, method := b!"GET", path := b!"/bkt/k", qs := [], hs := edgeHeaders edgeAuthValue,
    body := [], bodyOnce := true, contentLength := none, decodedContentLength := none }

/-- the edge blanks do not reach the canonical request: the specified signature is that of the request without them -/
theorem edge_blank_spec_signature_unchanged :
    edgeSpecSig = SigV4Spec.signature shaId hmacMsg b!"secret" b!"20130524T000000Z" ⟨b!"20130524", b!"r", b!"s3"⟩
      { edgeSpecRequest with
        headers := [(b!"host", b!"h"), (b!"x-amz-content-sha256", b!"UNSIGNED-PAYLOAD"), (b!"x-amz-date", b!"20130524T000000Z")] } := by
  decide +kernel

/-- the request signed as the specification says is ACCEPTED by the model of the repaired code
    (before d453cd3: `.err .XAmzContentSHA256Mismatch`, and `.err .InvalidRequest` with the blanks around `x-amz-date` alone) -/
theorem spec_signed_edge_blank_amz_headers_accepted :
    v4CheckHeaderAuth shaId hmacMsg (some look0) ctxEdge = .accept b!"AK" b!"r" b!"s3" := by decide +kernel

/-- …and so does the executable reference verifier written from the AWS documents (it always trimmed) -/
theorem spec_verifier_accepts_edge_blank_amz_headers :
    SigV4Spec.verifyHeaderAuth shaId hmacMsg look0
      { http2 := false, authority := none, method := b!"GET", rawPath := b!"/bkt/k", rawQuery := none,
        headers := edgeHeaders edgeAuthValue, body := [], form := [], isForm := false } edgeAuthValue =
      .accept b!"AK" b!"r" b!"s3" := by decide +kernel

/-! ### repaired (4d2a913): former class `sigv4-get-head-body`

`v4_check_header_auth` no longer forces the payload line of a GET / HEAD request to the empty-string digest: the line
follows `x-amz-content-sha256` and the body as for every other method. Regression facts on the shape of the corpus
witness (`corpus/sigv4e2e.txt`, `w-sigv4-get-head-body`): a GET request with the body `hello` that declares and signs the
digest of that body. The stand-in hash maps the empty string to the constant, the body to a 64-digit value and leaves the
(long) canonical request alone, so that signatures still tell texts apart. -/

def helloDigest : Bytes := b!"0123456789abcdef0123456789abcdef0123456789abcdef0123456789abcdef"

def shaT : Bytes → Bytes := fun m => if m = [] then emptySha256 else if m.length ≤ 16 then helloDigest else m

def getBodyHeaders (auth declared : Bytes) : List (Bytes × Bytes) :=
  [(b!"authorization", auth), (b!"host", b!"h"), (b!"x-amz-content-sha256", declared), (b!"x-amz-date", b!"20130524T000000Z")]

/-- the request as the specification sees it: the payload line is the declared digest -/
def getBodySpecRequest (method declared : Bytes) : SigV4Spec.Request :=
  { method, path := b!"/bkt/k", query := [], headers := getBodyHeaders [] declared, signedHeaders := edgeSigned,
    payload := declared }

def getBodySpecSig (method declared : Bytes) : Bytes :=
  SigV4Spec.signature shaT hmacMsg b!"secret" b!"20130524T000000Z" ⟨b!"20130524", b!"r", b!"s3"⟩
    (getBodySpecRequest method declared)

def getBodyAuthValue (method declared : Bytes) : Bytes :=
  b!"AWS4-HMAC-SHA256 Credential=AK/20130524/r/s3/aws4_request,SignedHeaders=host;x-amz-content-sha256;x-amz-date,Signature=" ++
    getBodySpecSig method declared

def ctxGetBody (method declared : Bytes) : Ctx :=
  { http2 := false, authority := none, method, path := b!"/bkt/k", qs := [],
    hs := getBodyHeaders (getBodyAuthValue method declared) declared,
    body := b!"hello", bodyOnce := true, contentLength := some 5, decodedContentLength := none }

/-- a GET request with a body, signed as the specification says (payload line = the digest of the body it declares), is
    ACCEPTED by the model of the repaired code (before 4d2a913: `.err .SignatureDoesNotMatch`, the empty-string digest was
    signed) -/
theorem spec_signed_get_with_body_accepted :
    v4CheckHeaderAuth shaT hmacMsg (some look0) (ctxGetBody b!"GET" helloDigest) = .accept b!"AK" b!"r" b!"s3" := by
  decide +kernel

/-- likewise HEAD -/
theorem spec_signed_head_with_body_accepted :
    v4CheckHeaderAuth shaT hmacMsg (some look0) (ctxGetBody b!"HEAD" helloDigest) = .accept b!"AK" b!"r" b!"s3" := by
  decide +kernel

/-- …as the executable reference verifier written from the AWS documents always did -/
theorem spec_verifier_accepts_get_with_body :
    SigV4Spec.verifyHeaderAuth shaT hmacMsg look0
      { http2 := false, authority := none, method := b!"GET", rawPath := b!"/bkt/k", rawQuery := none,
        headers := getBodyHeaders (getBodyAuthValue b!"GET" helloDigest) helloDigest, body := b!"hello", form := [],
        isForm := false } (getBodyAuthValue b!"GET" helloDigest) = .accept b!"AK" b!"r" b!"s3" := by decide +kernel

/-- the other face of the former defect: a GET request that declares and signs the EMPTY-string digest but carries a body
    was accepted (the body was outside the signature); now the digest of what arrives is signed and the request is
    refused, as the reference verifier refuses it -/
theorem get_body_outside_signature_refused :
    v4CheckHeaderAuth shaT hmacMsg (some look0) (ctxGetBody b!"GET" emptySha256) = .err .SignatureDoesNotMatch ∧
    SigV4Spec.verifyHeaderAuth shaT hmacMsg look0
      { http2 := false, authority := none, method := b!"GET", rawPath := b!"/bkt/k", rawQuery := none,
        headers := getBodyHeaders (getBodyAuthValue b!"GET" emptySha256) emptySha256, body := b!"hello", form := [],
        isForm := false } (getBodyAuthValue b!"GET" emptySha256) =
      .reject "x-amz-content-sha256 differs from the body digest" := by decide +kernel

/-- the hypotheses of `C05_verdict_iff_declared_partial` hold on the witness shape -/
theorem get_with_body_in_domain :
    shaT [] = emptySha256 ∧ wfHeaderAuth (ctxGetBody b!"GET" helloDigest) = true ∧
    SpecPayloadLine shaT (ctxGetBody b!"GET" helloDigest) helloDigest :=
  ⟨by decide, by decide +kernel, ⟨helloDigest, by decide +kernel, by decide, Or.inr (Or.inr (by decide))⟩⟩

/-! ### presigned URLs -/

/-- position-sensitive 32-byte "MAC" of the message alone: `parsePresigned` demands 64 lower-case hex digits as
    `X-Amz-Signature`, so `hmacMsg` (whose output is as long as the message) cannot stand in here -/
def hmacSum : Bytes → Bytes → Bytes := fun _ m =>
  List.replicate 31 0 ++ [UInt8.ofNat (m.foldl (fun a b => (a * 31 + b.toNat) % 251) 7)]

def preQs (signed sig : Bytes) : List (Bytes × Bytes) :=
  [(b!"X-Amz-Algorithm", b!"AWS4-HMAC-SHA256"), (b!"X-Amz-Credential", b!"AK/20130524/r/s3/aws4_request"),
   (b!"X-Amz-Date", b!"20130524T000000Z"), (b!"X-Amz-Expires", b!"60"), (b!"X-Amz-Signature", sig),
   (b!"X-Amz-SignedHeaders", signed)]

def ctxPreWith (signed sig : Bytes) : Ctx :=
  { http2 := false, authority := none, method := b!"GET", path := b!"/bkt/k", qs := preQs signed sig,
    hs := [(b!"host", b!"h")], body := [], bodyOnce := true, contentLength := none, decodedContentLength := none }

def prePresigned (signedList : List Bytes) (sig : Bytes) : Presigned :=
  ⟨b!"AWS4-HMAC-SHA256", ⟨b!"AK", b!"20130524", b!"r", b!"s3"⟩, ⟨2013, 5, 24, 0, 0, 0⟩, 60, signedList, sig⟩

/-- repaired (d4ba65c), former class `sigv4-absent-signed-header` of `sigv4pre`: a URL listing a header the request
    does not carry is refused before any signature is computed (here at 2013-05-24T00:00:10Z) -/
theorem presigned_absent_header_refused :
    v4CheckPresignedUrl shaId hmacSum (some look0) (1369353610 * 1000000000)
      (ctxPreWith b!"host;x-not-there" b!"0000000000000000000000000000000000000000000000000000000000000000") =
      .err .InvalidRequest := by decide +kernel

/-! open: `sigv4-dup-query-unsorted` on the presigned path — the one remaining obstacle to the full statement. A URL
    with `prefix=b&prefix=a`, signed as the specification says, is refused. -/

def dupPreQs (sig : Bytes) : List (Bytes × Bytes) := preQs b!"host" sig ++ [(b!"prefix", b!"b"), (b!"prefix", b!"a")]

def ctxPreDup (sig : Bytes) : Ctx := { ctxPreWith b!"host" sig with qs := dupPreQs sig }

/-- the specified signature (the signature parameter is not part of the signed text) -/
def dupPreSig : Bytes :=
  SigV4Spec.signature shaId hmacSum b!"secret" b!"20130524T000000Z" ⟨b!"20130524", b!"r", b!"s3"⟩
    (SigV4Spec.presignedRequest b!"GET" b!"/bkt/k" (dupPreQs []) [(b!"host", b!"h")] [b!"host"])

theorem presigned_spec_signed_dup_query_refused :
    v4CheckPresignedUrl shaId hmacSum (some look0) (1369353610 * 1000000000) (ctxPreDup dupPreSig) =
      .err .SignatureDoesNotMatch := by decide +kernel

theorem C06_presigned_iff_full_false : ¬ S3V.C06.C06_presigned_iff_full := by
  intro h
  have hraw : orderedHeaders (ctxPreDup dupPreSig).hs = some (ctxPreDup dupPreSig).hs := by decide
  have hchecks : PresignedChecks look0 (ctxPreDup dupPreSig) (prePresigned [b!"host"] dupPreSig) b!"secret" 1369353600 :=
    { parsed := by decide +kernel
      algorithm := rfl
      scopeDate := by decide
      sha := ⟨none, by decide⟩
      time := by decide
      key := by decide
      present := by decide +kernel }
  have hsig : (prePresigned [b!"host"] dupPreSig).signature =
      SigV4Spec.signature shaId hmacSum b!"secret" (prePresigned [b!"host"] dupPreSig).amzDate.fmtIso8601
        ⟨(prePresigned [b!"host"] dupPreSig).credential.date, b!"r", b!"s3"⟩
        (SigV4Spec.presignedRequest (ctxPreDup dupPreSig).method (ctxPreDup dupPreSig).path (ctxPreDup dupPreSig).qs
          (effectiveRaw (ctxPreDup dupPreSig).http2 (ctxPreDup dupPreSig).authority (ctxPreDup dupPreSig).hs)
          (prePresigned [b!"host"] dupPreSig).signedHeaders) := by decide +kernel
  have hacc := (h shaId hmacSum look0 (1369353610 * 1000000000) (ctxPreDup dupPreSig) (ctxPreDup dupPreSig).hs
    b!"AK" b!"r" b!"s3" hraw).mpr
    ⟨prePresigned [b!"host"] dupPreSig, b!"secret", 1369353600, hchecks, rfl, rfl, rfl, by decide, hsig⟩
  rw [presigned_spec_signed_dup_query_refused] at hacc
  cases hacc

/-- repaired (4011296), former class `sigv4-credential-date-ignored` of `sigv4pre` -/
theorem presigned_other_scope_day_refused :
    v4CheckPresignedUrl sha0 hmac0 (some look0) (1369440010 * 1000000000)
      { ctxPreWith b!"host" b!"0000000000000000000000000000000000000000000000000000000000000000" with
        qs := [(b!"X-Amz-Algorithm", b!"AWS4-HMAC-SHA256"), (b!"X-Amz-Credential", b!"AK/20130524/r/s3/aws4_request"),
               (b!"X-Amz-Date", b!"20130525T000000Z"), (b!"X-Amz-Expires", b!"60"),
               (b!"X-Amz-Signature", b!"0000000000000000000000000000000000000000000000000000000000000000"),
               (b!"X-Amz-SignedHeaders", b!"host")] } = .err .AuthorizationQueryParametersError := by decide +kernel

/-! ### POST form -/

def formOdd : List (Bytes × Bytes) :=
  multipartFields [(b!"key", b!"k"), (b!"Policy", b!"e30="), (b!"x-amz-algorithm", b!"AWS4-HMAC-SHA256"),
    (b!"x-amz-credential", b!"AK/20130524/r/s3/aws4_request"), (b!"x-amz-date", b!"20130525T000000Z"),
    (b!"x-amz-signature", b!"")]

/-- repaired (4011296), former class `post-credential-date-ignored` -/
theorem post_other_scope_day_refused :
    v4CheckPostSignature hmac0 (some look0) formOdd = .err .InvalidRequest := by decide +kernel

end S3V.Findings.C05
