import S3V.Props.C09
/-!
# C09 — kernel-checked counterexample to full prefix stability of `try_parse`

`C09d_try_parse_prefix_stable_full` (every definitive answer of `try_parse` is kept on every longer
buffer) is false of the current code. Witness (boundary `b`):

    p = "--b\r\nContent-Disposition: form-data; name=\"a\"\r\n\r\n\xff\r\n--b"      q = p ++ "x\r\n"

On `p`, `CrlfLines::split_to` takes the unterminated trailing `--b` for the delimiter line (it uses
`next_line`, which returns a trailing piece without CRLF as a line), cuts out the value `\xff`, and
`try_parse` answers `InvalidFormat` (not UTF-8). On `q` the same line reads `--bx`, is not the
delimiter, and `try_parse` asks for more data.

Consequence for the real code (replayed by corpus lines `w-bare-delim-nonutf8-split` / `-joined`): with a
transport error after `q`, the framing `[p, "x\r\n", !]` ends in `MultipartError::InvalidFormat`, the
framing `[q, !]` in `MultipartError::Underlying`. Both are mapped to the same S3 error
(`MalformedPOSTRequest`, `ops/signature.rs:144`), so the request outcome C09 talks about does not differ;
this is why it is not listed as a finding. `C09d_try_parse_invalid_never_parsed` is what holds instead,
and it suffices for `C09d_multipart_framing_independent`.
-/
namespace S3V.C09
open S3V S3V.Multipart

def cexP : Bytes := [45, 45, 98, 13, 10, 67, 111, 110, 116, 101, 110, 116, 45, 68, 105, 115, 112, 111, 115, 105, 116, 105, 111, 110, 58, 32, 102, 111, 114, 109, 45, 100, 97, 116, 97, 59, 32, 110, 97, 109, 101, 61, 34, 97, 34, 13, 10, 13, 10, 255, 13, 10, 45, 45, 98]
def cexQ : Bytes := cexP ++ [120, 13, 10]

theorem cex_p : tryParse [98] cexP = .invalid := by decide +kernel
theorem cex_q : tryParse [98] cexQ = .needMore := by decide +kernel

/-- the full statement is false -/
theorem C09d_try_parse_prefix_stable_counterexample : ¬ C09d_try_parse_prefix_stable_full := by
  intro h
  have := h [98] cexP cexQ (by rw [cex_p]; rfl) ⟨_, rfl⟩
  rw [cex_p, cex_q] at this
  cases this

/-- the witness lies in the region excluded by `C09d_try_parse_prefix_stable_partial` -/
example : endsInBareDelimiter [98] cexP = true := by decide +kernel

/-- the same two buffers as frame lists with a transport error at the end: the model's exact error kind
    differs (`invalidFormat` vs `underlying`), the observable outcome does not -/
theorem cex_runs :
    (run [98] [some cexP, some [120, 13, 10], none]).terminal = .invalidFormat ∧
    (run [98] [some cexQ, none]).terminal = .underlying ∧
    observe (run [98] [some cexP, some [120, 13, 10], none]) = observe (run [98] [some cexQ, none]) := by
  decide +kernel

end S3V.C09
