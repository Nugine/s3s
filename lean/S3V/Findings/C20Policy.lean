import S3V.Props.C20Policy
/-!
# C20, policy documents: the full round-trip statement is false of the model (and of the code)

The counterexample is a concrete value; the same input is a witness in `corpus/policy.txt` and
reproduces on the real code (`known_findings.d/policy.json`). The second half of the file holds the
regression facts of the repaired findings (the full refusal statement, false until the last of them, is
proved: `C20_policy_outside_grammar_refused`).
-/
namespace S3V.C20
open S3V S3V.Policy S3V.PolicySpec

/-- `Action: One("*")` is written `"Action":"*"` and read back as `Action: Wildcard` -/
theorem C20_policy_one_star_collapses :
    Ex.policyOneStar.mapsWf ∧ fromJson? (toJson Ex.policyOneStar) = some Ex.policyOneStarBack ∧
    Ex.policyOneStarBack ≠ Ex.policyOneStar := by
  have hw : Ex.policyOneStar.mapsWf := by
    intro s hs
    simp only [Ex.policyOneStar, OneOrMore.toList, List.mem_singleton] at hs
    subst hs
    exact And.intro (fun r hr => nomatch hr) (fun c hc => nomatch hc)
  -- `Ex.policyOneStarBack` is `Ex.policyOneStar.norm`
  exact ⟨hw, fromJson?_toJson _ hw, by decide⟩

/-- the round trip does not hold for every value -/
theorem C20_policy_roundtrip_full_false : ¬ C20_policy_roundtrip_full := by
  intro h
  obtain ⟨hw, hback, hne⟩ := C20_policy_one_star_collapses
  have := (fromJson_ok_iff _ _).mp (h Ex.policyOneStar hw)
  rw [hback] at this
  exact hne (Option.some.inj this)

/-! ## regression facts: repaired findings

F-policy-1 (`policy-conflicting-rule-members-accepted`), F-policy-2
(`policy-malformed-principal-dropped`), F-policy-4 (`policy-array-form-accepted`) and F-policy-3
(`policy-enum-object-form-accepted`): the former witnesses are outside the grammar and are refused.
Before the repairs the first two and `"Effect": {"Allow": null}` were read as `Ex.policy2 none`, the
array form as `Ex.policy2 (some .v2012_10_17)`. -/

/-- `Action` next to `NotAction` (either order), the same block twice, `Principal` next to `NotPrincipal` -/
theorem C20_policy_conflicting_members_refused :
    ∀ j ∈ [Ex.docBothActions, Ex.docNotActionThenAction, Ex.docResourceTwice, Ex.docBothPrincipals],
      violation true j = some .conflictingMembers ∧ fromJson? j = none := by
  decide

/-- `"Principal": 5`, a string other than `"*"`, `null`: an error of the statement, not "no principal" -/
theorem C20_policy_malformed_principal_refused :
    ∀ j ∈ [Ex.docNumberPrincipal, Ex.docStringPrincipal, Ex.docNullPrincipal],
      violation true j = some .principalShape ∧ fromJson? j = none := by
  decide

/-- the policy as a three-element array `[version, id, statement]` (statement single or a list), and
    arrays of two and four elements: not an object, refused -/
theorem C20_policy_array_form_refused :
    ∀ j ∈ [Ex.docArrayForm, Ex.docArrayFormList, Ex.docArrayFormShort, Ex.docArrayFormLong],
      violation true j = some .arrayForm ∧ headMust j = false ∧ fromJson? j = none := by
  decide

/-- `"Effect": {"Allow": null}`, `"Version": {"2012-10-17": null}`, `{"Deny": null}` in the second
    statement of a list, both members in object form: a string is wanted, refused -/
theorem C20_policy_enum_object_form_witnesses_refused :
    ∀ j ∈ [Ex.docEffectObjectForm, Ex.docVersionObjectForm, Ex.docEffectObjectFormInList, Ex.docBothObjectForms],
      violation true j = some .enumObjectForm ∧ fromJson? j = none := by
  decide

/-- the refusal clause as one proposition, false of the code until the four repairs above -/
theorem C20_policy_outside_grammar_refused_full_holds : C20_policy_outside_grammar_refused_full :=
  C20_policy_outside_grammar_refused

end S3V.C20
