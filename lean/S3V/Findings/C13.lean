import S3V.Thm.XmlMeaning
import S3V.Spec.Xml
import S3V.Gen.XmlDe
import S3V.Props.C13
/-!
# C13 — kernel-checked witnesses of the findings, each repaired by now: regression facts, obligations of the C13 check

Each theorem evaluates the *model* (which the correspondence run ties to the real code on the same witness lines,
see `corpus/xml.txt`) and the *specification* on one concrete document.
-/
namespace S3V.C13.Findings
open S3V S3V.Xml S3V.XmlSpec S3V.XmlGen

def X0 : Ext := { tsParse := fun _ _ => none }

def key : Bytes := [75, 101, 121]

/-- the string a decoding run produced (values have no decidable equality of their own) -/
def strOf : Except DeErr Val → Option Bytes
  | .ok (.str b) => some b
  | _ => none

/-- `<Key><![CDATA[abc]]></Key>` -/
def docCdata : Bytes :=
  [60, 75, 101, 121, 62, 60, 33, 91, 67, 68, 65, 84, 65, 91, 97, 98, 99, 93, 93, 62, 60, 47, 75, 101, 121, 62]

/-- `<Key>a<!-- c -->b</Key>` -/
def docComment : Bytes :=
  [60, 75, 101, 121, 62, 97, 60, 33, 45, 45, 32, 99, 32, 45, 45, 62, 98, 60, 47, 75, 101, 121, 62]

/-- F-xml-1 (`xml-cdata-dropped`, FIXED by c575458): the tokeniser sees the CDATA section … -/
theorem cdata_tokens : tokenize docCdata = [.start key [], .cdata [97, 98, 99], .stop key] := by decide +kernel

/-- … it denotes `abc` … -/
theorem cdata_meaning : charsMeaning [.cdata [97, 98, 99]] = some [97, 98, 99] := by decide +kernel

/-- … and since the repair the document is accepted with `abc` as the value of `Key`
(before: the empty string; `Deserializer::read_event` skipped `Event::CData`) -/
theorem cdata_kept :
    strOf (decodeDoc X0 (.named key) .str (deEvents (tokenize docCdata))) = some [97, 98, 99] := by decide +kernel

/-- the independent tree-level spec reads `abc` from the same bytes -/
theorem cdata_spec :
    (match XmlSpec.parse docCdata with
     | .ok (.elem n _ [.chars s]) => n == key && s == [97, 98, 99]
     | _ => false) = true := by decide +kernel

/-- F-xml-2 (`xml-comment-splits-text`, FIXED by c575458): `a<!-- c -->b` is the string `ab` … -/
theorem comment_meaning : charsMeaning [.text [97], .comment, .text [98]] = some [97, 98] := by decide +kernel

theorem comment_tokens : tokenize docComment = [.start key [], .text [97], .comment, .text [98], .stop key] := by
  decide +kernel

/-- … and is accepted as `ab` (before: `a`; `Deserializer::text` took the first text event only) -/
theorem comment_joined :
    strOf (decodeDoc X0 (.named key) .str (deEvents (tokenize docComment))) = some [97, 98] := by decide +kernel

/-! F-xml-3 (`xml-xsi-type`, FIXED by 680006e): `Grantee$Type` is the attribute `xsi:type` of the `Grantee` start tag
(Smithy `xmlAttribute`), and the members that hold a `Grantee` declare `xmlns:xsi`. Until the repair s3s read and wrote
it as a child element `<xsi:type>`. -/

/-- the harness round trip of a type that is only ever nested, in the model: decode the document under the type's own
name at the deserialiser schema extracted from the code, re-encode at the extracted serialiser schema, write -/
def roundtrip (t : Ty) (doc : Bytes) : Option (Except DeErr Bytes) :=
  match deSchema t, serSchema t with
  | some sd, some ss =>
    some (match decodeDoc X0 (.named t.selfTag) sd (deEvents (tokenize doc)) with
      | .ok v => .ok (write (encodeDoc (.named t.selfTag none) ss v))
      | .error e => .error e)
  | _, _ => none

def isOkBytes (r : Option (Except DeErr Bytes)) (b : Bytes) : Bool :=
  match r with
  | some (.ok x) => x == b
  | _ => false

def isErr (r : Option (Except DeErr Bytes)) (e : DeErr) : Bool :=
  match r with
  | some (.error x) => x == e
  | _ => false

/-- the witness `w-xsi-sdk`, what an AWS SDK writes:
`<Grantee xmlns:xsi="http://www.w3.org/2001/XMLSchema-instance" xsi:type="CanonicalUser"><ID>abc</ID></Grantee>` -/
def docXsiSdk : Bytes :=
  [60, 71, 114, 97, 110, 116, 101, 101, 32, 120, 109, 108, 110, 115, 58, 120, 115, 105, 61, 34, 104, 116, 116, 112, 58, 47, 47, 119, 119, 119, 46, 119, 51, 46, 111, 114, 103, 47, 50, 48, 48, 49, 47, 88, 77, 76, 83, 99, 104, 101, 109, 97, 45, 105, 110, 115, 116, 97, 110, 99, 101, 34, 32, 120, 115, 105, 58, 116, 121, 112, 101, 61, 34, 67, 97, 110, 111, 110, 105, 99, 97, 108, 85, 115, 101, 114, 34, 62, 60, 73, 68, 62, 97, 98, 99, 60, 47, 73, 68, 62, 60, 47, 71, 114, 97, 110, 116, 101, 101, 62]

/-- the witness `w-xsi-s3s`, what s3s wrote until the repair:
`<Grantee><ID>abc</ID><xsi:type>CanonicalUser</xsi:type></Grantee>` -/
def docXsiChild : Bytes :=
  [60, 71, 114, 97, 110, 116, 101, 101, 62, 60, 73, 68, 62, 97, 98, 99, 60, 47, 73, 68, 62, 60, 120, 115, 105, 58, 116, 121, 112, 101, 62, 67, 97, 110, 111, 110, 105, 99, 97, 108, 85, 115, 101, 114, 60, 47, 120, 115, 105, 58, 116, 121, 112, 101, 62, 60, 47, 71, 114, 97, 110, 116, 101, 101, 62]

/-- since the repair the tables of `Grantee` are the Smithy shape itself, no difference listed (before: `xsi:type`
was a child element in both tables) … -/
theorem xsi_type_is_smithy :
    (match deDef .Grantee, serDef .Grantee, smithyDef .Grantee with
     | some d, some s, some e => defEqv d e && defEqv s e
     | _, _, _ => false) = true := by decide +kernel

/-- … the document of an SDK is accepted, and written back byte for byte: attribute and namespace declaration
(before: refused with `MissingField`) … -/
theorem xsi_sdk_document_accepted : isOkBytes (roundtrip .Grantee docXsiSdk) docXsiSdk = true := by decide +kernel

/-- … the independent reader takes the same document for a `Grantee` of the Smithy model … -/
theorem xsi_sdk_document_fits_smithy :
    (match XmlSpec.parse docXsiSdk with
     | .ok node =>
       (XmlSpec.specValue { ts := fun _ _ => none } XmlSpec.judgeDef smithyDepth (.named t_Grantee) .Grantee node).toBool
     | _ => false) = true := by decide +kernel

/-- … the child-element form is refused: `xsi:type` is no element of `Grantee` (before: the only form accepted) … -/
theorem xsi_child_element_refused : isErr (roundtrip .Grantee docXsiChild) .unexpectedTagName = true := by decide +kernel

/-- … the attribute is required: `<Grantee><ID>a</ID></Grantee>` (the witness `w-missing`) … -/
theorem xsi_attribute_required :
    isErr (roundtrip .Grantee [60, 71, 114, 97, 110, 116, 101, 101, 62, 60, 73, 68, 62, 97, 60, 47, 73, 68, 62, 60, 47, 71, 114, 97, 110, 116, 101, 101, 62]) .missingField = true := by
  decide +kernel

/-- … the attribute is found wherever it stands, with either quote and white space around `=`, its value is
normalised (XML 1.0 §3.3.3: a literal tab and a literal CR LF are one space each, `&#10;` stays a LF) and written
back so that it survives (`&#10;`, `&quot;`):
`<Grantee xsi:type = 'a TAB b CR LF c&#10;d&quot;' >` comes back as `xsi:type="a b c&#10;d&quot;"` … -/
theorem xsi_attribute_value_normalised :
    isOkBytes (roundtrip .Grantee
      [60, 71, 114, 97, 110, 116, 101, 101, 32, 120, 115, 105, 58, 116, 121, 112, 101, 32, 61, 32, 39, 97, 9, 98, 13, 10, 99, 38, 35, 49, 48, 59, 100, 38, 113, 117, 111, 116, 59, 39, 32, 62, 60, 73, 68, 62, 97, 98, 99, 60, 47, 73, 68, 62, 60, 47, 71, 114, 97, 110, 116, 101, 101, 62])
      [60, 71, 114, 97, 110, 116, 101, 101, 32, 120, 109, 108, 110, 115, 58, 120, 115, 105, 61, 34, 104, 116, 116, 112, 58, 47, 47, 119, 119, 119, 46, 119, 51, 46, 111, 114, 103, 47, 50, 48, 48, 49, 47, 88, 77, 76, 83, 99, 104, 101, 109, 97, 45, 105, 110, 115, 116, 97, 110, 99, 101, 34, 32, 120, 115, 105, 58, 116, 121, 112, 101, 61, 34, 97, 32, 98, 32, 99, 38, 35, 49, 48, 59, 100, 38, 113, 117, 111, 116, 59, 34, 62, 60, 73, 68, 62, 97, 98, 99, 60, 47, 73, 68, 62, 60, 47, 71, 114, 97, 110, 116, 101, 101, 62] = true := by
  decide +kernel

/-- … and malformed attributes in front of it are an error of the document: `<Grantee a xsi:type="Group">` -/
theorem xsi_malformed_attributes_refused :
    isErr (roundtrip .Grantee [60, 71, 114, 97, 110, 116, 101, 101, 32, 97, 32, 120, 115, 105, 58, 116, 121, 112, 101, 61, 34, 71, 114, 111, 117, 112, 34, 62, 60, 73, 68, 62, 97, 98, 99, 60, 47, 73, 68, 62, 60, 47, 71, 114, 97, 110, 116, 101, 101, 62]) .invalidXml = true := by
  decide +kernel

/-- F-xml-4 (`xml-cr-not-escaped`, FIXED by 7fbc5bc): quick-xml's `escape` alone leaves a CR literal … -/
theorem cr_escape_raw : escape [97, 13, 98] = [97, 13, 98] := by decide +kernel

/-- … which an XML reader normalises to `a LF b` (XML 1.0 §2.11) … -/
theorem cr_read_as_lf : (match XmlSpec.charData [97, 13, 98] with | .ok s => s == [97, 10, 98] | _ => false) = true := by
  decide +kernel

/-- … since the fix the string `a CR b` is written as `a&#13;b` … -/
theorem cr_written_as_reference :
    write (encode .str (.str [97, 13, 98])) = [97, 38, 35, 49, 51, 59, 98] := by decide +kernel

/-- … which an XML reader reads as `a CR b` -/
theorem cr_reference_read_back :
    (match XmlSpec.charData [97, 38, 35, 49, 51, 59, 98] with | .ok s => s == [97, 13, 98] | _ => false) = true := by
  decide +kernel

/-- `<Key>a CR LF b</Key>` (the witness `w-eol`, inside `<Tag>` there) -/
def docEol : Bytes := [60, 75, 101, 121, 62, 97, 13, 10, 98, 60, 47, 75, 101, 121, 62]

/-- F-xml-9 (`xml-eol-not-normalised`, FIXED by d365e05): a literal CR LF in character data denotes one LF
(XML 1.0 §2.11) … -/
theorem eol_meaning : (match XmlSpec.charData [97, 13, 10, 98] with | .ok s => s == [97, 10, 98] | _ => false) = true := by
  decide +kernel

/-- … the string parser alone still keeps what it is given (`a CR LF b`; before the repair that was the raw text) … -/
theorem eol_decodeStr_verbatim : (match decodeStr [97, 13, 10, 98] with | .ok s => s == [97, 13, 10, 98] | _ => false) = true := by
  decide +kernel

/-- … since the repair `Deserializer::text` normalises the raw text first: the document is read as `a LF b`
(before: `a CR LF b`) … -/
theorem eol_normalised :
    strOf (decodeDoc X0 (.named key) .str (deEvents (tokenize docEol))) = some [97, 10, 98] := by decide +kernel

/-- … a lone CR is a line end too, also at the end of a piece in front of markup and inside a CDATA section:
`<Key>a CR<!-- c -->LF b<![CDATA[CR LF CR]]></Key>` is `a LF LF b LF LF` … -/
theorem eol_pieces :
    strOf (decodeDoc X0 (.named key) .str (deEvents (tokenize
      ([60, 75, 101, 121, 62, 97, 13] ++ [60, 33, 45, 45, 32, 99, 32, 45, 45, 62] ++ [10, 98] ++
       [60, 33, 91, 67, 68, 65, 84, 65, 91, 13, 10, 13, 93, 93, 62] ++ [60, 47, 75, 101, 121, 62]))))
      = some [97, 10, 10, 98, 10, 10] := by decide +kernel

/-- … while a CR written as a reference stays a CR: `<Key>a&#13;&#10;b</Key>` is `a CR LF b` … -/
theorem eol_reference_kept :
    strOf (decodeDoc X0 (.named key) .str (deEvents (tokenize
      ([60, 75, 101, 121, 62, 97, 38, 35, 49, 51, 59, 38, 35, 49, 48, 59, 98] ++ [60, 47, 75, 101, 121, 62]))))
      = some [97, 13, 10, 98] := by decide +kernel

/-- … so the string `a CR LF b` survives the round trip through bytes -/
theorem eol_roundtrip :
    strOf (decodeDoc X0 (.named key) .str (deEvents (tokenize
      (write (encodeDoc (.named key none) .str (.str [97, 13, 10, 98])))))) = some [97, 13, 10, 98] := by decide +kernel

/-- the independent tree-level spec reads `a LF b` from the witness -/
theorem eol_spec :
    (match XmlSpec.parse docEol with
     | .ok (.elem n _ [.chars s]) => n == key && s == [97, 10, 98]
     | _ => false) = true := by decide +kernel

/-- `junk<Key>k</Key>junk` -/
def docJunk : Bytes :=
  [106, 117, 110, 107, 60, 75, 101, 121, 62, 107, 60, 47, 75, 101, 121, 62, 106, 117, 110, 107]

/-- the error a decoding run ended with -/
def errOf : Except DeErr Val → Option DeErr
  | .error e => some e
  | _ => none

/-- F-xml-6 (`xml-text-outside-root`, FIXED by d51737b): `junk<Key>k</Key>junk` is refused with `InvalidContent`
(before: accepted as `k`; `expect_start` / `expect_eof` skipped every text event) … -/
theorem text_outside_root_refused :
    errOf (decodeDoc X0 (.named key) .str (deEvents (tokenize docJunk))) = some .invalidContent := by decide +kernel

/-- … the reader stops at the first piece of character data outside the root … -/
theorem text_outside_root_events : deEvents (tokenize docJunk) = [.bad .invalidContent] := by decide +kernel

/-- … text behind the root alone is refused as well: `<Key>k</Key>junk` … -/
theorem text_after_root_refused :
    errOf (decodeDoc X0 (.named key) .str (deEvents (tokenize (docJunk.drop 4)))) = some .invalidContent := by decide +kernel

/-- … and so is a CDATA section there: `<Key>k</Key><![CDATA[]]>` … -/
theorem cdata_after_root_refused :
    errOf (decodeDoc X0 (.named key) .str (deEvents (tokenize
      ((docJunk.drop 4).take 12 ++ [60, 33, 91, 67, 68, 65, 84, 65, 91, 93, 93, 62])))) = some .invalidContent := by decide +kernel

/-- … white space around the root is accepted as before: ` \n<Key>k</Key>\r\n\t` … -/
theorem whitespace_outside_root_accepted :
    strOf (decodeDoc X0 (.named key) .str (deEvents (tokenize
      ([32, 10] ++ (docJunk.drop 4).take 12 ++ [13, 10, 9])))) = some [107] := by decide +kernel

/-- … the specification: `junk<Key>k</Key>junk` is not well-formed -/
theorem text_outside_root_illformed :
    (match XmlSpec.parse docJunk with | .error (.illFormed _) => true | _ => false) = true := by decide +kernel

/-! F-xml-7 (`xml-ts-format-panic`, FIXED by b7ef08a): the timestamp codec is a parameter of this model (`Ext.tsParse`);
the regression facts — `9999-12-31T23:59:59-01:00` is refused by `Timestamp::parse`, and every accepted timestamp can
be written — are `C14_regression_year10000_*` in `Findings/C14.lean` and `C14_ts_parse_format_total` in `Props/C14.lean`. -/

/-! F-xml-5 (`xml-illformed-accepted`), a bundle: the judge names the clause of well-formedness an accepted document
breaks (`xml-illformed-accepted:<clause>`, entries F-xml-5a … F-xml-5k). -/

/-- `LocationConstraint` -/
def loc : Bytes := [76, 111, 99, 97, 116, 105, 111, 110, 67, 111, 110, 115, 116, 114, 97, 105, 110, 116]

/-- `<LocationConstraint/>` -/
def docLocEmpty : Bytes := [60] ++ loc ++ [47, 62]

/-- `<LocationConstraint>EU</LocationConstraint>` -/
def docLocEu : Bytes := [60] ++ loc ++ [62, 69, 85, 60, 47] ++ loc ++ [62]

/-- the value a decoding run of `GetBucketLocationOutput` produced: `some none` = no constraint -/
def locOf : Except DeErr Val → Option (Option Bytes)
  | .ok (.struct [.absent]) => some none
  | .ok (.struct [.one (.str b)]) => some (some b)
  | _ => none

/-- F-xml-5a (`xml-illformed-accepted:document-element`, FIXED by 7f2ce46): the empty document (the witness
`w-empty-location`) is refused by the hand-written `GetBucketLocationOutput` decoder with `UnexpectedEof` (before:
accepted as "no constraint"; the decoder looped over the top-level elements, of which there were none) … -/
theorem location_empty_document_refused :
    errOf (decodeDoc X0 (.location loc) .str (deEvents (tokenize []))) = some .unexpectedEof := by decide +kernel

/-- … so is a document of white space and a comment, `\n<!-- nothing -->` (`w-location-comment-only`) … -/
theorem location_comment_only_refused :
    errOf (decodeDoc X0 (.location loc) .str (deEvents (tokenize
      [10, 60, 33, 45, 45, 32, 110, 111, 116, 104, 105, 110, 103, 32, 45, 45, 62]))) = some .unexpectedEof := by decide +kernel

/-- … the specification: neither has a document element … -/
theorem location_empty_document_illformed :
    (match XmlSpec.parse [] with | .error (.illFormed _) => true | _ => false) = true := by decide +kernel

/-- … an empty constraint followed by a second element, `<LocationConstraint/><LocationConstraint>EU</LocationConstraint>`
(`w-location-empty-then-eu`), is refused with `UnexpectedStart` (before: accepted as `EU`; the empty constraint left
the variable `None`, so the duplicate guard let the second element through) … -/
theorem location_second_element_refused :
    errOf (decodeDoc X0 (.location loc) .str (deEvents (tokenize (docLocEmpty ++ docLocEu)))) = some .unexpectedStart := by
  decide +kernel

/-- … which is not well-formed: a document has one root element … -/
theorem location_second_element_illformed :
    (match XmlSpec.parse (docLocEmpty ++ docLocEu) with | .error (.illFormed _) => true | _ => false) = true := by
  decide +kernel

/-- … what AWS sends is accepted as before: the empty element for us-east-1 (no constraint), a constraint, white
space and the XML declaration around the element -/
theorem location_empty_element_accepted :
    locOf (decodeDoc X0 (.location loc) .str (deEvents (tokenize docLocEmpty))) = some none := by decide +kernel

theorem location_constraint_accepted :
    locOf (decodeDoc X0 (.location loc) .str (deEvents (tokenize (xmlDecl ++ [10] ++ docLocEu ++ [10]))))
      = some (some [69, 85]) := by decide +kernel

/-- `<Key><!-- a -- b -->k</Key>` (the witness `w-illformed-comment`, inside `<Tag>` there) -/
def docCommentDashes : Bytes :=
  [60, 75, 101, 121, 62] ++ [60, 33, 45, 45, 32, 97, 32, 45, 45, 32, 98, 32, 45, 45, 62] ++ [107, 60, 47, 75, 101, 121, 62]

/-- F-xml-5h (`xml-illformed-accepted:comment`, FIXED by 5bbd9e0): a comment that holds `--` is a reader error: the
document is refused with `InvalidXml` (before: accepted as `k`, the comment was skipped unseen) … -/
theorem comment_dashes_refused :
    errOf (decodeDoc X0 (.named key) .str (deEvents (tokenize docCommentDashes))) = some .invalidXml := by decide +kernel

/-- … the reader stops at the comment … -/
theorem comment_dashes_events : deEvents (tokenize docCommentDashes) = [.start key [], .bad .invalidXml] := by decide +kernel

/-- … so is a comment that ends with `-`: `<Key><!-- a --->k</Key>` … -/
theorem comment_trailing_dash_refused :
    errOf (decodeDoc X0 (.named key) .str (deEvents (tokenize
      ([60, 75, 101, 121, 62] ++ [60, 33, 45, 45, 32, 97, 32, 45, 45, 45, 62] ++ [107, 60, 47, 75, 101, 121, 62]))))
      = some .invalidXml := by decide +kernel

/-- … the specification: `--` inside a comment is not well-formed … -/
theorem comment_dashes_illformed :
    (match XmlSpec.parse docCommentDashes with | .error (.illFormed _) => true | _ => false) = true := by decide +kernel

/-- … single dashes are fine as before: `<Key><!-- a - b -->k</Key>` is `k` -/
theorem comment_single_dash_accepted :
    strOf (decodeDoc X0 (.named key) .str (deEvents (tokenize
      ([60, 75, 101, 121, 62] ++ [60, 33, 45, 45, 32, 97, 32, 45, 32, 98, 32, 45, 45, 62] ++ [107, 60, 47, 75, 101, 121, 62]))))
      = some [107] := by decide +kernel

/-- `<Key>a]]>b</Key>` (the witness `w-illformed-cdata-end`, inside `<Tag>` there) -/
def docCdataEnd : Bytes := [60, 75, 101, 121, 62, 97, 93, 93, 62, 98, 60, 47, 75, 101, 121, 62]

/-- F-xml-5g (`xml-illformed-accepted:cdata-end`, FIXED by 5946f21): character data that holds `]]>` is refused with
`InvalidContent` (before: accepted as `a]]>b`) … -/
theorem cdata_end_refused :
    errOf (decodeDoc X0 (.named key) .str (deEvents (tokenize docCdataEnd))) = some .invalidContent := by decide +kernel

/-- … also where the text is only skipped: `<Tag>]]><Key>k</Key></Tag>` (read as a `Key` under the root `Tag`) … -/
theorem cdata_end_skipped_refused :
    deEvents (tokenize ([60, 84, 97, 103, 62, 93, 93, 62] ++ [60, 75, 101, 121, 62, 107, 60, 47, 75, 101, 121, 62] ++
      [60, 47, 84, 97, 103, 62])) = [.start [84, 97, 103] [], .bad .invalidContent] := by decide +kernel

/-- … the specification: `]]>` is no character data … -/
theorem cdata_end_illformed :
    (match XmlSpec.parse docCdataEnd with | .error (.illFormed _) => true | _ => false) = true := by decide +kernel

/-- … written as `]]&gt;` — the way the serialiser writes it — the string `a]]>b` is read, and survives the round trip … -/
theorem cdata_end_escaped_accepted :
    strOf (decodeDoc X0 (.named key) .str (deEvents (tokenize
      (write (encodeDoc (.named key none) .str (.str [97, 93, 93, 62, 98])))))) = some [97, 93, 93, 62, 98] := by decide +kernel

/-- … and `]]>` still ends a CDATA section: `<Key><![CDATA[a]]]]><![CDATA[>b]]></Key>` is `a]]>b` -/
theorem cdata_end_in_sections_accepted :
    strOf (decodeDoc X0 (.named key) .str (deEvents (tokenize
      ([60, 75, 101, 121, 62] ++ [60, 33, 91, 67, 68, 65, 84, 65, 91, 97, 93, 93, 93, 93, 62] ++
       [60, 33, 91, 67, 68, 65, 84, 65, 91, 62, 98, 93, 93, 62] ++ [60, 47, 75, 101, 121, 62]))))
      = some [97, 93, 93, 62, 98] := by decide +kernel

/-- F-xml-5i (`xml-illformed-accepted:pi-target`, FIXED by 61061ab): a processing instruction without a target,
`<Key><??>k</Key>` (the witness `w-illformed-pi-target`, inside `<Tag>` there), is refused with `InvalidContent`
(before: accepted as `k`, the processing instruction was skipped unseen) … -/
theorem pi_no_target_refused :
    errOf (decodeDoc X0 (.named key) .str (deEvents (tokenize
      ([60, 75, 101, 121, 62] ++ [60, 63, 63, 62] ++ [107, 60, 47, 75, 101, 121, 62])))) = some .invalidContent := by decide +kernel

/-- … so is the reserved target in another case, `<Key><?XML?>k</Key>` (`w-illformed-pi-reserved`) … -/
theorem pi_reserved_target_refused :
    errOf (decodeDoc X0 (.named key) .str (deEvents (tokenize
      ([60, 75, 101, 121, 62] ++ [60, 63, 88, 77, 76, 63, 62] ++ [107, 60, 47, 75, 101, 121, 62])))) = some .invalidContent := by
  decide +kernel

/-- … and a target that is no name, `<Key><?1a b?>k</Key>` (`w-illformed-pi-nonname`) … -/
theorem pi_nonname_target_refused :
    errOf (decodeDoc X0 (.named key) .str (deEvents (tokenize
      ([60, 75, 101, 121, 62] ++ [60, 63, 49, 97, 32, 98, 63, 62] ++ [107, 60, 47, 75, 101, 121, 62])))) = some .invalidContent := by
  decide +kernel

/-- … the specification: none of the three is well-formed … -/
theorem pi_targets_illformed :
    ([[60, 63, 63, 62], [60, 63, 88, 77, 76, 63, 62], [60, 63, 49, 97, 32, 98, 63, 62]].all fun pi =>
      match XmlSpec.parse ([60, 75, 101, 121, 62] ++ pi ++ [107, 60, 47, 75, 101, 121, 62]) with
      | .error (.illFormed _) => true | _ => false) = true := by decide +kernel

/-- … a well-formed processing instruction is skipped as before, also inside character data:
`<Key>a<?xml-stylesheet href="x"?>b</Key>` is `ab` -/
theorem pi_wellformed_accepted :
    strOf (decodeDoc X0 (.named key) .str (deEvents (tokenize
      ([60, 75, 101, 121, 62, 97] ++ [60, 63, 120, 109, 108, 45, 115, 116, 121, 108, 101, 115, 104, 101, 101, 116, 32, 104, 114,
        101, 102, 61, 34, 120, 34, 63, 62] ++ [98, 60, 47, 75, 101, 121, 62])))) = some [97, 98] := by decide +kernel

/-- `<Key a=b>k</Key>` -/
def docAttr : Bytes := [60, 75, 101, 121, 32, 97, 61, 98, 62, 107, 60, 47, 75, 101, 121, 62]

/-- F-xml-5b (`xml-illformed-accepted:attribute-syntax`, FIXED by 2bbb69d): an unquoted attribute value,
`<Key a=b>k</Key>` (the witness `w-illformed-attr`, inside `<Tag>` there), is refused with `InvalidXml` (before:
accepted as `k`, the attributes of the start tag were never looked at) … -/
theorem attr_unquoted_refused :
    errOf (decodeDoc X0 (.named key) .str (deEvents (tokenize docAttr))) = some .invalidXml := by decide +kernel

/-- `<Key` attrs `>k</Key>` -/
def docAttrs (attrs : Bytes) : Bytes := [60, 75, 101, 121] ++ attrs ++ [62, 107, 60, 47, 75, 101, 121, 62]

/-- … so are an attribute without `=` (` a`), without value (` a=`), with a value that is not closed before the end
of the tag (` a="b`) and an attribute written twice (` a="1" a="2"`) … -/
theorem attr_syntax_refused :
    ([[32, 97], [32, 97, 61], [32, 97, 32, 98, 61, 34, 49, 34], [32, 97, 61, 34, 49, 34, 32, 97, 61, 34, 50, 34],
      [32, 97, 61, 34, 49, 34, 32, 98, 61, 39, 50, 39, 32, 97, 61, 39, 39]].all fun as =>
      errOf (decodeDoc X0 (.named key) .str (deEvents (tokenize (docAttrs as)))) == some .invalidXml) = true := by decide +kernel

/-- … also in an empty-element tag, `<Key a=b/>` (before: the empty string) … -/
theorem attr_unquoted_in_empty_tag_refused :
    errOf (decodeDoc X0 (.named key) .str (deEvents (tokenize [60, 75, 101, 121, 32, 97, 61, 98, 47, 62]))) = some .invalidXml := by
  decide +kernel

/-- … the specification: none of them is well-formed … -/
theorem illformed_is_illformed :
    (match XmlSpec.parse docAttr with | .error (.illFormed _) => true | _ => false) = true := by decide +kernel

theorem attr_syntax_illformed :
    ([[32, 97], [32, 97, 61], [32, 97, 32, 98, 61, 34, 49, 34], [32, 97, 61, 34, 49, 34, 32, 97, 61, 34, 50, 34],
      [32, 97, 61, 34, 49, 34, 32, 98, 61, 39, 50, 39, 32, 97, 61, 39, 39]].all fun as =>
      match XmlSpec.parse (docAttrs as) with | .error (.illFormed _) => true | _ => false) = true := by decide +kernel

/-- … well-formed attributes are skipped as before: `<Key a = 'x' b="y" >k</Key>` is `k` -/
theorem attr_wellformed_accepted :
    strOf (decodeDoc X0 (.named key) .str (deEvents (tokenize
      (docAttrs [32, 97, 32, 61, 32, 39, 120, 39, 32, 98, 61, 34, 121, 34, 32])))) = some [107] := by decide +kernel

end S3V.C13.Findings
