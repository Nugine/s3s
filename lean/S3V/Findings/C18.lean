import S3V.Props.C18
/-!
# C18 — kernel-checked histories: counterexamples to the unrestricted statement `C18_full`, and witnesses of repairs

Each theorem evaluates short histories on the model of the backend and on the abstract store. The `C18_counterexample_*`
theorems show that the answers differ (`Differs`; `C18_full_false` follows); the `C18_fixed_*` theorems show that they agree
(`Same`) on the witness history of a finding class that a repair of the Rust code closed. The same histories (with real MD5) are replayed on the real `s3s_fs::FileSystem` on every run of
`bin/check C18` (`corpus/fs.txt`, finding classes in `known_findings.d/fs.json`). Outside the pass/fail gate.
The hash functions are arbitrary (the statement quantifies over them); `H0` (from `S3V/Props/C18.lean`) keeps kernel
evaluation small.
-/
namespace S3V.C18
open S3V S3V.FsStore S3V.StoreSpec

def kB : Bytes := [98]
def kT : Bytes := [116]
def kTU : Bytes := [116, 47, 117]
def kDsE : Bytes := [100, 47, 47, 101]
def kDir : Bytes := [100, 47]
def mdV : Option Meta := some [([109], [118])]

/-- answers differ on this history -/
def Differs (ops : List Op) : Prop := (run H0 0 {} ops).2 ≠ (StoreSpec.run H0 {} ops).2

instance (ops : List Op) : Decidable (Differs ops) := by unfold Differs; infer_instance

theorem refutes {ops : List Op} (h : Differs ops) : ¬ C18_full := fun hf => h (hf H0 0 ops)

/-- fs:list-prefix-as-path (what is left of it since fe72881): leading slashes of the prefix are dropped -/
theorem C18_counterexample_list_prefix_leading_slash :
    Differs [.createBucket bka, .putObject bka kDE [1] none {} none, .listObjectsV2 bka (some [47, 100]) none none none] := by
  decide +kernel

/-- fs:directory-key -/
theorem C18_counterexample_directory_key :
    Differs [.createBucket bka, .putObject bka kDir [] none {} none] := by decide +kernel

/-- fs:key-normalised -/
theorem C18_counterexample_key_normalised :
    Differs [.createBucket bka, .putObject bka kDsE [1] none {} none, .getObject bka kDE none] := by decide +kernel

/-- fs:leftover-directory -/
theorem C18_counterexample_leftover_directory :
    Differs [.createBucket bka, .putObject bka kTU [1] none {} none, .deleteObject bka kTU,
      .putObject bka kT [2] none {} none] := by decide +kernel

/-- fs:long-key-internal-error (since c3dcb24 put_object refuses the key before anything is written: `KeyTooLongError`, and the
    object does not exist afterwards; the store accepts a key of 200 bytes) -/
theorem C18_counterexample_long_key :
    Differs [.createBucket bka, .putObject bka (List.replicate 200 76) [1] none {} none] ∧
    (run H0 0 {} [.createBucket bka, .putObject bka (List.replicate 200 76) [1] none {} none,
      .getObject bka (List.replicate 200 76) none, .listObjectsV2 bka none none none none]).2 =
      [.ok, .err .KeyTooLongError, .err .NoSuchKey, .listed [] 0 false []] := by decide +kernel

/-- the unrestricted statement is false of the model (hence, by the correspondence runs, of the backend) -/
theorem C18_full_false : ¬ C18_full := refutes C18_counterexample_key_normalised

/-! ## histories on which the model agrees with the store; the repairs of the Rust code they witness:

(1d0f501 put_object / create_multipart_upload require the bucket; b01fec8 put_object without metadata removes the old
metadata file; ca1e912 copy onto itself keeps the object; d6f1a3c head_object tells a missing key from a missing bucket;
24de822 delete_bucket refuses a bucket that holds objects; 20fee59 delete_object of a key that does not exist succeeds; cc244fc (and 20fee59 for delete_object) an object in a bucket
that does not exist is `NoSuchBucket`, not `NoSuchKey`; 0f31b61 delete_objects on a bucket that does not exist is `NoSuchBucket`; 42c2f29 head_object returns the ETag;
0096ef4 complete_multipart_upload validates the part list and the part files before it changes anything: a failed complete leaves the upload in place, a part that was never uploaded is `InvalidPart`;
4609ab3 operations on an upload that does not exist answer `NoSuchUpload`;
205d9a8 upload_part and upload_part_copy refuse a part number outside 1..10000;
18203b6 upload_part_copy refuses a copy source range that is not `bytes=first-last` inside the source;
47e9b00 complete_multipart_upload replaces the metadata and the checksum record of the object it replaces;
b29f222 complete_multipart_upload into a bucket that no longer exists is `NoSuchBucket` and does not recreate the bucket;
8faafe7 copy_object gives the destination the metadata and the checksum record of the source, or none;
c55c267 delete_objects reports every requested key as deleted and accepts a key named twice;
764f144 list_parts returns the parts in ascending part-number order;
41e1cf2 an upload exists only under the bucket and key it was created for: `NoSuchUpload` under any other;
dbb8684 complete_multipart_upload accepts any strictly ascending part numbers (gaps allowed);
0fcb858 complete_multipart_upload validates the part list with the store's codes in the store's order (`MalformedXML`, `InvalidPartOrder`, `InvalidPart`, `EntityTooSmall`);
b89afe2 ranged reads: covered for all ranges by `C18_get_refines_partial` and `C18_range_check`; the histories below only
check that the model does not fail (`C18_fixed_suffix_ranges`)) -/

/-- the error code of an answer -/
def tagOf : Resp → Option Err
  | .err e => some e
  | _ => none

/-- answers agree on this history -/
def Same (ops : List Op) : Prop := (run H0 0 {} ops).2 = (StoreSpec.run H0 {} ops).2

instance (ops : List Op) : Decidable (Same ops) := by unfold Same; infer_instance

/-- was fs:put-into-missing-bucket -/
theorem C18_fixed_put_into_missing_bucket : Same [.putObject bka kA [1] none {} none, .listBuckets] := by decide +kernel

/-- was fs:create-upload-not-validated -/
theorem C18_fixed_create_upload_not_validated :
    Same [.createMultipartUpload alice bka kA none, .createBucket bka, .createMultipartUpload alice bka [46, 46] none] := by
  decide +kernel

/-- was fs:stale-metadata-after-overwrite -/
theorem C18_fixed_stale_metadata_after_overwrite :
    Same [.createBucket bka, .putObject bka kA [1] mdV {} none, .putObject bka kA [2] none {} none,
      .getObject bka kA none] := by decide +kernel

/-- was fs:metadata-survives-delete -/
theorem C18_fixed_metadata_survives_delete :
    Same [.createBucket bka, .putObject bka kA [1] mdV {} none, .deleteObject bka kA,
      .putObject bka kA [2] none {} none, .getObject bka kA none] := by decide +kernel

/-- was fs:copy-onto-itself-destroys-object -/
theorem C18_fixed_copy_onto_itself :
    Same [.createBucket bka, .putObject bka kA [1, 2] mdV {} none, .copyObject bka kA bka kA,
      .getObject bka kA none] := by decide +kernel

/-- was fs:head-missing-key-code (the witness history of `corpus/fs.txt`): head_object of a missing key in an existing
    bucket is `NoSuchKey` on both sides, of a key in a missing bucket `NoSuchBucket` on both sides -/
theorem C18_fixed_head_missing_key_code :
    Same [.createBucket bka, .headObject bka kA, .headObject [98, 107, 98] kA] ∧
    (run H0 0 {} [.createBucket bka, .headObject bka kA, .headObject [98, 107, 98] kA]).2 =
      [.ok, .err .NoSuchKey, .err .NoSuchBucket] := by decide +kernel

/-- was fs:delete-nonempty-bucket (the witness history of `corpus/fs.txt`): a bucket that holds an object is refused with
    `BucketNotEmpty` on both sides and the object stays; once the object is deleted the bucket can be deleted — also when a
    directory is left behind by a nested key -/
theorem C18_fixed_delete_nonempty_bucket :
    Same [.createBucket bka, .putObject bka kA [1] none {} none, .deleteBucket bka, .getObject bka kA none,
      .deleteObject bka kA, .deleteBucket bka, .headBucket bka] ∧
    (run H0 0 {} [.createBucket bka, .putObject bka kA [1] none {} none, .deleteBucket bka, .getObject bka kA none,
      .deleteObject bka kA, .deleteBucket bka, .headBucket bka]).2.map tagOf =
      [none, none, some .BucketNotEmpty, none, none, none, some .NoSuchBucket] ∧
    Same [.createBucket bka, .putObject bka kTU [1] none {} none, .deleteBucket bka, .deleteObject bka kTU,
      .deleteBucket bka, .headBucket bka] := by decide +kernel

/-- was fs:delete-missing-key-error (the witness history of `corpus/fs.txt`): delete_object of a key that does not exist
    succeeds on both sides — before anything was written, twice in a row after a delete — and changes nothing; in a bucket
    that does not exist it is `NoSuchBucket` on both sides -/
theorem C18_fixed_delete_missing_key :
    Same [.createBucket bka, .deleteObject bka kA, .putObject bka kA [1] none {} none, .deleteObject bka kB,
      .getObject bka kA none, .deleteObject bka kA, .deleteObject bka kA, .deleteObject [98, 107, 98] kA] ∧
    (run H0 0 {} [.createBucket bka, .deleteObject bka kA, .putObject bka kA [1] none {} none, .deleteObject bka kB,
      .getObject bka kA none, .deleteObject bka kA, .deleteObject bka kA, .deleteObject [98, 107, 98] kA]).2.map tagOf =
      [none, none, none, none, none, none, none, some .NoSuchBucket] := by decide +kernel

/-- was fs:missing-bucket-reported-as-missing-key (the witness history of `corpus/fs.txt` first): get_object, delete_object,
    the source of copy_object and the source of upload_part_copy in a bucket that does not exist are `NoSuchBucket` on both
    sides; a missing key in an existing bucket stays `NoSuchKey` -/
theorem C18_fixed_missing_bucket_code :
    Same [.getObject bka kA none, .deleteObject bka kA, .createBucket bka, .copyObject [98, 107, 98] kA bka kB,
      .createMultipartUpload alice bka kA none, .uploadPartCopy alice bka kA (some 1) 1 [98, 107, 98] kB none,
      .getObject bka kA none, .copyObject bka kA bka kB, .uploadPartCopy alice bka kA (some 1) 1 bka kB none] ∧
    (run H0 0 {} [.getObject bka kA none, .deleteObject bka kA, .createBucket bka, .copyObject [98, 107, 98] kA bka kB,
      .createMultipartUpload alice bka kA none, .uploadPartCopy alice bka kA (some 1) 1 [98, 107, 98] kB none,
      .getObject bka kA none, .copyObject bka kA bka kB, .uploadPartCopy alice bka kA (some 1) 1 bka kB none]).2.map tagOf =
      [some .NoSuchBucket, some .NoSuchBucket, none, some .NoSuchBucket, none, some .NoSuchBucket,
       some .NoSuchKey, some .NoSuchKey, some .NoSuchKey] := by decide +kernel

/-- was fs:delete-objects-in-missing-bucket (the witness history of `corpus/fs.txt` first): delete_objects on a bucket that
    does not exist is `NoSuchBucket` on both sides — with one key, with none, with a repeated key — and `InvalidArgument`
    when a key is refused; on an existing bucket it still deletes -/
theorem C18_fixed_delete_objects_in_missing_bucket :
    Same [.deleteObjects bka [kA], .deleteObjects bka [], .deleteObjects bka [kA, kA], .deleteObjects bka [kA, [46, 46]],
      .createBucket bka, .putObject bka kA [1] none {} none, .deleteObjects bka [kA], .deleteObjects bka []] ∧
    (run H0 0 {} [.deleteObjects bka [kA], .deleteObjects bka [], .deleteObjects bka [kA, kA],
      .deleteObjects bka [kA, [46, 46]], .createBucket bka, .putObject bka kA [1] none {} none, .deleteObjects bka [kA],
      .deleteObjects bka []]).2.map tagOf =
      [some .NoSuchBucket, some .NoSuchBucket, some .NoSuchBucket, some .InvalidArgument, none, none, none, none] := by
  decide +kernel

/-- was fs:head-without-etag (the witness history of `corpus/fs.txt`): head_object answers with the ETag put_object and
    get_object report, on both sides -/
theorem C18_fixed_head_without_etag :
    Same [.createBucket bka, .putObject bka kA [1] mdV {} none, .headObject bka kA, .getObject bka kA none] ∧
    (run H0 0 {} [.createBucket bka, .putObject bka kA [1] mdV {} none, .headObject bka kA, .getObject bka kA none]).2 =
      [.ok, .put (some (etagOf H0 [1])) {}, .head 1 (some (etagOf H0 [1])) [([109], [118])],
       .get [1] 1 none (some (etagOf H0 [1])) [([109], [118])] {}] := by decide +kernel

/-- was fs:failed-complete-consumes-upload (the witness history of `corpus/fs.txt`, then the same upload completed): both
    refuse the complete whose first part is too small (`EntityTooSmall`), the upload is still there on both sides — another
    part can be added, the parts are listed, and the complete of the first part alone succeeds; then the upload is gone -/
theorem C18_fixed_failed_complete_keeps_upload :
    Same [.createBucket bka, .createMultipartUpload alice bka kA none, .uploadPart alice bka kA (some 1) 1 [1],
      .uploadPart alice bka kA (some 1) 2 [2], .completeMultipartUpload alice bka kA (some 1) (some [some 1, some 2]),
      .uploadPart alice bka kA (some 1) 3 [3], .listParts alice bka kA (some 1),
      .completeMultipartUpload alice bka kA (some 1) (some [some 1]), .getObject bka kA none] ∧
    (run H0 0 {} [.createBucket bka, .createMultipartUpload alice bka kA none, .uploadPart alice bka kA (some 1) 1 [1],
      .uploadPart alice bka kA (some 1) 2 [2], .completeMultipartUpload alice bka kA (some 1) (some [some 1, some 2]),
      .uploadPart alice bka kA (some 1) 3 [3], .listParts alice bka kA (some 1),
      .completeMultipartUpload alice bka kA (some 1) (some [some 1]), .getObject bka kA none]).2.map tagOf =
      [none, none, none, none, some .EntityTooSmall, none, none, none, none] := by decide +kernel

/-- was fs:complete-missing-part-internal-error (the witness history of `corpus/fs.txt`, then the part uploaded and the
    complete repeated): a complete naming a part that was never uploaded is `InvalidPart` on both sides and leaves the upload
    in place; once the part exists the same request succeeds -/
theorem C18_fixed_complete_missing_part :
    Same [.createBucket bka, .createMultipartUpload alice bka kA none,
      .completeMultipartUpload alice bka kA (some 1) (some [some 1]), .uploadPart alice bka kA (some 1) 1 [1],
      .completeMultipartUpload alice bka kA (some 1) (some [some 1]), .getObject bka kA none] ∧
    (run H0 0 {} [.createBucket bka, .createMultipartUpload alice bka kA none,
      .completeMultipartUpload alice bka kA (some 1) (some [some 1]), .uploadPart alice bka kA (some 1) 1 [1],
      .completeMultipartUpload alice bka kA (some 1) (some [some 1]), .getObject bka kA none]).2.map tagOf =
      [none, none, some .InvalidPart, none, none, none] := by decide +kernel

/-- was fs:unknown-upload-code and fs:list-parts-unknown-upload (the witness histories of `corpus/fs.txt` first): every
    operation on an upload id that was never issued, that is not a UUID at all, or whose upload has been completed or
    aborted, is `NoSuchUpload` on both sides — list_parts too, which answered an empty list —; an existing upload is still
    `AccessDenied` to other credentials -/
theorem C18_fixed_unknown_upload :
    Same [.createBucket bka, .uploadPart alice bka kA (some 1) 1 [1], .listParts alice bka kA (some 1),
      .putObject bka kB [2] none {} none,
      .uploadPartCopy alice bka kA (some 1) 1 bka kB none, .completeMultipartUpload alice bka kA (some 1) (some [some 1]),
      .abortMultipartUpload alice bka kA (some 1),
      .uploadPart alice bka kA none 1 [1], .listParts alice bka kA none, .uploadPartCopy alice bka kA none 1 bka kB none,
      .completeMultipartUpload alice bka kA none (some [some 1]), .abortMultipartUpload alice bka kA none,
      .createMultipartUpload alice bka kA none, .uploadPart bob bka kA (some 1) 1 [1], .listParts bob bka kA (some 1),
      .abortMultipartUpload bob bka kA (some 1), .abortMultipartUpload alice bka kA (some 1),
      .uploadPart alice bka kA (some 1) 1 [1], .listParts alice bka kA (some 1)] ∧
    (run H0 0 {} [.createBucket bka, .uploadPart alice bka kA (some 1) 1 [1], .listParts alice bka kA (some 1),
      .putObject bka kB [2] none {} none,
      .uploadPartCopy alice bka kA (some 1) 1 bka kB none, .completeMultipartUpload alice bka kA (some 1) (some [some 1]),
      .abortMultipartUpload alice bka kA (some 1),
      .uploadPart alice bka kA none 1 [1], .listParts alice bka kA none, .uploadPartCopy alice bka kA none 1 bka kB none,
      .completeMultipartUpload alice bka kA none (some [some 1]), .abortMultipartUpload alice bka kA none,
      .createMultipartUpload alice bka kA none, .uploadPart bob bka kA (some 1) 1 [1], .listParts bob bka kA (some 1),
      .abortMultipartUpload bob bka kA (some 1), .abortMultipartUpload alice bka kA (some 1),
      .uploadPart alice bka kA (some 1) 1 [1], .listParts alice bka kA (some 1)]).2.map tagOf =
      [none, some .NoSuchUpload, some .NoSuchUpload, none, some .NoSuchUpload, some .NoSuchUpload, some .NoSuchUpload,
       some .NoSuchUpload, some .NoSuchUpload, some .NoSuchUpload, some .NoSuchUpload, some .NoSuchUpload,
       none, some .AccessDenied, none, some .AccessDenied, none, some .NoSuchUpload, some .NoSuchUpload] := by decide +kernel

/-- was fs:part-number-not-validated (the witness history of `corpus/fs.txt` first): upload_part and upload_part_copy with a
    part number below 1 or above 10000 are `InvalidArgument` on both sides — whatever the upload id —, with 1 and 10000 they
    are accepted; the refused requests leave no part behind -/
theorem C18_fixed_part_number_validated :
    Same [.createBucket bka, .createMultipartUpload alice bka kA none, .uploadPart alice bka kA (some 1) 0 [1],
      .uploadPart alice bka kA (some 1) (-1) [1], .uploadPart alice bka kA (some 1) 10001 [1],
      .uploadPart alice bka kA (some 7) 0 [1], .uploadPart alice bka kA none 10001 [1],
      .putObject bka kB [2] none {} none,
      .uploadPartCopy alice bka kA (some 1) 0 bka kB none, .uploadPartCopy alice bka kA (some 1) 10001 bka kB none,
      .uploadPartCopy alice bka kA (some 7) 0 bka kB none,
      .listParts alice bka kA (some 1),
      .uploadPart alice bka kA (some 1) 1 [1], .uploadPartCopy alice bka kA (some 1) 10000 bka kB none,
      .listParts alice bka kA (some 1)] ∧
    (run H0 0 {} [.createBucket bka, .createMultipartUpload alice bka kA none, .uploadPart alice bka kA (some 1) 0 [1],
      .uploadPart alice bka kA (some 1) (-1) [1], .uploadPart alice bka kA (some 1) 10001 [1],
      .uploadPart alice bka kA (some 7) 0 [1], .uploadPart alice bka kA none 10001 [1],
      .putObject bka kB [2] none {} none,
      .uploadPartCopy alice bka kA (some 1) 0 bka kB none, .uploadPartCopy alice bka kA (some 1) 10001 bka kB none,
      .uploadPartCopy alice bka kA (some 7) 0 bka kB none,
      .listParts alice bka kA (some 1),
      .uploadPart alice bka kA (some 1) 1 [1], .uploadPartCopy alice bka kA (some 1) 10000 bka kB none,
      .listParts alice bka kA (some 1)]).2.map tagOf =
      [none, none, some .InvalidArgument, some .InvalidArgument, some .InvalidArgument, some .InvalidArgument,
       some .InvalidArgument, none, some .InvalidArgument, some .InvalidArgument, some .InvalidArgument, none, none, none,
       none] := by decide +kernel

/-- was fs:part-copy-range-unchecked (the witness history of `corpus/fs.txt` first: `bytes=0-20` of a 2-byte object): a range
    that reaches beyond the end of the source, an open-ended range (`bytes=1-`), the suffix form (`bytes=-1`), a signed
    position (`bytes=+0-1`) and a range without unit are `InvalidArgument` on both sides and leave no part behind;
    `bytes=0-1` and `bytes=1-1` are copied -/
theorem C18_fixed_part_copy_range :
    Same [.createBucket bka, .putObject bka kA [7, 8] none {} none, .createMultipartUpload alice bka kB none,
      .uploadPartCopy alice bka kB (some 1) 1 bka kA (some [98, 121, 116, 101, 115, 61, 48, 45, 50, 48]),
      .uploadPartCopy alice bka kB (some 1) 1 bka kA (some [98, 121, 116, 101, 115, 61, 49, 45]),
      .uploadPartCopy alice bka kB (some 1) 1 bka kA (some [98, 121, 116, 101, 115, 61, 45, 49]),
      .uploadPartCopy alice bka kB (some 1) 1 bka kA (some [98, 121, 116, 101, 115, 61, 43, 48, 45, 49]),
      .uploadPartCopy alice bka kB (some 1) 1 bka kA (some [48, 45, 49]),
      .uploadPartCopy alice bka kB (some 1) 1 bka kA (some [98, 121, 116, 101, 115, 61, 50, 45, 50]),
      .listParts alice bka kB (some 1),
      .uploadPartCopy alice bka kB (some 1) 1 bka kA (some [98, 121, 116, 101, 115, 61, 48, 45, 49]),
      .uploadPartCopy alice bka kB (some 1) 2 bka kA (some [98, 121, 116, 101, 115, 61, 49, 45, 49]),
      .listParts alice bka kB (some 1)] ∧
    (run H0 0 {} [.createBucket bka, .putObject bka kA [7, 8] none {} none, .createMultipartUpload alice bka kB none,
      .uploadPartCopy alice bka kB (some 1) 1 bka kA (some [98, 121, 116, 101, 115, 61, 48, 45, 50, 48]),
      .uploadPartCopy alice bka kB (some 1) 1 bka kA (some [98, 121, 116, 101, 115, 61, 49, 45]),
      .uploadPartCopy alice bka kB (some 1) 1 bka kA (some [98, 121, 116, 101, 115, 61, 45, 49]),
      .uploadPartCopy alice bka kB (some 1) 1 bka kA (some [98, 121, 116, 101, 115, 61, 43, 48, 45, 49]),
      .uploadPartCopy alice bka kB (some 1) 1 bka kA (some [48, 45, 49]),
      .uploadPartCopy alice bka kB (some 1) 1 bka kA (some [98, 121, 116, 101, 115, 61, 50, 45, 50]),
      .listParts alice bka kB (some 1),
      .uploadPartCopy alice bka kB (some 1) 1 bka kA (some [98, 121, 116, 101, 115, 61, 48, 45, 49]),
      .uploadPartCopy alice bka kB (some 1) 2 bka kA (some [98, 121, 116, 101, 115, 61, 49, 45, 49]),
      .listParts alice bka kB (some 1)]).2.drop 3 =
      [.err .InvalidArgument, .err .InvalidArgument, .err .InvalidArgument, .err .InvalidArgument, .err .InvalidArgument,
       .err .InvalidArgument, .parts [], .part (some (etagOf H0 [7, 8])), .part (some (etagOf H0 [8])),
       .parts [(1, 2), (2, 1)]] := by decide +kernel

/-- was fs:stale-metadata-after-complete and fs:stale-checksum-after-complete (the witness histories of `corpus/fs.txt`): a
    multipart upload created without metadata, completed over an object that has metadata / a recorded checksum: the object
    read afterwards has the new content, no metadata and no checksum, on both sides; an upload with metadata brings its own -/
theorem C18_fixed_stale_sidefiles_after_complete :
    Same [.createBucket bka, .putObject bka kA [1] mdV {} none, .createMultipartUpload alice bka kA none,
      .uploadPart alice bka kA (some 1) 1 [2], .completeMultipartUpload alice bka kA (some 1) (some [some 1]),
      .getObject bka kA none, .headObject bka kA] ∧
    Same [.createBucket bka, .putObject bka kA [1] none { crc32 := some [1] } none, .createMultipartUpload alice bka kA none,
      .uploadPart alice bka kA (some 1) 1 [2], .completeMultipartUpload alice bka kA (some 1) (some [some 1]),
      .getObject bka kA none] ∧
    (run H0 0 {} [.createBucket bka, .putObject bka kA [1] mdV { crc32 := some [1] } none,
      .createMultipartUpload alice bka kA none, .uploadPart alice bka kA (some 1) 1 [2],
      .completeMultipartUpload alice bka kA (some 1) (some [some 1]), .getObject bka kA none]).2.getLast? =
      some (.get [2] 1 none (some (etagOf H0 [2])) [] {}) ∧
    Same [.createBucket bka, .putObject bka kA [1] mdV { crc32 := some [1] } none,
      .createMultipartUpload alice bka kA (some [([116], [117])]), .uploadPart alice bka kA (some 1) 1 [2],
      .completeMultipartUpload alice bka kA (some 1) (some [some 1]), .getObject bka kA none] := by decide +kernel

/-- was fs:complete-into-missing-bucket (the witness history of `corpus/fs.txt`, then continued): the bucket is deleted while
    an upload for it is open; the complete is `NoSuchBucket` on both sides, the bucket is not recreated (head_bucket:
    `NoSuchBucket`) and the upload stays: once the bucket exists again the same request succeeds and the object can be read.
    The validation comes first on both sides: with a part that was never uploaded the answer is `InvalidPart` -/
theorem C18_fixed_complete_into_missing_bucket :
    Same [.createBucket bka, .createMultipartUpload alice bka kA none, .uploadPart alice bka kA (some 1) 1 [1],
      .deleteBucket bka, .completeMultipartUpload alice bka kA (some 1) (some [some 1]), .headBucket bka, .listBuckets,
      .completeMultipartUpload alice bka kA (some 1) (some [some 1, some 2]),
      .createBucket bka, .completeMultipartUpload alice bka kA (some 1) (some [some 1]), .getObject bka kA none] ∧
    (run H0 0 {} [.createBucket bka, .createMultipartUpload alice bka kA none, .uploadPart alice bka kA (some 1) 1 [1],
      .deleteBucket bka, .completeMultipartUpload alice bka kA (some 1) (some [some 1]), .headBucket bka, .listBuckets,
      .completeMultipartUpload alice bka kA (some 1) (some [some 1, some 2]),
      .createBucket bka, .completeMultipartUpload alice bka kA (some 1) (some [some 1]), .getObject bka kA none]).2 =
      [.ok, .created 1, .part (some (etagOf H0 [1])), .ok, .err .NoSuchBucket, .err .NoSuchBucket, .buckets [],
       .err .InvalidPart, .ok, .completed (some (etagOf H0 [1])), .get [1] 1 none (some (etagOf H0 [1])) [] {}] := by decide +kernel

/-- was fs:stale-metadata-after-copy and fs:stale-checksum-after-copy (the witness histories of `corpus/fs.txt` first): a copy
    from a source without metadata / without a recorded checksum over an object that has one: the object read afterwards has
    the source's content, no metadata and no checksum, on both sides; a source with metadata and a checksum brings both to a
    destination that has neither (before the repair the checksum was lost), and to a key that did not exist -/
theorem C18_fixed_stale_sidefiles_after_copy :
    Same [.createBucket bka, .putObject bka kA [1] mdV {} none, .putObject bka kB [2] none {} none,
      .copyObject bka kB bka kA, .getObject bka kA none] ∧
    Same [.createBucket bka, .putObject bka kA [1] none { crc32 := some [1] } none, .putObject bka kB [2] none {} none,
      .copyObject bka kB bka kA, .getObject bka kA none] ∧
    (run H0 0 {} [.createBucket bka, .putObject bka kA [1] mdV { crc32 := some [1] } none,
      .putObject bka kB [2] none {} none, .copyObject bka kB bka kA, .getObject bka kA none, .headObject bka kA]).2.drop 4 =
      [.get [2] 1 none (some (etagOf H0 [2])) [] {}, .head 1 (some (etagOf H0 [2])) []] ∧
    Same [.createBucket bka, .putObject bka kA [1] mdV { crc32 := some [1] } none, .putObject bka kB [2] none {} none,
      .copyObject bka kA bka kB, .getObject bka kB none, .copyObject bka kA bka kX, .getObject bka kX none,
      .getObject bka kA none] ∧
    (run H0 0 {} [.createBucket bka, .putObject bka kA [1] mdV { crc32 := some [1] } none,
      .putObject bka kB [2] none {} none, .copyObject bka kA bka kB, .getObject bka kB none]).2.getLast? =
      some (.get [1] 1 none (some (etagOf H0 [1])) [([109], [118])] { crc32 := some [1] }) := by decide +kernel

/-- was fs:delete-objects-omits-missing-keys and fs:delete-objects-duplicate-key (the witness histories of `corpus/fs.txt`
    first): delete_objects with a key that does not exist, with a key named twice, with both: every requested key is
    reported as deleted, in request order, on both sides; the objects are gone, other objects stay -/
theorem C18_fixed_delete_objects_every_key :
    Same [.createBucket bka, .putObject bka kA [1] none {} none, .deleteObjects bka [kA, kB]] ∧
    Same [.createBucket bka, .putObject bka kA [1] none {} none, .deleteObjects bka [kA, kA]] ∧
    Same [.createBucket bka, .putObject bka kA [1] none {} none, .putObject bka kDE [2] none {} none,
      .putObject bka kX [3] none {} none, .deleteObjects bka [kB, kA, kB, kDE, kA], .getObject bka kA none,
      .getObject bka kDE none, .getObject bka kX none, .deleteObjects bka [kA], .listObjectsV2 bka none none none none] ∧
    (run H0 0 {} [.createBucket bka, .putObject bka kA [1] none {} none, .putObject bka kDE [2] none {} none,
      .putObject bka kX [3] none {} none, .deleteObjects bka [kB, kA, kB, kDE, kA], .getObject bka kA none,
      .getObject bka kDE none, .getObject bka kX none, .deleteObjects bka [kA],
      .listObjectsV2 bka none none none none]).2.drop 4 =
      [.deleted [kB, kA, kB, kDE, kA], .err .NoSuchKey, .err .NoSuchKey, .get [3] 1 none (some (etagOf H0 [3])) [] {},
       .deleted [kA], .listed [(kX, 1)] 1 false []] := by decide +kernel

/-- was fs:list-parts-unordered (the witness history of `corpus/fs.txt` first; a deviation of the real code, which returned
    directory order, not of the model): parts are listed in ascending part-number order whatever the order in which they
    were uploaded or replaced, on both sides -/
theorem C18_fixed_list_parts_ordered :
    Same [.createBucket bka, .createMultipartUpload alice bka kA none, .uploadPart alice bka kA (some 1) 1 [1],
      .uploadPart alice bka kA (some 1) 2 [2], .uploadPart alice bka kA (some 1) 3 [3],
      .uploadPart alice bka kA (some 1) 4 [4], .listParts alice bka kA (some 1)] ∧
    Same [.createBucket bka, .createMultipartUpload alice bka kA none, .uploadPart alice bka kA (some 1) 4 [4],
      .uploadPart alice bka kA (some 1) 2 [2, 2], .uploadPart alice bka kA (some 1) 10000 [],
      .uploadPart alice bka kA (some 1) 1 [1], .uploadPart alice bka kA (some 1) 2 [2], .listParts alice bka kA (some 1)] ∧
    (run H0 0 {} [.createBucket bka, .createMultipartUpload alice bka kA none, .uploadPart alice bka kA (some 1) 4 [4],
      .uploadPart alice bka kA (some 1) 2 [2, 2], .uploadPart alice bka kA (some 1) 10000 [],
      .uploadPart alice bka kA (some 1) 1 [1], .uploadPart alice bka kA (some 1) 2 [2],
      .listParts alice bka kA (some 1)]).2.getLast? = some (.parts [(1, 1), (2, 1), (4, 1), (10000, 0)]) := by decide +kernel

/-- was fs:upload-not-bound-to-key (the witness history of `corpus/fs.txt` first): upload_part, upload_part_copy, list_parts,
    complete_multipart_upload and abort_multipart_upload under another key or another bucket than the upload's are
    `NoSuchUpload` on both sides — for the creator and for anybody else — and change nothing: the upload is still there under
    its own bucket and key, with the part uploaded there, and completes -/
theorem C18_fixed_upload_bound_to_key :
    Same [.createBucket bka, .createMultipartUpload alice bka kA none, .uploadPart alice bka kB (some 1) 1 [1]] ∧
    Same [.createBucket bka, .createBucket [98, 107, 98], .putObject bka kX [3] none {} none,
      .createMultipartUpload alice bka kA none, .uploadPart alice bka kA (some 1) 1 [1],
      .uploadPart alice bka kB (some 1) 2 [2], .uploadPart alice [98, 107, 98] kA (some 1) 2 [2],
      .uploadPartCopy alice bka kB (some 1) 2 bka kX none, .listParts alice bka kB (some 1),
      .listParts bob [98, 107, 98] kA (some 1), .completeMultipartUpload alice bka kB (some 1) (some [some 1]),
      .completeMultipartUpload bob [98, 107, 98] kA (some 1) (some [some 1]),
      .abortMultipartUpload alice bka kB (some 1), .abortMultipartUpload bob bka kB (some 1),
      .abortMultipartUpload alice [98, 107, 98] kA (some 1), .getObject bka kB none, .listParts alice bka kA (some 1),
      .completeMultipartUpload alice bka kA (some 1) (some [some 1]), .getObject bka kA none] ∧
    (run H0 0 {} [.createBucket bka, .createBucket [98, 107, 98], .putObject bka kX [3] none {} none,
      .createMultipartUpload alice bka kA none, .uploadPart alice bka kA (some 1) 1 [1],
      .uploadPart alice bka kB (some 1) 2 [2], .uploadPart alice [98, 107, 98] kA (some 1) 2 [2],
      .uploadPartCopy alice bka kB (some 1) 2 bka kX none, .listParts alice bka kB (some 1),
      .listParts bob [98, 107, 98] kA (some 1), .completeMultipartUpload alice bka kB (some 1) (some [some 1]),
      .completeMultipartUpload bob [98, 107, 98] kA (some 1) (some [some 1]),
      .abortMultipartUpload alice bka kB (some 1), .abortMultipartUpload bob bka kB (some 1),
      .abortMultipartUpload alice [98, 107, 98] kA (some 1), .getObject bka kB none, .listParts alice bka kA (some 1),
      .completeMultipartUpload alice bka kA (some 1) (some [some 1]), .getObject bka kA none]).2.drop 5 =
      [.err .NoSuchUpload, .err .NoSuchUpload, .err .NoSuchUpload, .err .NoSuchUpload, .err .NoSuchUpload,
       .err .NoSuchUpload, .err .NoSuchUpload, .err .NoSuchUpload, .err .NoSuchUpload, .err .NoSuchUpload,
       .err .NoSuchKey, .parts [(1, 1)], .completed (some (etagOf H0 [1])),
       .get [1] 1 none (some (etagOf H0 [1])) [] {}] := by decide +kernel

/-- was fs:list-delimiter-not-rolled-up, fs:list-delimiter-rewrites-keys, fs:list-ignores-max-keys and the inner-slash part
    of fs:list-prefix-as-path (fe72881; the witness histories of `corpus/fs.txt` first, v2 and v1): with a delimiter the keys
    below it are rolled up into one common prefix, counted once; a delimiter other than `/` leaves the keys as they are;
    `max-keys` cuts the listing and the answer says so; `d//e`, `d/./` are prefixes of no key -/
theorem C18_fixed_list_parameters :
    Same [.createBucket bka, .putObject bka kDE [1] none {} none, .putObject bka kDF [2] none {} none,
      .listObjectsV2 bka none (some [47]) none none, .listObjects bka none (some [47]) none none] ∧
    Same [.createBucket bka, .putObject bka kDE [1] none {} none, .listObjectsV2 bka none (some [45]) none none,
      .listObjects bka none (some [45]) none none] ∧
    Same [.createBucket bka, .putObject bka kA [1] none {} none, .putObject bka kB [2] none {} none,
      .listObjectsV2 bka none none none (some 1), .listObjects bka none none none (some 1)] ∧
    Same [.createBucket bka, .putObject bka kDE [1] none {} none, .listObjectsV2 bka (some kDsE) none none none,
      .listObjectsV2 bka (some [100, 47, 46, 47]) none none none, .listObjects bka (some kDsE) none none none] ∧
    (run H0 0 {} [.createBucket bka, .putObject bka kA [1] none {} none, .putObject bka kDE [1] none {} none,
      .putObject bka kDF [2, 3] none {} none, .putObject bka kT [] none {} none,
      .listObjectsV2 bka none (some [47]) none none, .listObjectsV2 bka none (some [47]) none (some 1),
      .listObjectsV2 bka none (some [47]) (some kA) (some 1), .listObjectsV2 bka none (some [47]) (some kDF) (some 1),
      .listObjectsV2 bka none (some [101]) none (some 0), .listObjectsV2 bka (some kDsE) none none none]).2.drop 5 =
      [.listed [(kA, 1), (kT, 0)] 3 false [kDir], .listed [(kA, 1)] 1 true [], .listed [] 1 true [kDir],
       .listed [(kT, 0)] 1 false [], .listed [] 0 true [], .listed [] 0 false []] := by decide +kernel

/-- was fs:suffix-range-longer-than-object / fs:suffix-range-huge-panics: the model no longer fails or panics (the answer
    itself is compared by `C18_get_refines_partial`) -/
theorem C18_fixed_suffix_ranges :
    (run H0 0 {} [.createBucket bka, .putObject bka kA [1, 2] none {} none, .getObject bka kA (some (.suffix 3)),
      .getObject bka kA (some (.suffix 18446744073709551615))]).2.all
      (fun r => r != .panic && r != .err .InternalError) = true := by decide +kernel

/-- was fs:complete-requires-consecutive-parts (the witness history of `corpus/fs.txt`: only part 2 uploaded, `2` listed; then
    continued): the complete succeeds on both sides and the object is that part; of the parts 2, 5, 9 the list `5, 9` — whose
    first part is small — is `EntityTooSmall` on both sides (the size rule looks at the position in the list, not at the
    part number), the list `2, 7` `InvalidPart`, and the upload stays until the list `5` completes it -/
theorem C18_fixed_complete_gapped_parts :
    Same [.createBucket bka, .createMultipartUpload alice bka kA none, .uploadPart alice bka kA (some 1) 2 [1],
      .completeMultipartUpload alice bka kA (some 1) (some [some 2]), .getObject bka kA none] ∧
    (run H0 0 {} [.createBucket bka, .createMultipartUpload alice bka kA none, .uploadPart alice bka kA (some 1) 2 [1],
      .completeMultipartUpload alice bka kA (some 1) (some [some 2]), .getObject bka kA none]).2.drop 3 =
      [.completed (some (etagOf H0 [1])), .get [1] 1 none (some (etagOf H0 [1])) [] {}] ∧
    Same [.createBucket bka, .createMultipartUpload alice bka kA none, .uploadPart alice bka kA (some 1) 9 [9],
      .uploadPart alice bka kA (some 1) 2 [2], .uploadPart alice bka kA (some 1) 5 [5, 5],
      .completeMultipartUpload alice bka kA (some 1) (some [some 5, some 9]),
      .completeMultipartUpload alice bka kA (some 1) (some [some 2, some 7]),
      .completeMultipartUpload alice bka kA (some 1) (some [some 5]), .getObject bka kA none,
      .listParts alice bka kA (some 1)] ∧
    (run H0 0 {} [.createBucket bka, .createMultipartUpload alice bka kA none, .uploadPart alice bka kA (some 1) 9 [9],
      .uploadPart alice bka kA (some 1) 2 [2], .uploadPart alice bka kA (some 1) 5 [5, 5],
      .completeMultipartUpload alice bka kA (some 1) (some [some 5, some 9]),
      .completeMultipartUpload alice bka kA (some 1) (some [some 2, some 7]),
      .completeMultipartUpload alice bka kA (some 1) (some [some 5]), .getObject bka kA none,
      .listParts alice bka kA (some 1)]).2.drop 5 =
      [.err .EntityTooSmall, .err .InvalidPart, .completed (some (etagOf H0 [5, 5])),
       .get [5, 5] 2 none (some (etagOf H0 [5, 5])) [] {}, .err .NoSuchUpload] := by decide +kernel

/-- was fs:complete-part-list-validation (the witness history of `corpus/fs.txt`: an empty part list; then continued): an
    empty part list and no part list are `MalformedXML` on both sides — no empty object is created (the key does not exist
    afterwards) and the upload stays —, as is a part without a number; numbers that are not strictly ascending are
    `InvalidPartOrder` — before the part files are looked at: `3, 1` with part 3 never uploaded —, a part that was never
    uploaded `InvalidPart`; then the upload completes -/
theorem C18_fixed_complete_part_list_validation :
    Same [.createBucket bka, .createMultipartUpload alice bka kA none, .uploadPart alice bka kA (some 1) 1 [1],
      .completeMultipartUpload alice bka kA (some 1) (some []), .getObject bka kA none,
      .completeMultipartUpload alice bka kA (some 1) none, .completeMultipartUpload bob bka kA (some 1) (some []),
      .completeMultipartUpload alice bka kA (some 1) (some [none]),
      .completeMultipartUpload alice bka kA (some 1) (some [some 1, some 1]),
      .completeMultipartUpload alice bka kA (some 1) (some [some 3, some 1]),
      .completeMultipartUpload alice bka kA (some 1) (some [some 1, some 3]),
      .completeMultipartUpload alice bka kA (some 1) (some [some 1]), .getObject bka kA none] ∧
    (run H0 0 {} [.createBucket bka, .createMultipartUpload alice bka kA none, .uploadPart alice bka kA (some 1) 1 [1],
      .completeMultipartUpload alice bka kA (some 1) (some []), .getObject bka kA none,
      .completeMultipartUpload alice bka kA (some 1) none, .completeMultipartUpload bob bka kA (some 1) (some []),
      .completeMultipartUpload alice bka kA (some 1) (some [none]),
      .completeMultipartUpload alice bka kA (some 1) (some [some 1, some 1]),
      .completeMultipartUpload alice bka kA (some 1) (some [some 3, some 1]),
      .completeMultipartUpload alice bka kA (some 1) (some [some 1, some 3]),
      .completeMultipartUpload alice bka kA (some 1) (some [some 1]), .getObject bka kA none]).2.drop 3 =
      [.err .MalformedXML, .err .NoSuchKey, .err .MalformedXML, .err .MalformedXML, .err .MalformedXML,
       .err .InvalidPartOrder, .err .InvalidPartOrder, .err .InvalidPart, .completed (some (etagOf H0 [1])),
       .get [1] 1 none (some (etagOf H0 [1])) [] {}] := by decide +kernel

end S3V.C18
