import S3V.Props.C19
/-!
# C19 — kernel-checked witnesses of what is not all-or-nothing, and of the faults that repairs of s3s-fs removed (outside
the pass/fail gate)

For every finding class of `known_findings.d/fswrite.json` at least one theorem: for an open class a witness of the fault, for
a repaired class the same fault, which now meets the property. The class names are position-specific
(`<what>:<fault kind / position>`), so each open finding covers exactly the fault shown here. Each is replayed on
the real code by the correspondence run (`corpus/fswrite.txt`).
-/
namespace S3V.Findings.C19
open S3V S3V.FsWrite S3V.C19

/-! ## repaired by 156124b: `tmp-leftover:drop-at-create` (F-fswrite-2)

Before the repair `prepare_file_write` awaited `tokio::fs::File::create(tmp)` (blocking pool) and constructed the `FileWriter`
only afterwards: a request future dropped in between — the blocking task done or still in flight — left
`.tmp.<n>.internal.part` behind. Now the file is created in the same poll in which the `FileWriter` is constructed. -/

/-- class `tmp-leftover:drop-at-create`: dropped right after `create` — position 1 for `put_object` and `upload_part`, position
    `n + 2` for `complete_multipart_upload` of `n` parts (here `n = 1`, position 3) — no temporary file stays and nothing has
    changed -/
theorem no_tmp_leftover_drop_at_create :
    dropAfter 1 (putObjectProg {}) (initSt none .absent .absent) = initSt none .absent .absent ∧
    dropAfter 1 (putObjectProg { frames := [.ok [1]], hasMeta := true }) (initSt (some [0]) .old .old) =
      initSt (some [0]) .old .old ∧
    dropAfter 1 (uploadPartProg { frames := [.ok [1]] }) (initSt none .absent .absent) = initSt none .absent .absent ∧
    dropAfter 3 (completeProg { parts := [.present [1] true], hasMeta := true }) (initSt (some [0]) .old .old) =
      initSt (some [0]) .old .old := by decide +kernel

/-- what the defect was, in the model's terms: a temporary file on disk without a `FileWriter` (`owned = false`) survives the
    clean-up that a dropped future or an error return performs; no step of the current programs produces such a state
    (`create` sets both at once) -/
theorem unguarded_tmp_would_stay :
    (cleanup { initSt none .absent .absent with tmp := true }).tmp = true ∧
    (exec (initSt none .absent .absent) .create).toOption.map (fun s => (s.tmp, s.owned)) = some (true, true) := by decide +kernel

/-- no temporary file stays at any other position either (cf. `no_tmp_leftover_drop_at_create`), whatever `done()` does; e.g.
    dropped inside `done()` between `create_dir_all` and the rename: -/
theorem no_tmp_leftover_drop_inside_done :
    (dropAfter 5 (putObjectProg { frames := [.ok [1]] }) (initSt none .absent .absent)).tmp = false := by decide +kernel

/-- hence the unrestricted statement, false before the repair, holds: it is
    `C19_write_all_or_nothing` -/
theorem write_all_or_nothing_everywhere (c : Cfg) (old : Option Bytes) (m i : Side) (k : Nat) :
    AllOrNothingAt c old m i k := C19_write_all_or_nothing c old m i k

/-! ## open: the side files lag behind the content -/

/-- `error-after-rename:sidefile-write-fails` (F-fswrite-3): the metadata write fails after the rename:
    `InternalError`, but the content is the new one and the checksum record still the old one -/
theorem error_after_rename_sidefile_write_fails :
    run (putObjectProg { frames := [.ok [1]], hasMeta := true, metaFails := true }) (initSt (some [0]) .old .old) =
      (.internalError, { dest := some [1], tmp := false, owned := false, acc := [1], mdata := .old, info := .old,
                         uploadRec := true, partsGone := 0, pulled := 1, dirs := true }) := by decide +kernel

/-- `sidefiles-lag:drop-after-rename` (F-fswrite-4): dropped right after the rename (position 6 with one frame):
    new content, old side files -/
theorem sidefiles_lag_drop_after_rename :
    (dropAfter 6 (putObjectProg { frames := [.ok [1]], hasMeta := true }) (initSt (some [0]) .old .old)).dest = some [1] ∧
    (dropAfter 6 (putObjectProg { frames := [.ok [1]], hasMeta := true }) (initSt (some [0]) .old .old)).mdata = .old ∧
    (dropAfter 6 (putObjectProg { frames := [.ok [1]], hasMeta := true }) (initSt (some [0]) .old .old)).info = .old := by
  decide +kernel

/-! ## repaired by 0096ef4: `complete-metadata-early:*` (F-fswrite-5 … F-fswrite-9)

Before the repair `complete_multipart_upload` removed the upload record and overwrote the object's metadata file before it
assembled the content; the faults of these classes now meet the property (the general statements are
`C19_complete_all_or_nothing` and `C19_failed_complete_changes_nothing`). -/

/-- class `complete-metadata-early:part-missing` (F-fswrite-5): a missing part is `InvalidPart` and NOTHING has changed —
    content, metadata, checksum record, upload record -/
theorem complete_part_missing_changes_nothing :
    run (completeProg { parts := [.missing], hasMeta := true }) (initSt (some [0]) .old .old) =
      (.invalidPart, initSt (some [0]) .old .old) := by decide +kernel

/-- class `complete-metadata-early:part-too-small` (F-fswrite-6) -/
theorem complete_part_too_small_changes_nothing :
    run (completeProg { parts := [.present [1] false, .present [2] true], hasMeta := true }) (initSt (some [0]) .old .old) =
      (.entityTooSmall, initSt (some [0]) .old .old) := by decide +kernel

/-- class `complete-metadata-early:dest-is-dir` / `:parent-is-file` (F-fswrite-7, -8): `done()` fails — metadata and upload
    record as before, no temporary file -/
theorem complete_done_fails_changes_nothing :
    (run (completeProg { parts := [.present [1] true], hasMeta := true, renameFails := true })
      (initSt none .old .old)).2.mdata = .old ∧
    (run (completeProg { parts := [.present [1] true], hasMeta := true, renameFails := true })
      (initSt none .old .old)).2.uploadRec = true ∧
    (run (completeProg { parts := [.present [1] true], hasMeta := true, mkdirsFails := true })
      (initSt none .old .old)).2.mdata = .old ∧
    (run (completeProg { parts := [.present [1] true], hasMeta := true, mkdirsFails := true })
      (initSt none .old .old)).2.uploadRec = true ∧
    (run (completeProg { parts := [.present [1] true], hasMeta := true, mkdirsFails := true })
      (initSt none .old .old)).2.tmp = false := by decide +kernel

/-- class `complete-metadata-early:drop-before-rename` (F-fswrite-9): abandoned at any position before the rename (here: one
    part, positions 0 … 5; position 3, right after `create`, is the one of `tmp-leftover:drop-at-create`): previous
    content, previous metadata, the upload record still there, no temporary file -/
theorem complete_drop_before_rename_changes_nothing :
    ∀ k ∈ [0, 1, 2, 3, 4, 5],
      dropAfter k (completeProg { parts := [.present [1] true], hasMeta := true }) (initSt (some [0]) .old .old) =
        { initSt (some [0]) .old .old with acc := if k ≥ 4 then [1] else [], dirs := decide (k = 5) } := by decide +kernel

/-- what remains after the repair is the lag of the side files behind the content, as for `put_object`: abandoned right
    after the rename (position 6 with one part) the content is new, the metadata still the previous object's
    (`sidefiles-lag:drop-after-rename`, F-fswrite-4); a failing metadata write answers an error after the content was
    replaced (`error-after-rename:sidefile-write-fails`, F-fswrite-3) — the upload record and the part files are still
    there, so the request can be repeated -/
theorem complete_sidefiles_lag_after_rename :
    (dropAfter 6 (completeProg { parts := [.present [1] true], hasMeta := true }) (initSt (some [0]) .old .old)).dest
      = some [1] ∧
    (dropAfter 6 (completeProg { parts := [.present [1] true], hasMeta := true }) (initSt (some [0]) .old .old)).mdata
      = .old ∧
    run (completeProg { parts := [.present [1] true], hasMeta := true, metaFails := true }) (initSt (some [0]) .old .old) =
      (.internalError, { initSt (some [0]) .old .old with dest := some [1], acc := [1], dirs := true }) := by decide +kernel

/-- 47e9b00 (the C19 side of F-fs-29 / F-fs-37): a completed upload without metadata over an object that has metadata and a
    checksum record leaves neither — the metadata file is removed, the checksum record is a new (empty) one -/
theorem complete_replaces_sidefiles :
    run (completeProg { parts := [.present [1] true] }) (initSt (some [0]) .old .old) =
      (.ok, { initSt (some [0]) .old .old with dest := some [1], acc := [1], dirs := true, mdata := .absent, info := .new,
                                               uploadRec := false, partsGone := 1 }) := by decide +kernel

/-- 0fcb858 (the C19 side of F-fs-5): a complete without a part list or with an empty one is refused (`MalformedXML`) and
    nothing has changed — before, an empty object replaced the previous one — at the end of the call and at any position at
    which it is abandoned -/
theorem complete_empty_list_changes_nothing :
    run (completeProg { parts := [], hasMeta := true }) (initSt (some [0]) .old .old) =
      (.malformedXML, initSt (some [0]) .old .old) ∧
    ∀ k ∈ [0, 1, 2, 3],
      dropAfter k (completeProg { parts := [], hasMeta := true }) (initSt (some [0]) .old .old) =
        initSt (some [0]) .old .old := by decide +kernel

/-- before 3229285 the comparison came after `done()`: in the model, the program with `check` after `rename`
    (`error-after-rename:checksum`, F-fswrite-1, fixed) -/
theorem old_order_replaced_before_baddigest :
    (run [.create, .frame (.ok [1]), .flush, .mkdirs false, .rename false, .check false]
      (initSt (some [0]) .old .old)).1 = .badDigest ∧
    (run [.create, .frame (.ok [1]), .flush, .mkdirs false, .rename false, .check false]
      (initSt (some [0]) .old .old)).2.dest = some [1] := by decide +kernel

end S3V.Findings.C19
