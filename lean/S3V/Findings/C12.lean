import S3V.Props.C12
/-!
# C12 — regression examples for repaired findings

No full statement of C12 is refuted by a counterexample at present. The module is in the `lean` list of C12
(`bin/registry.d/C12.json`): it is built with the property, and an example that stops holding fails the check.

Each witness is also a line of `corpus/path.txt` and is replayed on the real code by every run
(`known_findings.d/path.json`).
-/
namespace S3V.C12
open S3V S3V.Net S3V.Host S3V.Path S3V.PathSpec

/-! ## repaired: F-path-4 — overlap was tested case-sensitively, hosts are matched case-insensitively -/

/-- `x.COM` -/
def wUpper : Bytes := [120, 46, 67, 79, 77]
/-- `com` -/
def wCom : Bytes := [99, 111, 109]
/-- `b.x.com` -/
def wHostBX : Bytes := [98, 46, 120, 46, 99, 111, 109]

/-- `MultiDomain::new(["x.COM", "com"])` is refused now, in either order (before cf352e8 it
    succeeded although `x.com` is a sub-domain of `com`) -/
example : multiNew [wUpper, wCom] = .error .overlappingSubdomains := rfl
example : multiNew [wCom, wUpper] = .error .overlappingSubdomains := rfl

/-- what made the old behaviour a defect: the host `b.x.com` belongs to both base domains — to
    `x.COM` with bucket `b`, to `com` with bucket `b.x` — so under the old code the bucket depended
    on the order of the configuration. The full statements that this refuted are theorems now:
    `C12_multidomain_unique_match`, `C12_multidomain_order_independent`. -/
example : parseHostHeader wUpper wHostBX = some ⟨wUpper, some [98]⟩ ∧
    parseHostHeader wCom wHostBX = some ⟨wCom, some [98, 46, 120]⟩ := by decide

/-! ## repaired: F-path-1 (IPv4-like names), F-path-2 (host case), F-path-3 (signed port) -/

/-- `192.168.5.04` and `256.1.1.1` are refused now -/
example : checkBucketName [49, 57, 50, 46, 49, 54, 56, 46, 53, 46, 48, 52] = false := by decide
example : checkBucketName [50, 53, 54, 46, 49, 46, 49, 46, 49] = false := by decide

/-- `example.com` -/
def wBase : Bytes := [101, 120, 97, 109, 112, 108, 101, 46, 99, 111, 109]
/-- `mybucket.EXAMPLE.COM` -/
def wHost : Bytes := [109, 121, 98, 117, 99, 107, 101, 116, 46, 69, 88, 65, 77, 80, 76, 69, 46, 67, 79, 77]
/-- `mybucket` -/
def wBucket : Bytes := [109, 121, 98, 117, 99, 107, 101, 116]

/-- `mybucket.EXAMPLE.COM` is resolved against base domain `example.com`, and a GET of `/key`
    reaches the backend as bucket `mybucket`, key `key` -/
example : parseHostHeader wBase wHost = some ⟨wBase, some wBucket⟩ := by decide
example : classify (.single wBase) (some wHost) [47, 107, 101, 121] =
    .ok (.object wBucket [107, 101, 121]) := rfl

/-- `example.com:+80` is not a valid base domain any more -/
example : isValidDomain [101, 120, 97, 109, 112, 108, 101, 46, 99, 111, 109, 58, 43, 56, 48] = false := by
  decide

/-! ## repaired: F-sigv2e2e-6 (class `vhost-bucket-derivation`, listed under C11) — the port of the
`Host` value was taken as part of the bucket of a host outside the base domains -/

/-- `s3.us-west-1.amazonaws.com` -/
def wEndpoint : Bytes := [115, 51, 46, 117, 115, 45, 119, 101, 115, 116, 45, 49, 46, 97, 109, 97, 122, 111, 110, 97, 119,
  115, 46, 99, 111, 109]
/-- `static.example.com:8080`, the Host of the documentation's Upload example -/
def wCnameHost : Bytes := exCname ++ colon :: exPort

/-- the host parsers answer the bucket `static.example.com` now (before c922d5e the bucket was
    `static.example.com:8080`, which `check_bucket_name` refuses) … -/
example : singleParse wEndpoint wCnameHost = some ⟨wCnameHost, some exCname⟩ := by decide
example : multiParse [exDomain2, wEndpoint] wCnameHost = some ⟨wCnameHost, some exCname⟩ := by decide
/-- … whatever case the host is written in (`Static.Example.COM:8080`) … -/
example : singleParse wEndpoint
    ([83, 116, 97, 116, 105, 99, 46, 69, 120, 97, 109, 112, 108, 101, 46, 67, 79, 77] ++ colon :: exPort) =
    some ⟨[83, 116, 97, 116, 105, 99, 46, 69, 120, 97, 109, 112, 108, 101, 46, 67, 79, 77] ++ colon :: exPort,
      some exCname⟩ := by decide
/-- … and `PUT /db-backup.dat.gz` of that example reaches the bucket `static.example.com`, key
    `db-backup.dat.gz` (it was answered `InvalidBucketName`) -/
example : classify (.single wEndpoint) (some wCnameHost) (slash :: exCnameKey) =
    .ok (.object exCname exCnameKey) := rfl
/-- a base domain that carries a port is still matched as a whole: `b.example.org:9000` belongs to
    `example.org:9000` (bucket `b`), and under `example.org:9001` it is a host of its own whose
    bucket is `b.example.org` -/
example : singleParse (exDomain2 ++ colon :: [57, 48, 48, 48]) (98 :: dot :: exDomain2 ++ colon :: [57, 48, 48, 48]) =
    some ⟨exDomain2 ++ colon :: [57, 48, 48, 48], some [98]⟩ := by decide
example : singleParse (exDomain2 ++ colon :: [57, 48, 48, 49]) (98 :: dot :: exDomain2 ++ colon :: [57, 48, 48, 48]) =
    some ⟨98 :: dot :: exDomain2 ++ colon :: [57, 48, 48, 48], some (98 :: dot :: exDomain2)⟩ := by decide

end S3V.C12
