import S3V.Props.C10Sig
import S3V.Props.C10PolicyStrict
/-!
# Findings of C10 (policy-compliance clause): the code accepts forms whose policy forbids the upload

Outside the pass/fail gate. FIXED by commit 64704af (finding classes `post-policy-*-accepted`): before it,
`v4_check_post_signature` verified the HMAC over the base64 policy text and nothing ever decoded the policy. What stays
true, and is recorded here, is that the signature check alone accepts such forms (the POST-object gate of `ops::prepare`
is what refuses them now, `witnesses_refused_by_gate`). Witnesses (kernel-checked; the same shapes are replayed on the real
code by component `sigv4post`, classes `post-policy-*-accepted`, `known_findings.d/sigv4.json`): a correctly
signed form whose policy expired in 2000 and has no conditions, and one whose policy demands another key.
The MAC is a constant function (the defect does not depend on it), so the empty signature is the right one.
-/
namespace S3V.Findings.C10
open S3V S3V.SigV4 S3V.C10

def hmac0 : Bytes → Bytes → Bytes := fun _ _ => []
def look0 : Bytes → Option Bytes := fun ak => if ak = b!"AK" then some b!"secret" else none

def formWith (policyB64 : Bytes) : List (Bytes × Bytes) :=
  [(b!"key", b!"up/a.txt"), (b!"Content-Type", b!"text/plain"), (b!"x-amz-meta-note", b!"n"),
   (b!"X-Amz-Algorithm", b!"AWS4-HMAC-SHA256"), (b!"x-amz-credential", b!"AK/20130524/r/s3/aws4_request"), (b!"x-amz-date", b!"20130524T000000Z"),
   (b!"Policy", policyB64), (b!"x-amz-signature", b!"")]

/-- base64 of `{''expiration'':''2000-01-01T00:00:00Z'',''conditions'':[]}` -/
def expiredPolicy : Bytes := b!"eyJleHBpcmF0aW9uIjoiMjAwMC0wMS0wMVQwMDowMDowMFoiLCJjb25kaXRpb25zIjpbXX0="

/-- base64 of a policy that demands `key = other.txt` (everything else as in the compliant example) -/
def violatedPolicy : Bytes := b!"eyJleHBpcmF0aW9uIjoiMjA5OS0wMS0wMVQwMDowMDowMFoiLCJjb25kaXRpb25zIjpbeyJidWNrZXQiOiJia3QifSxbImVxIiwiJGtleSIsIm90aGVyLnR4dCJdLFsiZXEiLCIkQ29udGVudC1UeXBlIiwidGV4dC9wbGFpbiJdLHsieC1hbXotbWV0YS1ub3RlIjoibiJ9LHsieC1hbXotYWxnb3JpdGhtIjoiQVdTNC1ITUFDLVNIQTI1NiJ9LHsieC1hbXotY3JlZGVudGlhbCI6IkFLLzIwMTMwNTI0L3IvczMvYXdzNF9yZXF1ZXN0In0seyJYLUFtei1EYXRlIjoiMjAxMzA1MjRUMDAwMDAwWiJ9LFsiY29udGVudC1sZW5ndGgtcmFuZ2UiLDEsMTBdXX0="

/-- 2013-05-24T00:00:00Z -/
def now0 : Int := 1369353600

/-- 2013-05-24T00:00:00Z in nanoseconds -/
def now0Ns : Int := 1369353600000000000

/-- the three verdicts on both witnesses, evaluated together: those on one form share its sorted fields and its
    decoded policy -/
theorem verdicts : ∀ w ∈ [(expiredPolicy, PostPolicy.Defect.expired), (violatedPolicy, .exactViolated)],
    v4CheckPostSignature hmac0 (some look0) (multipartFields (formWith w.1)) = .accept b!"AK" b!"r" b!"s3" ∧
    PostPolicy.formDefect now0 w.1 (formWith w.1) b!"bkt" 5 = some w.2 ∧
    PostPolicyModel.gate now0Ns (findFieldValue (multipartFields (formWith w.1)) b!"policy") b!"bkt"
      (multipartFields (formWith w.1)) 5 = .accessDenied := by
  unfold PostPolicy.formDefect
  rw [PostPolicyThm.parseInstant_eq_code]
  decide +kernel

/-- class `post-policy-expired-accepted` (and `post-policy-field-uncovered-accepted`: no condition at all) -/
theorem expired_condition_free_policy_accepted :
    v4CheckPostSignature hmac0 (some look0) (multipartFields (formWith expiredPolicy)) = .accept b!"AK" b!"r" b!"s3" ∧
    PostPolicy.formDefect now0 expiredPolicy (formWith expiredPolicy) b!"bkt" 5 = some .expired :=
  have h := verdicts _ List.mem_cons_self
  ⟨h.1, h.2.1⟩

/-- class `post-policy-condition-violated-accepted` -/
theorem violated_condition_accepted :
    v4CheckPostSignature hmac0 (some look0) (multipartFields (formWith violatedPolicy)) = .accept b!"AK" b!"r" b!"s3" ∧
    PostPolicy.formDefect now0 violatedPolicy (formWith violatedPolicy) b!"bkt" 5 = some .exactViolated :=
  have h := verdicts _ (List.mem_cons_of_mem _ List.mem_cons_self)
  ⟨h.1, h.2.1⟩

/-- since 64704af the POST-object gate refuses both witnesses (regression facts; the witness forms stay in
    `corpus/sigv4post.txt`, so a revert of the repair is reported as a fresh violation) -/
theorem witnesses_refused_by_gate :
    PostPolicyModel.gate now0Ns (findFieldValue (multipartFields (formWith expiredPolicy)) b!"policy") b!"bkt"
      (multipartFields (formWith expiredPolicy)) 5 = .accessDenied ∧
    PostPolicyModel.gate now0Ns (findFieldValue (multipartFields (formWith violatedPolicy)) b!"policy") b!"bkt"
      (multipartFields (formWith violatedPolicy)) 5 = .accessDenied :=
  ⟨(verdicts _ List.mem_cons_self).2.2, (verdicts _ (List.mem_cons_of_mem _ List.mem_cons_self)).2.2⟩

end S3V.Findings.C10
