import S3V.Props.C15
/-!
# C15 — the former counterexample (F-evstream-1 / F-evstream-2), restated after the repair f8c01e3

Before f8c01e3 `request_level_error` put code and message into the headers unchanged, and an error whose
message (or custom code) exceeded 65 535 bytes made `Message::serialize` fail (`SerError::IntOverflow`), so the
response body yielded an error instead of an error frame. `C15_raw_error_text_unframed` keeps that fact as a
statement about `serialize` itself (why the cut is needed); `C15_witness_message_framed` shows the corpus
witness `w-error-message-65536` is framed by the repaired model, with the message cut to 65 535 bytes.
-/
namespace S3V.C15
open S3V S3V.EvStream S3V.EvStreamSpec S3V.EvStreamThm

/-- a message carrying a header value of more than 65 535 bytes is never serialised: without
    `truncate_header_value` an over-long error text cannot be framed -/
theorem C15_raw_error_text_unframed (crc32 : Bytes → Nat) (code msg : Bytes) (h : 65535 < msg.length) (b : Bytes) :
    serialize crc32 ⟨[hdr hErrorCode code, hdr hErrorMessage msg, hdr hMessageType vError], none⟩ ≠ .ok b := by
  intro hb
  have := (sizesOk_errorMessage code msg).mp ((C15_serialize_ok_iff_sizesOk crc32 _).mp ⟨b, hb⟩)
  omega

/-- the corpus witness (code `InternalError`, message 65 536 × `m` — here any message `msg`) is framed now, and
    a client reads the code unchanged and the message cut to at most 65 535 bytes -/
theorem C15_witness_message_framed (crc32 : Bytes → Nat) (msg : Bytes) :
    ∃ b, eventIntoBytes crc32 (.error ⟨[73, 110, 116, 101, 114, 110, 97, 108, 69, 114, 114, 111, 114],
        some msg⟩) = .ok b ∧
      ∀ rest, ∃ dm, decodeFrame crc32 (b ++ rest) = some (dm, rest) ∧
        interpret dm = some (.error [73, 110, 116, 101, 114, 110, 97, 108, 69, 114, 114, 111, 114]
          (truncateHeaderValue msg)) ∧
        (truncateHeaderValue msg).length ≤ 65535 := by
  obtain ⟨b, hb⟩ := C15_error_always_framed crc32 ⟨[73, 110, 116, 101, 114, 110, 97, 108, 69, 114, 114, 111, 114],
    some msg⟩
  refine ⟨b, hb, fun rest => ?_⟩
  obtain ⟨dm, h1, h2⟩ := C15_error_recovered crc32 _ b rest hb
  refine ⟨dm, h1, ?_, (C15_error_text_truncation msg).2.1⟩
  rw [h2]
  have : truncateHeaderValue [73, 110, 116, 101, 114, 110, 97, 108, 69, 114, 114, 111, 114]
      = [73, 110, 116, 101, 114, 110, 97, 108, 69, 114, 114, 111, 114] :=
    truncateHeaderValue_eq_self _ (by decide)
  simp only [this, Option.map_some, Option.getD_some]

end S3V.C15
