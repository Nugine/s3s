import S3V.Props.C11
import S3V.Model.Path
/-!
# C11 — findings

A kernel-checked counterexample for the region excluded by `C11.WF` (a presigned URL with two `Expires`: no finding, the
request presents no credentials), and regression facts for the repaired classes. Each witness is also a line of `corpus/sigv2.txt` / `corpus/sigv2e2e.txt` and is replayed on the real
code by every run (`known_findings.d/sigv2.json`).
-/
namespace S3V.C11.Findings
open S3V S3V.SigV2 S3V.SigV2Thm

def date : Bytes × Bytes := (sp!"Date", sp!"Tue, 27 Mar 2007 19:36:42 +0000")

/-- repaired by 19510e9 (was finding `positional-header-repeated`, corpus `w-sts-content-type-twice`):
    Content-Type sent twice -/
def rCtypeTwice : SigV2Spec.Req :=
  ⟨sp!"GET", [date, (sp!"Content-Type", sp!"a/b"), (sp!"Content-Type", sp!"c/d")], sp!"/bkt/k", [], none⟩

/-- the code signs the document's reading of the repeated field, the comma-joined values (it used to sign
    an empty Content-Type element), and the request is inside the region of `C11_sts_impl_eq_spec_partial` -/
theorem C11_repaired_positional_repeated :
    stsImpl .header rCtypeTwice = sp!"GET\n\na/b,c/d\nTue, 27 Mar 2007 19:36:42 +0000\n/bkt/k" ∧
    stsSpec .header rCtypeTwice = sp!"GET\n\na/b,c/d\nTue, 27 Mar 2007 19:36:42 +0000\n/bkt/k" ∧
    C11.WF .header rCtypeTwice := by decide +kernel

/-- no longer the string to sign of the request without any Content-Type: two Content-Type lines added to
    a signed request change what is signed (corpus `w-content-type-twice-unsigned`) -/
theorem C11_repaired_positional_tamper :
    stsImpl .header rCtypeTwice ≠ stsImpl .header ⟨sp!"GET", [date], sp!"/bkt/k", [], none⟩ := by decide +kernel

/-- the same for Content-MD5 and for Date (two Date lines used to be signed as no Date, and refused with
    'missing date' when there was no x-amz-date): both are signed comma-joined, the request carries a time stamp -/
def rMd5DateTwice : SigV2Spec.Req :=
  ⟨sp!"PUT", [(sp!"Date", sp!"D1"), (sp!"content-md5", sp!"m1"), (sp!"DATE", sp!"D2"), (sp!"Content-MD5", sp!"m2"),
    (sp!"Authorization", sp!"AWS AK:")], sp!"/bkt/k", [], none⟩

theorem C11_repaired_positional_md5_date :
    stsImpl .header rMd5DateTwice = sp!"PUT\nm1,m2\n\nD1,D2\n/bkt/k" ∧
    stsSpec .header rMd5DateTwice = sp!"PUT\nm1,m2\n\nD1,D2\n/bkt/k" ∧
    hasDate (ctxOf rMd5DateTwice) = true ∧ SigV2Spec.hasDate rMd5DateTwice = true ∧
    valuesVisible rMd5DateTwice = true := by decide +kernel

/-- and the verdict on it is the specification's, for every MAC, credential table and clock reading
    (`C11_verdict_iff_spec` at this request) -/
theorem C11_repaired_positional_verdict (hmac : Bytes → Bytes → Bytes) (b64 : Bytes → Bytes)
    (lookup : Bytes → Option Bytes) (nowNs : Int) (ak : Bytes) (hnow : 0 ≤ nowNs) (hclock : nowNs ≤ maxDateTimeNs) :
    check hmac b64 lookup nowNs (ctxOf rMd5DateTwice) = .accept ak ↔
      SigV2Spec.Accepts hmac b64 lookup nowNs rMd5DateTwice ak :=
  C11.C11_verdict_iff_spec hmac b64 lookup nowNs _ ak hnow hclock (by decide +kernel)

/-- repaired by d895b5e (was finding `xamzdate-repeated`, corpus `w-sts-xamzdate-twice`): x-amz-date sent
    twice blanks the Date element (it used to leave `D` there) -/
def rXAmzDateTwice : SigV2Spec.Req :=
  ⟨sp!"GET", [(sp!"Date", sp!"D"), (sp!"x-amz-date", sp!"A"), (sp!"x-amz-date", sp!"B")], sp!"/bkt/k", [], none⟩

theorem C11_repaired_xamzdate_repeated :
    stsImpl .header rXAmzDateTwice = sp!"GET\n\n\n\nx-amz-date:A,B\n/bkt/k" ∧
    stsSpec .header rXAmzDateTwice = sp!"GET\n\n\n\nx-amz-date:A,B\n/bkt/k" ∧
    C11.WF .header rXAmzDateTwice := by decide +kernel

/-- x-amz-date twice and no Date (end to end this was refused with 'missing date'): the request carries a
    time stamp for the code as for the specification -/
def rXAmzDateTwiceNoDate : SigV2Spec.Req :=
  ⟨sp!"GET", [(sp!"x-amz-date", sp!"A"), (sp!"x-amz-date", sp!"B"), (sp!"Authorization", sp!"AWS AK:")],
    sp!"/bkt/k", [], none⟩

theorem C11_repaired_xamzdate_repeated_has_date :
    hasDate (ctxOf rXAmzDateTwiceNoDate) = true ∧ SigV2Spec.hasDate rXAmzDateTwiceNoDate = true ∧
    stsImpl .header rXAmzDateTwiceNoDate = sp!"GET\n\n\n\nx-amz-date:A,B\n/bkt/k" := by decide +kernel

/-- this request, correctly "signed" for the constant MAC, is accepted by the specification and by the code (before
    d895b5e the code refused it with 'missing date') -/
theorem C11_repaired_xamzdate_repeated_accepted :
    check (fun _ _ => []) id (fun _ => some []) 0 (ctxOf rXAmzDateTwiceNoDate) = .accept (sp!"AK") ∧
    SigV2Spec.acceptedKey (fun _ _ => []) id (fun _ => some []) 0 rXAmzDateTwiceNoDate = some (sp!"AK") := by
  decide +kernel

/-- and the verdict on it is the specification's for every MAC, credential table and clock reading -/
theorem C11_repaired_xamzdate_repeated_verdict (hmac : Bytes → Bytes → Bytes) (b64 : Bytes → Bytes)
    (lookup : Bytes → Option Bytes) (nowNs : Int) (ak : Bytes) (hnow : 0 ≤ nowNs) (hclock : nowNs ≤ maxDateTimeNs) :
    check hmac b64 lookup nowNs (ctxOf rXAmzDateTwiceNoDate) = .accept ak ↔
      SigV2Spec.Accepts hmac b64 lookup nowNs rXAmzDateTwiceNoDate ak :=
  C11.C11_verdict_iff_spec hmac b64 lookup nowNs _ ak hnow hclock (by decide +kernel)

/-- what `C11.WF .query` still excludes: a presigned URL with two `Expires` parameters. The code writes an
    empty Expires element, the comma-joined reading has both; neither side reads credentials off such a
    request (`C11_expires_repeated_no_credentials`), so no verdict depends on it and it is no finding -/
def rExpiresTwice : SigV2Spec.Req :=
  ⟨sp!"GET", [], sp!"/bkt/k", [(sp!"Expires", sp!"1"), (sp!"Expires", sp!"2")], none⟩

theorem C11_counterexample_expires_repeated :
    stsImpl .query rExpiresTwice = sp!"GET\n\n\n\n/bkt/k" ∧
    stsSpec .query rExpiresTwice = sp!"GET\n\n\n1,2\n/bkt/k" ∧
    ¬ C11.WF .query rExpiresTwice ∧ SigV2Spec.credentials rExpiresTwice = none := by decide +kernel

/-- hence the full statement about the string to sign is false of the model -/
theorem C11_sts_impl_eq_spec_full_false : ¬ C11.C11_sts_impl_eq_spec_full := by
  intro h
  have := h .query rExpiresTwice (by decide +kernel)
  revert this
  decide +kernel

/-- repaired by 55f3d9c (was finding `expires-out-of-range`, corpus `w-presign-expires-year-10000`): the
    second after 9999-12-31T23:59:59Z used to be refused by `PresignedUrlV2::parse`; now the credentials
    are read as the specification reads them and the expiry is held as the last instant the clock can show -/
def qYear10000 : Pairs :=
  [(sp!"AWSAccessKeyId", sp!"AK"), (sp!"Signature", sp!"c2ln"), (sp!"Expires", sp!"253402300800")]

theorem C11_repaired_expires_out_of_range :
    parsePresigned (sortByFirst qYear10000) = some ⟨sp!"AK", maxDateTimeNs, sp!"c2ln"⟩ ∧
    SigV2Spec.credentials ⟨sp!"GET", [], sp!"/bkt/k", qYear10000, none⟩ =
      some ⟨.query, sp!"AK", sp!"c2ln", some 253402300800⟩ ∧
    valuesVisible ⟨sp!"GET", [], sp!"/bkt/k", qYear10000, none⟩ = true := by decide +kernel

/-- the same for a number of seconds beyond `i64` (generator tag `expires-i64-overflow`), while a text that
    only starts like one is still refused -/
theorem C11_repaired_expires_beyond_i64 :
    parseUnixTimestamp (sp!"9223372036854775808") = some maxDateTimeNs ∧
    parseUnixTimestamp (sp!"+99999999999999999999999") = some maxDateTimeNs ∧
    parseUnixTimestamp (sp!"253402300799") = some 253402300799000000000 ∧
    parseUnixTimestamp (sp!"99999999999999999999999x") = none ∧
    parseUnixTimestamp (sp!"-99999999999999999999999") = none := by decide +kernel

/-- and the verdict on the year-10000 URL is the specification's, for every MAC, credential table and clock
    reading in the range of the clock (`C11_verdict_iff_spec` at this request) -/
theorem C11_repaired_expires_out_of_range_verdict (hmac : Bytes → Bytes → Bytes) (b64 : Bytes → Bytes)
    (lookup : Bytes → Option Bytes) (nowNs : Int) (ak : Bytes) (hnow : 0 ≤ nowNs) (hclock : nowNs ≤ maxDateTimeNs) :
    check hmac b64 lookup nowNs (ctxOf ⟨sp!"GET", [], sp!"/bkt/k", qYear10000, none⟩) = .accept ak ↔
      SigV2Spec.Accepts hmac b64 lookup nowNs ⟨sp!"GET", [], sp!"/bkt/k", qYear10000, none⟩ ak :=
  C11.C11_verdict_iff_spec hmac b64 lookup nowNs _ ak hnow hclock (by decide +kernel)

/-- repaired by a503c6a (was finding `signature-double-encoded`, corpus `w-presign-signature-double-encoded`): the
    value `ab%3D` (what `Signature=ab%253D` decodes to) is compared as it stands, as the specification
    reads it — it used to be percent-decoded a second time and compared as `ab=` -/
def qDoubleEncoded : Pairs :=
  [(sp!"AWSAccessKeyId", sp!"AK"), (sp!"Signature", sp!"ab%3D"), (sp!"Expires", sp!"1175139620")]

theorem C11_repaired_signature_double_encoded :
    (parsePresigned (sortByFirst qDoubleEncoded)).map (·.signature) = some (sp!"ab%3D") ∧
    (SigV2Spec.credentials ⟨sp!"GET", [], sp!"/bkt/k", qDoubleEncoded, none⟩).map (·.signature) =
      some (sp!"ab%3D") ∧
    valuesVisible ⟨sp!"GET", [], sp!"/bkt/k", qDoubleEncoded, none⟩ = true := by decide +kernel

/-- and the verdict on it is the specification's, for every MAC, credential table and clock
    (`C11_verdict_iff_spec` at this request) -/
theorem C11_repaired_signature_double_encoded_verdict (hmac : Bytes → Bytes → Bytes) (b64 : Bytes → Bytes)
    (lookup : Bytes → Option Bytes) (nowNs : Int) (ak : Bytes) (hnow : 0 ≤ nowNs) (hclock : nowNs ≤ maxDateTimeNs) :
    check hmac b64 lookup nowNs (ctxOf ⟨sp!"GET", [], sp!"/bkt/k", qDoubleEncoded, none⟩) = .accept ak ↔
      SigV2Spec.Accepts hmac b64 lookup nowNs ⟨sp!"GET", [], sp!"/bkt/k", qDoubleEncoded, none⟩ ak :=
  C11.C11_verdict_iff_spec hmac b64 lookup nowNs _ ak hnow hclock (by decide +kernel)

/-- repaired by 05097be (was finding `subresource-duplicated`, corpus `w-sts-subresource-twice`): a
    sub-resource written twice is signed twice -/
theorem C11_repaired_subresource_repeated :
    stsImpl .header ⟨sp!"GET", [date], sp!"/bkt/k", [(sp!"acl", []), (sp!"acl", [])], none⟩ =
      sp!"GET\n\n\nTue, 27 Mar 2007 19:36:42 +0000\n/bkt/k?acl&acl" := by decide +kernel

/-- repaired by c922d5e (was finding `vhost-bucket-derivation`, corpus `doc-upload-host-with-port` of
    `corpus/sigv2e2e.txt`): for the Host of the documentation's Upload example, `static.example.com:8080`,
    the host parser of `prepare` (`SingleDomain`, model `S3V.Host`, C12) derives the bucket the document
    signs, `static.example.com` — it used to derive `static.example.com:8080` — and `prepare` resolves
    `PUT /db-backup.dat.gz` to that bucket instead of answering `InvalidBucketName` before the signature
    is looked at; for every host name and port this is `C12_host_port_not_in_bucket` -/
theorem C11_repaired_vhost_bucket_derivation :
    (Host.singleParse (sp!"s3.us-west-1.amazonaws.com") (sp!"static.example.com:8080")).map (·.bucket) =
      some (SigV2Spec.vhBucketOf (sp!"s3.us-west-1.amazonaws.com") (sp!"static.example.com:8080")) ∧
    SigV2Spec.exUpload.vhBucket =
      SigV2Spec.vhBucketOf (sp!"s3.us-west-1.amazonaws.com") (sp!"static.example.com:8080") ∧
    Path.classify (.single (sp!"s3.us-west-1.amazonaws.com")) (some (sp!"static.example.com:8080"))
      (sp!"/db-backup.dat.gz") = .ok (.object (sp!"static.example.com") (sp!"db-backup.dat.gz")) :=
  ⟨by decide +kernel, by decide +kernel, by rfl⟩

end S3V.C11.Findings
