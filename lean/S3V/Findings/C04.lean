import S3V.Props.C04
/-!
# C04 — regression example for finding `F-errdoc-1` (fixed in /repo by commit 7fbc5bc)

Before the repair `xml::ser::text` wrote U+000D raw; an XML 1.0 reader (§2.11) passes a lone `#xD` on as
`#xA`, so an error whose message is `a\rb` was read back as `a\nb` and the round-trip statement was false.
After the repair the model writes `&#13;`, `S3V.C04.C04_error_doc_roundtrip` holds for all carriable strings, and that
input is a kernel-evaluated regression example here.  The same input is replayed on the real code by `corpus/errdoc.txt`
(`w-cr-message`, `w-crlf-request-id`).  Outside the pass/fail gate.
-/
namespace S3V.Findings.C04
open S3V S3V.Gen.Errors S3V.ErrorDoc S3V.ErrorDocSpec S3V.ErrorDocThm S3V.C04

/-- `S3Error::with_message(NoSuchKey, "a\rb")` -/
def eCR : S3Error :=
  { code := .known .NoSuchKey, message := some [97, 13, 98], requestId := none, statusCode := none, headers := none }

def nameCR : Bytes := variantIdent .NoSuchKey

/-- the message element is written `a&#13;b` -/
theorem cr_written_as_reference :
    optElement tMessage eCR.message
      = [60] ++ tMessage ++ [62] ++ [97, 38, 35, 49, 51, 59, 98] ++ [60, 47] ++ tMessage ++ [62] := by decide

/-- and the document says what the error said: the carriage return comes back -/
theorem cr_read_back :
    parseErrorDoc (bodyOf nameCR eCR false)
      = some { code := nameCR, message := some [97, 13, 98], requestId := none } := by decide +kernel

/-- what a raw carriage return would be read as (the behaviour before the repair): a line feed -/
theorem raw_cr_would_read_as_lf :
    parseErrorDoc ([60] ++ nError ++ [62] ++ [60] ++ nCode ++ [62, 88, 60, 47] ++ nCode ++ [62]
        ++ [60] ++ nMessage ++ [62, 97, 13, 98, 60, 47] ++ nMessage ++ [62] ++ [60, 47] ++ nError ++ [62])
      = some { code := [88], message := some [97, 10, 98], requestId := none } := by decide +kernel

end S3V.Findings.C04
