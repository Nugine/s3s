import S3V.Model.Route
/-!
# Spec: which operation a request denotes, from the Smithy model alone

`Denotes s r`: request `r` is a well-formed request of the operation whose Smithy wire shape is `s`:
right method and path kind, every literal query flag / `key=value` pattern of the operation's URI present,
every required query member present, no query key that the operation does not define (`x-id` is always
allowed), every required discriminating header present and no discriminating header the operation does not
define. Discriminating headers are the ones a router may legitimately look at: `x-amz-copy-source`,
`x-amz-request-route`, `x-amz-request-token`.

`WeaklyDenotes s r`: the request at least carries the operation's method, path kind, literal query parts and
required discriminating headers. A request that weakly denotes no operation denotes no operation at all.
-/
namespace S3V.RouteSpec
open S3V.Gen S3V.Route

def allowedQ (s : OpSpec) (k : QKey) : Bool :=
  s.litFlags.contains k || (s.litPats.map (·.1)).contains k || s.reqQ.contains k || s.optQ.contains k
    || k == QKey.q_x_id

def allowedH (s : OpSpec) (h : HKey) : Bool := s.reqH.contains h || s.optH.contains h

structure Denotes (s : OpSpec) (r : RReq) : Prop where
  method : r.method = s.method
  pk : r.pk = s.pk
  flags : ∀ k ∈ s.litFlags, r.q k ≠ .absent
  pats : ∀ kv ∈ s.litPats, r.q kv.1 = .once kv.2
  reqQ : ∀ k ∈ s.reqQ, r.q k ≠ .absent
  onlyQ : ∀ k, r.q k ≠ .absent → allowedQ s k = true
  reqH : ∀ h ∈ s.reqH, r.h h = true
  onlyH : ∀ h, r.h h = true → allowedH s h = true

structure WeaklyDenotes (s : OpSpec) (r : RReq) : Prop where
  method : r.method = s.method
  pk : r.pk = s.pk
  flags : ∀ k ∈ s.litFlags, r.q k ≠ .absent
  pats : ∀ kv ∈ s.litPats, r.q kv.1 = .once kv.2
  reqH : ∀ h ∈ s.reqH, r.h h = true

theorem Denotes.weakly {s r} (h : Denotes s r) : WeaklyDenotes s r :=
  ⟨h.method, h.pk, h.flags, h.pats, h.reqH⟩

end S3V.RouteSpec

namespace S3V.RouteSpec
open S3V.Gen S3V.Route

/-- executable form of `WeaklyDenotes` (used by the driver to decide "denotes no operation") -/
def weaklyDenotesB (s : OpSpec) (r : RReq) : Bool :=
  r.method == s.method && r.pk == s.pk
    && s.litFlags.all (fun k => r.q k != .absent)
    && s.litPats.all (fun kv => r.q kv.1 == .once kv.2)
    && s.reqH.all (fun h => r.h h)

theorem weaklyDenotesB_iff (s : OpSpec) (r : RReq) : weaklyDenotesB s r = true ↔ WeaklyDenotes s r := by
  simp only [weaklyDenotesB, Bool.and_eq_true, beq_iff_eq, List.all_eq_true, bne_iff_ne, ne_eq]
  constructor
  · rintro ⟨⟨⟨⟨h1, h2⟩, h3⟩, h4⟩, h5⟩
    exact ⟨h1, h2, h3, h4, h5⟩
  · intro h
    exact ⟨⟨⟨⟨h.method, h.pk⟩, h.flags⟩, h.pats⟩, h.reqH⟩

instance (s : OpSpec) (r : RReq) : Decidable (WeaklyDenotes s r) :=
  decidable_of_iff _ (weaklyDenotesB_iff s r)

end S3V.RouteSpec
