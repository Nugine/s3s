/-!
# Base: byte strings, hex and decimal text, line protocol helpers

Import-free (core Lean only) so that every driver links as a `lean_exe`.
`Bytes := List UInt8` is the one text representation used by all models: a Rust `&str`/`&[u8]`
is its UTF-8 bytes.
-/

abbrev Bytes := List UInt8

namespace S3V

/-- bytes of an ASCII/UTF-8 Lean string (driver side only; literals do not reduce in the kernel) -/
def sb (s : String) : Bytes := s.toUTF8.toList

def hexDigit (n : Nat) : Char :=
  if n < 10 then Char.ofNat (48 + n) else Char.ofNat (87 + n)

def hexEncode (b : Bytes) : String :=
  String.ofList (b.flatMap fun x => [hexDigit (x.toNat / 16), hexDigit (x.toNat % 16)])

def hexVal (c : Char) : Option Nat :=
  if '0' ≤ c ∧ c ≤ '9' then some (c.toNat - 48)
  else if 'a' ≤ c ∧ c ≤ 'f' then some (c.toNat - 87)
  else if 'A' ≤ c ∧ c ≤ 'F' then some (c.toNat - 55)
  else none

def hexDecodeAux : List Char → Bytes → Option Bytes
  | [], acc => some acc.reverse
  | [_], _ => none
  | a :: b :: rest, acc =>
    match hexVal a, hexVal b with
    | some x, some y => hexDecodeAux rest (UInt8.ofNat (x * 16 + y) :: acc)
    | _, _ => none

def hexDecode (s : String) : Option Bytes := hexDecodeAux s.toList []

/-- Option field: `-` is none, `+hex` is some -/
def optHexDecode (s : String) : Option (Option Bytes) :=
  if s = "-" then some none
  else match s.toList with
    | '+' :: rest => (hexDecodeAux rest []).map some
    | _ => none

def optHexEncode : Option Bytes → String
  | none => "-"
  | some b => "+" ++ hexEncode b

/-- `,`-joined hex items; the empty string is the empty list, a lone `.` is one empty item -/
def listHexDecode (s : String) : Option (List Bytes) :=
  if s = "" then some []
  else (s.splitOn ",").mapM fun it => if it = "." then some [] else hexDecode it

def listHexEncode (l : List Bytes) : String :=
  ",".intercalate (l.map fun b => if b = [] then "." else hexEncode b)

def boolStr (b : Bool) : String := if b then "1" else "0"

/-! ## decimal text -/

def digitChar (d : Nat) : UInt8 := UInt8.ofNat (48 + d)

/-- decimal formatting, most significant digit first (`itoa` / `{}` for unsigned integers) -/
def fmtDec (n : Nat) : Bytes :=
  if _h : n < 10 then [digitChar n] else fmtDec (n / 10) ++ [digitChar (n % 10)]
termination_by n
decreasing_by omega

def isDigit (c : UInt8) : Bool := 48 ≤ c.toNat && c.toNat ≤ 57

/-- value of an all-digit string (accumulator form); `none` as soon as a non-digit is seen -/
def digitsVal : Bytes → Nat → Option Nat
  | [], acc => some acc
  | c :: cs, acc => if isDigit c then digitsVal cs (acc * 10 + (c.toNat - 48)) else none

theorem toNat_ofNat_lt {k : Nat} (h : k < 256) : (UInt8.ofNat k).toNat = k :=
  UInt8.toNat_ofNat_of_lt' h

theorem digitChar_toNat {d : Nat} (h : d < 10) : (digitChar d).toNat = 48 + d := by
  simp [digitChar, UInt8.toNat_ofNat]; omega

theorem isDigit_digitChar {d : Nat} (h : d < 10) : isDigit (digitChar d) = true := by
  simp [isDigit, digitChar_toNat h]; omega

theorem digitsVal_append (xs ys : Bytes) (a : Nat) :
    digitsVal (xs ++ ys) a = (digitsVal xs a).bind (fun v => digitsVal ys v) := by
  induction xs generalizing a with
  | nil => simp [digitsVal]
  | cons c cs ih =>
    simp only [List.cons_append, digitsVal]
    split
    · exact ih _
    · rfl

/-- a text with a decimal value consists of digits -/
theorem digitsVal_all_digits {s : Bytes} {a v : Nat} (h : digitsVal s a = some v) : ∀ c ∈ s, isDigit c = true := by
  induction s generalizing a with
  | nil => exact fun _ hc => nomatch hc
  | cons x xs ih =>
    by_cases hx : isDigit x = true
    · rw [digitsVal, if_pos hx] at h
      exact List.forall_mem_cons.mpr ⟨hx, ih h⟩
    · rw [digitsVal, if_neg hx] at h
      cases h

theorem digitsVal_single {d : Nat} (h : d < 10) (a : Nat) :
    digitsVal [digitChar d] a = some (a * 10 + d) := by
  have := digitChar_toNat h
  simp [digitsVal, isDigit, this]; omega

theorem digitsVal_fmtDec (n : Nat) :
    ∀ a, digitsVal (fmtDec n) a = some (a * 10 ^ (fmtDec n).length + n) := by
  induction n using Nat.strongRecOn with
  | _ n ih =>
    intro a
    rw [fmtDec]
    split
    · rename_i h
      rw [digitsVal_single h]; simp
    · rename_i h
      have hlt : n / 10 < n := by omega
      rw [digitsVal_append, ih _ hlt, Option.bind_some, digitsVal_single (by omega)]
      simp only [List.length_append, List.length_singleton, Nat.pow_succ]
      congr 1
      have := Nat.div_add_mod n 10
      rw [Nat.add_mul, Nat.mul_assoc]
      omega

/-- decimal text round trip: the lemma every length / offset / timestamp field rests on -/
theorem digitsVal_fmtDec_zero (n : Nat) : digitsVal (fmtDec n) 0 = some n := by
  simpa using digitsVal_fmtDec n 0

theorem fmtDec_ne_nil (n : Nat) : fmtDec n ≠ [] := by
  rw [fmtDec]; split <;> simp

theorem fmtDec_all_digits (n : Nat) : ∀ c ∈ fmtDec n, isDigit c = true :=
  digitsVal_all_digits (digitsVal_fmtDec_zero n)

/-! ## line protocol -/

def fields (line : String) : List String :=
  (line.dropEndWhile (fun c => c = '\n' || c = '\r')).toString.splitOn "\t"

/-- split the case line at the `|` field: inputs, implementation outputs -/
def splitBar (fs : List String) : List String × List String :=
  let ins := fs.takeWhile (· ≠ "|")
  (ins, (fs.dropWhile (· ≠ "|")).drop 1)

/-- drive a per-line judge over stdin; each answer line is `id \t VERDICT \t class \t detail` -/
partial def driveLoop (h : IO.FS.Stream) (judge : List String → String) (n : Nat) : IO Nat := do
  let line ← h.getLine
  if line.isEmpty then return n
  if line = "\n" then driveLoop h judge n
  else
    IO.println (judge (fields line))
    driveLoop h judge (n + 1)

def driveMain (judge : List String → String) : IO Unit := do
  let stdin ← IO.getStdin
  let n ← driveLoop stdin judge 0
  IO.println s!"STATS\tlines={n}"

def agree (id : String) (cls : String := "") : String := s!"{id}\tAGREE\t{cls}\t"
def disagree (id model impl : String) : String := s!"{id}\tDISAGREE\t\tmodel={model} impl={impl}"
def specfail (id cls detail : String) : String := s!"{id}\tSPECFAIL\t{cls}\t{detail}"
def unmodelled (id reason : String) : String := s!"{id}\tUNMODELLED\t{reason}\t"
def badline (id : String) : String := s!"{id}\tBADLINE\t\t"

end S3V
