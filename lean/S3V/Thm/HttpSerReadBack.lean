import S3V.Thm.HeaderMap
import S3V.Thm.ListLemmas
/-!
# Lemmas: the header half of `serialize_http` read back by a client (C03, output direction, all operations)

When the model's `serializeHeaders` returns `Ok`, the map is `applyWrites` of the writes of its statements; under the side
conditions on the statement shapes (`SideOk`) all writes under one name carry one value (`writes_functional`), so
`Thm/HeaderMap` says what the map holds under every name. `Setup.*` read that back through the client's readers from any
post-processing `final` of the map that leaves the relevant names alone: a member from `hGetAll final n = hGetAll ser n`
(`Setup.read_member`), the metadata family from the same at every prefixed name (`Setup.metadataReadBack`).
-/
namespace S3V.HttpSerThm
open S3V S3V.KeepAlive S3V.HttpSerHeaders S3V.HttpRespBinding

/-- `headerChar` is the table `HEADER_CHARS` of `http-1.3.1/src/header/name.rs`, entry by entry (the literal is
    transcribed mechanically from that file) -/
theorem headerChar_table : (List.range 256).map (fun n => headerChar (UInt8.ofNat n)) =
  [0, 0, 0, 0, 0, 0, 0, 0, 0, 0, 0, 0, 0, 0, 0, 0,
   0, 0, 0, 0, 0, 0, 0, 0, 0, 0, 0, 0, 0, 0, 0, 0,
   0, 33, 0, 35, 36, 37, 38, 39, 0, 0, 42, 43, 0, 45, 46, 0,
   48, 49, 50, 51, 52, 53, 54, 55, 56, 57, 0, 0, 0, 0, 0, 0,
   0, 97, 98, 99, 100, 101, 102, 103, 104, 105, 106, 107, 108, 109, 110, 111,
   112, 113, 114, 115, 116, 117, 118, 119, 120, 121, 122, 0, 0, 0, 94, 95,
   96, 97, 98, 99, 100, 101, 102, 103, 104, 105, 106, 107, 108, 109, 110, 111,
   112, 113, 114, 115, 116, 117, 118, 119, 120, 121, 122, 0, 124, 0, 126, 0,
   0, 0, 0, 0, 0, 0, 0, 0, 0, 0, 0, 0, 0, 0, 0, 0,
   0, 0, 0, 0, 0, 0, 0, 0, 0, 0, 0, 0, 0, 0, 0, 0,
   0, 0, 0, 0, 0, 0, 0, 0, 0, 0, 0, 0, 0, 0, 0, 0,
   0, 0, 0, 0, 0, 0, 0, 0, 0, 0, 0, 0, 0, 0, 0, 0,
   0, 0, 0, 0, 0, 0, 0, 0, 0, 0, 0, 0, 0, 0, 0, 0,
   0, 0, 0, 0, 0, 0, 0, 0, 0, 0, 0, 0, 0, 0, 0, 0,
   0, 0, 0, 0, 0, 0, 0, 0, 0, 0, 0, 0, 0, 0, 0, 0,
   0, 0, 0, 0, 0, 0, 0, 0, 0, 0, 0, 0, 0, 0, 0, 0] := by
  decide +kernel

theorem lowerByte_headerChar (b : UInt8) : lowerByte (headerChar b) = headerChar b := by
  have h : ∀ c ∈ (List.range 256).map (fun n => headerChar (UInt8.ofNat n)), lowerByte c = c := by
    rw [headerChar_table]
    decide +kernel
  exact h _ (List.mem_map.mpr ⟨b.toNat, List.mem_range.mpr b.toNat_lt, by rw [UInt8.ofNat_toNat]⟩)

theorem lowerName_metaPrefix : lowerName metaPrefix = metaPrefix := by decide

theorem lowerName_append (a b : Bytes) : lowerName (a ++ b) = lowerName a ++ lowerName b := by
  simp [lowerName]

/-- the key under which a client finds the metadata entry written for key `k`: `HEADER_CHARS` applied to
    every byte (ASCII lower-casing of a valid key) -/
def normKey (k : Bytes) : Bytes := k.map headerChar

theorem lowerName_normKey (k : Bytes) : lowerName (normKey k) = normKey k := by
  simp [normKey, lowerName, lowerByte_headerChar]

theorem headerNameFromBytes_meta {k : Bytes} {n : HName} (h : headerNameFromBytes (metaPrefix ++ k) = some n) :
    n = metaPrefix ++ normKey k := by
  unfold headerNameFromBytes at h
  split at h
  · cases h
  · split at h
    · cases h
    · injection h with h
      rw [← h, List.map_append, show metaPrefix.map headerChar = metaPrefix by decide]; rfl

theorem headerValueFromString_eq {s : Bytes} {v : HVal} (h : headerValueFromString s = some v) : v = s := by
  unfold headerValueFromString at h
  split at h
  · injection h with h; exact h.symm
  · cases h

section
variable {T V : Type}

/-- the `insert` the loop of `add_opt_metadata` performs for one pair (when both conversions succeed) -/
def mdWrite (kv : Bytes × Bytes) : Option (HName × HVal) :=
  match headerNameFromBytes (metaPrefix ++ kv.1), headerValueFromString kv.2 with
  | some n, some v => some (n, v)
  | _, _ => none

theorem mdWrite_eq_some {kv : Bytes × Bytes} {w : HName × HVal} (h : mdWrite kv = some w) :
    w = (metaPrefix ++ normKey kv.1, kv.2) := by
  unfold mdWrite at h
  split at h
  · rename_i n v hn hv
    injection h with h
    rw [← h, headerNameFromBytes_meta hn, headerValueFromString_eq hv]
  · cases h

/-- the `insert`s one statement performs (conversions that fail contribute nothing) -/
def stmtWrites (conv : T → V → Option HVal) : Stmt T V → List (HName × HVal)
  | .optHeader n t (some v) =>
    match conv t v with
    | some val => [(n, val)]
    | none => []
  | .optHeader _ _ none => []
  | .optMetadata none => []
  | .optMetadata (some md) => md.filterMap mdWrite

/-- every conversion of the statement succeeds -/
def stmtOkB (conv : T → V → Option HVal) : Stmt T V → Bool
  | .optHeader _ t (some v) => (conv t v).isSome
  | .optHeader _ _ none => true
  | .optMetadata none => true
  | .optMetadata (some md) => md.all fun kv => (mdWrite kv).isSome

/-- the `insert`s of a statement list, in statement order -/
def allWrites (conv : T → V → Option HVal) (stmts : List (Stmt T V)) : List (HName × HVal) :=
  stmts.flatMap (stmtWrites conv)

theorem allWrites_cons (conv : T → V → Option HVal) (s : Stmt T V) (rest : List (Stmt T V)) :
    allWrites conv (s :: rest) = stmtWrites conv s ++ allWrites conv rest := by
  simp [allWrites]

/-- `insert`s in a row, each guarded by the overflow oracle -/
def insertAll (full : Hdrs → HName → Bool) (h : Hdrs) : List (HName × HVal) → Except Fail Hdrs
  | [] => .ok h
  | w :: ws => if full h w.1 then .error .panicMaxSize else insertAll full (hInsert h w.1 w.2) ws

section
variable {full : Hdrs → HName → Bool} {conv : T → V → Option HVal} {h h' : Hdrs}

theorem insertAll_ok {ws : List (HName × HVal)} (hok : insertAll full h ws = .ok h') : h' = applyWrites h ws := by
  induction ws generalizing h with
  | nil => cases hok; rfl
  | cons w ws ih =>
    rw [insertAll] at hok
    split at hok
    · cases hok
    · exact ih hok

theorem insertAll_of_not_full (hfull : ∀ h n, full h n = false) (ws : List (HName × HVal)) :
    insertAll full h ws = .ok (applyWrites h ws) := by
  induction ws generalizing h with
  | nil => rfl
  | cons w ws ih => rw [insertAll, hfull, if_neg Bool.false_ne_true, ih, applyWrites_cons]

theorem insertAll_append (a b : List (HName × HVal)) :
    insertAll full h (a ++ b) = .ok h' ↔ ∃ h1, insertAll full h a = .ok h1 ∧ insertAll full h1 b = .ok h' := by
  induction a generalizing h with
  | nil => simp [insertAll]
  | cons w a ih =>
    simp only [List.cons_append, insertAll]
    split
    · simp
    · exact ih

theorem addMetadataLoop_cons (kv : Bytes × Bytes) (rest : Metadata) :
    addMetadataLoop full h (kv :: rest) =
      match mdWrite kv with
      | none => .error .internalError
      | some w => if full h w.1 then .error .panicMaxSize else addMetadataLoop full (hInsert h w.1 w.2) rest := by
  obtain ⟨key, val⟩ := kv
  simp only [addMetadataLoop, mdWrite, insertHeader]
  cases headerNameFromBytes (metaPrefix ++ key) with
  | none => rfl
  | some name =>
    cases headerValueFromString val with
    | none => rfl
    | some value => by_cases hf : full h name = true <;> simp [hf]

theorem addMetadataLoop_eq_ok {md : Metadata} :
    addMetadataLoop full h md = .ok h' ↔
      md.all (fun kv => (mdWrite kv).isSome) = true ∧ insertAll full h (md.filterMap mdWrite) = .ok h' := by
  induction md generalizing h with
  | nil => simp [addMetadataLoop, insertAll]
  | cons kv rest ih =>
    rw [addMetadataLoop_cons, List.all_cons, List.filterMap_cons]
    cases mdWrite kv with
    | none => simp
    | some w =>
      simp only [insertAll, Option.isSome_some, Bool.true_and]
      split
      · simp
      · exact ih

theorem exec_eq_ok {s : Stmt T V} :
    exec full conv h s = .ok h' ↔ stmtOkB conv s = true ∧ insertAll full h (stmtWrites conv s) = .ok h' := by
  cases s with
  | optHeader n t value =>
    cases value with
    | none => simp [exec, HttpSerHeaders.addOptHeader, stmtOkB, stmtWrites, insertAll]
    | some v =>
      simp only [exec, HttpSerHeaders.addOptHeader, stmtOkB, stmtWrites]
      cases conv t v with
      | none => simp
      | some val => simp [insertHeader, insertAll]
  | optMetadata md =>
    cases md with
    | none => simp [exec, addOptMetadata, stmtOkB, stmtWrites, insertAll]
    | some m => exact addMetadataLoop_eq_ok

theorem serializeHeaders_cons_ok {s : Stmt T V} {rest : List (Stmt T V)} :
    serializeHeaders full conv h (s :: rest) = .ok h' ↔
      ∃ h1, exec full conv h s = .ok h1 ∧ serializeHeaders full conv h1 rest = .ok h' := by
  simp only [serializeHeaders]
  cases exec full conv h s <;> simp

theorem serializeHeaders_eq_ok {stmts : List (Stmt T V)} :
    serializeHeaders full conv h stmts = .ok h' ↔
      stmts.all (stmtOkB conv) = true ∧ insertAll full h (allWrites conv stmts) = .ok h' := by
  induction stmts generalizing h with
  | nil => simp [serializeHeaders, allWrites, insertAll]
  | cons s rest ih =>
    simp only [serializeHeaders_cons_ok, exec_eq_ok, ih, allWrites_cons, insertAll_append, List.all_cons, Bool.and_eq_true]
    constructor
    · rintro ⟨h1, ⟨hs, hi⟩, hr, hj⟩
      exact ⟨⟨hs, hr⟩, h1, hi, hj⟩
    · rintro ⟨⟨hs, hr⟩, h1, hi, hj⟩
      exact ⟨h1, ⟨hs, hi⟩, hr, hj⟩

theorem serializeHeaders_ok {stmts : List (Stmt T V)} (hok : serializeHeaders full conv h stmts = .ok h') :
    stmts.all (stmtOkB conv) = true ∧ h' = applyWrites h (allWrites conv stmts) :=
  ⟨(serializeHeaders_eq_ok.mp hok).1, insertAll_ok (serializeHeaders_eq_ok.mp hok).2⟩

end

/-- what the generated table knows of a statement: header name and member tag, or "the metadata statement" -/
inductive Shape (T : Type) where
  | hdr (name : HName) (tag : T)
  | metadata

def Stmt.shape : Stmt T V → Shape T
  | .optHeader n t _ => .hdr n t
  | .optMetadata _ => .metadata

def Shape.hdrName? : Shape T → Option HName
  | .hdr n _ => some n
  | .metadata => none

def Shape.isMeta : Shape T → Bool
  | .hdr _ _ => false
  | .metadata => true

def hdrNames (shapes : List (Shape T)) : List HName := shapes.filterMap Shape.hdrName?

/-- the side conditions of the round trip, on the statement shapes only:
    header names pairwise distinct, in lower case (as `HeaderName` constants are), none starting with the
    metadata prefix; at most one metadata statement -/
structure SideOk (shapes : List (Shape T)) : Prop where
  nodup : (hdrNames shapes).Nodup
  lower : ∀ n ∈ hdrNames shapes, lowerName n = n
  noPfx : ∀ n ∈ hdrNames shapes, ¬ metaPrefix <+: n
  oneMeta : shapes.countP Shape.isMeta ≤ 1

/-- the same as a Boolean (`sideOkB_iff`). On the generated table the kernel evaluates it with the duplicate check restated
    through `nodupB` on `(length, name)` pairs: `C03_side_conditions_every_operation` -/
def sideOkB (shapes : List (Shape T)) : Bool :=
  decide (hdrNames shapes).Nodup
    && (hdrNames shapes).all (fun n => lowerName n == n && !metaPrefix.isPrefixOf n)
    && decide (shapes.countP Shape.isMeta ≤ 1)

theorem sideOkB_iff (shapes : List (Shape T)) : sideOkB shapes = true ↔ SideOk shapes := by
  simp only [sideOkB, Bool.and_eq_true, decide_eq_true_eq, List.all_eq_true, beq_iff_eq, Bool.not_eq_true',
    ← Bool.not_eq_true, bytes_isPrefixOf_iff]
  constructor
  · rintro ⟨⟨h1, h2⟩, h3⟩
    exact ⟨h1, fun n hn => (h2 n hn).1, fun n hn => (h2 n hn).2, h3⟩
  · rintro ⟨h1, h2, h3, h4⟩
    exact ⟨⟨h1, fun n hn => ⟨h2 n hn, h3 n hn⟩⟩, h4⟩

/-- the side conditions do not depend on the order: the theorems take the statements of an operation in any order -/
theorem SideOk.perm {a b : List (Shape T)} (hp : a.Perm b) (h : SideOk b) : SideOk a := by
  have hf : (hdrNames a).Perm (hdrNames b) := hp.filterMap _
  exact ⟨hf.nodup_iff.mpr h.nodup, fun n hn => h.lower n (hf.mem_iff.mp hn), fun n hn => h.noPfx n (hf.mem_iff.mp hn),
    by rw [hp.countP_eq]; exact h.oneMeta⟩

abbrev stmtHdrNames (stmts : List (Stmt T V)) : List HName := hdrNames (stmts.map Stmt.shape)

section
variable {conv : T → V → Option HVal} {stmts : List (Stmt T V)}

theorem mem_stmtHdrNames {n : HName} {t : T} {val : Option V}
    (h : Stmt.optHeader n t val ∈ stmts) : n ∈ stmtHdrNames stmts := by
  simp only [stmtHdrNames, hdrNames, List.mem_filterMap, List.mem_map]
  exact ⟨.hdr n t, ⟨_, h, rfl⟩, rfl⟩

theorem hdr_unique (hn : (stmtHdrNames stmts).Nodup) {n : HName} {t t' : T}
    {val val' : Option V} (h1 : Stmt.optHeader n t val ∈ stmts) (h2 : Stmt.optHeader n t' val' ∈ stmts) :
    t = t' ∧ val = val' := by
  rw [stmtHdrNames, hdrNames, List.filterMap_map] at hn
  injection eq_of_nodup_filterMap hn h1 h2 (k := n) rfl rfl with _ ht hv
  exact ⟨ht, hv⟩

theorem mem_stmtWrites {s : Stmt T V} {w : HName × HVal} (hw : w ∈ stmtWrites conv s) :
    (∃ n t v, s = .optHeader n t (some v) ∧ w.1 = n ∧ conv t v = some w.2)
    ∨ (∃ md k0, s = .optMetadata (some md) ∧ (k0, w.2) ∈ md ∧ w.1 = metaPrefix ++ normKey k0) := by
  revert hw
  fun_cases stmtWrites conv s <;> intro hw
  -- a member that is set and converts: its one write; a metadata map: the writes of its pairs; else nothing is written
  next n t v val hc =>
    cases List.mem_singleton.mp hw
    exact .inl ⟨n, t, v, rfl, rfl, hc⟩
  next => cases hw
  next => cases hw
  next => cases hw
  next md =>
    obtain ⟨kv, hkv, hkw⟩ := List.mem_filterMap.mp hw
    cases mdWrite_eq_some hkw
    exact .inr ⟨md, kv.1, rfl, hkv, rfl⟩

theorem mem_allWrites {w : HName × HVal} (hw : w ∈ allWrites conv stmts) :
    (∃ n t v, Stmt.optHeader n t (some v) ∈ stmts ∧ w.1 = n ∧ conv t v = some w.2)
    ∨ (∃ md k0, Stmt.optMetadata (some md) ∈ stmts ∧ (k0, w.2) ∈ md ∧ w.1 = metaPrefix ++ normKey k0) := by
  obtain ⟨s, hs, hws⟩ := List.mem_flatMap.mp hw
  rcases mem_stmtWrites hws with ⟨n, t, v, rfl, h1, h2⟩ | ⟨md, k0, rfl, h1, h2⟩
  · exact Or.inl ⟨n, t, v, hs, h1, h2⟩
  · exact Or.inr ⟨md, k0, hs, h1, h2⟩

theorem prefix_meta (k : Bytes) : metaPrefix <+: metaPrefix ++ k := List.prefix_append _ _

theorem meta_unique (hc : (stmts.map Stmt.shape).countP Shape.isMeta ≤ 1)
    {a b : Option Metadata} (h1 : Stmt.optMetadata a ∈ stmts) (h2 : Stmt.optMetadata b ∈ stmts) : a = b := by
  rw [List.countP_map, List.countP_eq_length_filter] at hc
  have ha : Stmt.optMetadata a ∈ stmts.filter (Shape.isMeta ∘ Stmt.shape) := List.mem_filter.mpr ⟨h1, rfl⟩
  have hb : Stmt.optMetadata b ∈ stmts.filter (Shape.isMeta ∘ Stmt.shape) := List.mem_filter.mpr ⟨h2, rfl⟩
  -- the filtered list has one element: `[]` is excluded by `ha`, two or more by `hc`
  match stmts.filter (Shape.isMeta ∘ Stmt.shape), hc, ha, hb with
  | [s], _, ha, hb =>
    rw [List.mem_singleton] at ha hb
    injection ha.trans hb.symm

theorem allWrites_hdr {n : HName} {t : T} {v : V} {text : HVal} (hm : Stmt.optHeader n t (some v) ∈ stmts)
    (hc : conv t v = some text) : (n, text) ∈ allWrites conv stmts :=
  List.mem_flatMap.mpr ⟨_, hm, by simp [stmtWrites, hc]⟩

theorem allWrites_meta {md : Metadata} {k v : Bytes} (hm : Stmt.optMetadata (some md) ∈ stmts) (hkv : (k, v) ∈ md)
    (hok : (mdWrite (k, v)).isSome = true) : (metaPrefix ++ normKey k, v) ∈ allWrites conv stmts := by
  obtain ⟨w, hw⟩ := Option.isSome_iff_exists.mp hok
  exact List.mem_flatMap.mpr ⟨_, hm, List.mem_filterMap.mpr ⟨_, hkv, hw.trans (congrArg some (mdWrite_eq_some hw))⟩⟩

theorem written_name {w : HName × HVal} (hw : w ∈ allWrites conv stmts) :
    w.1 ∈ stmtHdrNames stmts ∨ metaPrefix <+: w.1 := by
  rcases mem_allWrites hw with ⟨n, t, v, hm, h1, _⟩ | ⟨md, k0, _, _, h1⟩
  · exact Or.inl (h1 ▸ mem_stmtHdrNames hm)
  · exact Or.inr (h1 ▸ prefix_meta _)

theorem writes_functional (hside : SideOk (stmts.map Stmt.shape))
    (hmd : ∀ md, Stmt.optMetadata (some md) ∈ stmts → (md.map fun kv => normKey kv.1).Nodup)
    {m : HName} {t t' : HVal} (h : (m, t) ∈ allWrites conv stmts) (h' : (m, t') ∈ allWrites conv stmts) : t = t' := by
  rcases mem_allWrites h with ⟨n, a, v, hm, h1, h2⟩ | ⟨md, k, hm, hkv, h1⟩ <;>
    rcases mem_allWrites h' with ⟨n', a', v', hm', h1', h2'⟩ | ⟨md', k', hm', hkv', h1'⟩
  · -- two header statements of one name are one statement
    simp only at h1 h1' h2 h2'
    subst h1 h1'
    obtain ⟨ha, hv⟩ := hdr_unique hside.nodup hm hm'
    injection hv with hv
    rw [ha, hv, h2'] at h2
    exact (Option.some.inj h2).symm
  · exact absurd (h1' ▸ prefix_meta _) (hside.noPfx _ (h1 ▸ mem_stmtHdrNames hm))
  · exact absurd (h1 ▸ prefix_meta _) (hside.noPfx _ (h1' ▸ mem_stmtHdrNames hm'))
  · -- one metadata statement, and in it one pair of that normalised key
    simp only at h1 h1' hkv hkv'
    injection meta_unique hside.oneMeta hm hm' with e
    subst e
    exact (Prod.mk.inj (inj_of_nodup_map (hmd md hm) hkv hkv' (List.append_cancel_left (h1.symm.trans h1')))).2

end

/-- the metadata clause, as a statement about the field lines a client receives: the prefix-headers map is,
    as a set of pairs, the metadata map the backend returned, each key in its normalised (`normKey`:
    lower-case) form and each value without surrounding white space — hence the very same set of pairs when
    keys are lower-case and values trimmed already; it has one value per key; it is empty when the backend
    returned no map -/
structure MetadataReadBack (stmts : List (Stmt T V)) (lines : List Line) : Prop where
  pairs : ∀ md, Stmt.optMetadata (some md) ∈ stmts →
    ∀ k v, (k, v) ∈ readPrefix lines metaPrefix ↔ ∃ k0 v0, (k0, v0) ∈ md ∧ k = normKey k0 ∧ v = trimOws v0
  canonical : ∀ md, Stmt.optMetadata (some md) ∈ stmts → (∀ kv ∈ md, normKey kv.1 = kv.1 ∧ trimOws kv.2 = kv.2) →
    ∀ k v, (k, v) ∈ readPrefix lines metaPrefix ↔ (k, v) ∈ md
  functional : ∀ k v v', (k, v) ∈ readPrefix lines metaPrefix → (k, v') ∈ readPrefix lines metaPrefix → v = v'
  absent : (∀ md, Stmt.optMetadata (some md) ∉ stmts) → readPrefix lines metaPrefix = []

/-- the hypotheses of the read-back, bundled -/
structure Setup (full : Hdrs → HName → Bool) (conv : T → V → Option HVal) (init : Hdrs) (stmts : List (Stmt T V))
    (ser : Hdrs) : Prop where
  /-- side conditions on the statement shapes (decided on the generated table) -/
  side : SideOk (stmts.map Stmt.shape)
  /-- keys of the metadata map stay distinct as header names (header names are case-insensitive) -/
  md : ∀ md, Stmt.optMetadata (some md) ∈ stmts → (md.map fun kv => normKey kv.1).Nodup
  /-- the map the body setter left is a header map … -/
  initWF : WFL init
  /-- … that holds neither a member's name nor a prefixed name -/
  initM : ∀ n ∈ names init, n ∉ stmtHdrNames stmts ∧ ¬ metaPrefix <+: n
  ser : serializeHeaders full conv init stmts = .ok ser

section
variable {full : Hdrs → HName → Bool} {conv : T → V → Option HVal} {init : Hdrs} {stmts : List (Stmt T V)}
  {ser : Hdrs}

theorem Setup.ser_eq (S : Setup full conv init stmts ser) : ser = applyWrites init (allWrites conv stmts) :=
  (serializeHeaders_ok S.ser).2

theorem Setup.ok (S : Setup full conv init stmts ser) {s : Stmt T V} (hs : s ∈ stmts) : stmtOkB conv s = true :=
  List.all_eq_true.mp (serializeHeaders_ok S.ser).1 s hs

theorem Setup.hGetAll_of_write (S : Setup full conv init stmts ser) {m : HName} {t : HVal}
    (h : (m, t) ∈ allWrites conv stmts) : hGetAll ser m = [t] := by
  rw [S.ser_eq]
  exact hGetAll_applyWrites_of_mem h (fun t' h' => writes_functional S.side S.md h' h) init

theorem Setup.member_some (S : Setup full conv init stmts ser) {n : HName} {t : T} {v : V}
    (hm : Stmt.optHeader n t (some v) ∈ stmts) : ∃ text, conv t v = some text ∧ hGetAll ser n = [text] := by
  obtain ⟨text, hc⟩ := Option.isSome_iff_exists.mp (S.ok hm)
  exact ⟨text, hc, S.hGetAll_of_write (allWrites_hdr hm hc)⟩

theorem Setup.mem_ser (S : Setup full conv init stmts ser) {m : HName} {v : HVal} (hm : m ∉ names init) :
    v ∈ hGetAll ser m ↔ (m, v) ∈ allWrites conv stmts := by
  refine ⟨fun hv => ?_, fun h => S.hGetAll_of_write h ▸ List.mem_singleton_self v⟩
  rw [S.ser_eq] at hv
  exact (mem_hGetAll_applyWrites hv).resolve_right (by rw [hGetAll_eq_nil_of_not_mem hm]; exact List.not_mem_nil)

theorem Setup.member_none (S : Setup full conv init stmts ser) {n : HName} {t : T}
    (hm : Stmt.optHeader n t none ∈ stmts) : hGetAll ser n = [] := by
  refine List.eq_nil_iff_forall_not_mem.mpr fun v hv => ?_
  rw [S.mem_ser fun hin => (S.initM n hin).1 (mem_stmtHdrNames hm)] at hv
  rcases mem_allWrites hv with ⟨n', _, _, hm', h1, _⟩ | ⟨_, k0, _, _, h1⟩
  · cases h1
    cases (hdr_unique S.side.nodup hm hm').2
  · simp only at h1
    exact S.side.noPfx n (mem_stmtHdrNames hm) (h1 ▸ prefix_meta _)

/-- the headers of prefixed names: exactly the pairs of the metadata map, under the normalised keys -/
theorem Setup.prefixed (S : Setup full conv init stmts ser) (k v : Bytes) :
    v ∈ hGetAll ser (metaPrefix ++ k) ↔
      ∃ md k0, Stmt.optMetadata (some md) ∈ stmts ∧ (k0, v) ∈ md ∧ k = normKey k0 := by
  rw [S.mem_ser fun hin => (S.initM _ hin).2 (prefix_meta k)]
  constructor
  · intro hw
    rcases mem_allWrites hw with ⟨n, _, _, hm, h1, _⟩ | ⟨md, k0, hm, hkv, h1⟩
    · exact absurd (h1 ▸ prefix_meta k) (S.side.noPfx n (mem_stmtHdrNames hm))
    · exact ⟨md, k0, hm, hkv, List.append_cancel_left h1⟩
  · rintro ⟨md, k0, hm, hkv, rfl⟩
    exact allWrites_meta hm hkv (List.all_eq_true.mp (S.ok hm) _ hkv)

theorem Setup.frame (S : Setup full conv init stmts ser) {m : HName} (h1 : m ∉ stmtHdrNames stmts)
    (h2 : ¬ metaPrefix <+: m) : hGetAll ser m = hGetAll init m := by
  rw [S.ser_eq]
  refine hGetAll_applyWrites_of_not_mem (fun hin => ?_) init
  obtain ⟨w, hw, rfl⟩ := List.mem_map.mp hin
  exact (written_name hw).elim h1 h2

theorem Setup.serWF (S : Setup full conv init stmts ser) : WFL ser := by
  rw [S.ser_eq]
  apply WFL_applyWrites S.initWF
  intro n hin
  obtain ⟨w, hw, hwn⟩ := List.mem_map.mp hin
  rcases mem_allWrites hw with ⟨n', t', v', hm', h3, _⟩ | ⟨md, k0, _, _, h3⟩
  · rw [← hwn, h3]; exact S.side.lower n' (mem_stmtHdrNames hm')
  · rw [← hwn, h3, lowerName_append, lowerName_metaPrefix, lowerName_normKey]

/-- `final` is the header map that goes on the wire: the serialized one after the tail of `call`, which the caller shows to
    hold under `n` what `ser` holds. The codec hypothesis is about what the client's parser is handed: the converted text
    without surrounding white space. -/
theorem Setup.read_member (S : Setup full conv init stmts ser) {dec : T → HVal → Option V} {final : Hdrs} (hwf : WFL final)
    (hcodec : ∀ n t v text, Stmt.optHeader n t (some v) ∈ stmts → conv t v = some text →
      dec t (trimOws text) = some v)
    {n : HName} {t : T} {val : Option V} (hm : Stmt.optHeader n t val ∈ stmts) (hag : hGetAll final n = hGetAll ser n) :
    readTyped (dec t) (wireLines final) n = val.map some := by
  have hl : lowerName n = n := S.side.lower n (mem_stmtHdrNames hm)
  simp only [readTyped, readMember, fieldValues_wireLines hwf hl, hag]
  cases val with
  | none => simp [S.member_none hm]
  | some v =>
    obtain ⟨text, hc, hg⟩ := S.member_some hm
    simp [hg, combine, hcodec n t v text hm hc]

section
variable (S : Setup full conv init stmts ser) {final : Hdrs} (hwf : WFL final)
  (hag : ∀ k, hGetAll final (metaPrefix ++ k) = hGetAll ser (metaPrefix ++ k))
include S hwf hag

theorem Setup.mem_readPrefix (k v : Bytes) :
    (k, v) ∈ readPrefix (wireLines final) metaPrefix ↔
      ∃ md k0 v0, Stmt.optMetadata (some md) ∈ stmts ∧ (k0, v0) ∈ md ∧ k = normKey k0 ∧ v = trimOws v0 := by
  rw [mem_readPrefix_wireLines hwf lowerName_metaPrefix, hag]
  constructor
  · rintro ⟨v0, hv0, hv⟩
    obtain ⟨md, k0, hm, hkv, hk⟩ := (S.prefixed k v0).mp hv0
    exact ⟨md, k0, v0, hm, hkv, hk, hv⟩
  · rintro ⟨md, k0, v0, hm, hkv, hk, hv⟩
    exact ⟨v0, (S.prefixed k v0).mpr ⟨md, k0, hm, hkv, hk⟩, hv⟩

theorem Setup.metadataReadBack : MetadataReadBack stmts (wireLines final) := by
  have pairs : ∀ md, Stmt.optMetadata (some md) ∈ stmts → ∀ k v, (k, v) ∈ readPrefix (wireLines final) metaPrefix ↔
      ∃ k0 v0, (k0, v0) ∈ md ∧ k = normKey k0 ∧ v = trimOws v0 := fun md hm k v => by
    rw [S.mem_readPrefix hwf hag]
    constructor
    · rintro ⟨md', k0, v0, hm', h⟩
      cases meta_unique S.side.oneMeta hm' hm
      exact ⟨k0, v0, h⟩
    · rintro ⟨k0, v0, h⟩
      exact ⟨md, k0, v0, hm, h⟩
  refine ⟨pairs, ?_, ?_, ?_⟩
  · intro md hm hcan k v
    rw [pairs md hm]
    constructor
    · rintro ⟨k0, v0, hkv, hk, hv⟩
      rw [hk, hv, (hcan _ hkv).1, (hcan _ hkv).2]; exact hkv
    · intro hkv
      exact ⟨k, v, hkv, (hcan _ hkv).1.symm, (hcan _ hkv).2.symm⟩
  · intro k v v' h1 h2
    obtain ⟨md, k0, v0, hm, hkv, hk, hv⟩ := (S.mem_readPrefix hwf hag k v).mp h1
    obtain ⟨k0', v0', hkv', hk', hv'⟩ := (pairs md hm k v').mp h2
    injection inj_of_nodup_map (S.md md hm) hkv hkv' (hk.symm.trans hk') with _ e
    rw [hv, hv', e]
  · intro hno
    refine List.eq_nil_iff_forall_not_mem.mpr fun kv hkv => ?_
    obtain ⟨md, _, _, hm, _⟩ := (S.mem_readPrefix hwf hag kv.1 kv.2).mp hkv
    exact hno md hm

end

end

/-- one step through an `if … then some a else …` chain (the worked example of `Props/C03AllOps` walks six) -/
theorem eq_or_of_ite_some {α : Type} {c : Prop} [Decidable c] {a v : α} {r : Option α}
    (h : (if c then some a else r) = some v) : v = a ∨ r = some v := by
  split at h
  · exact Or.inl (Option.some.inj h).symm
  · exact Or.inr h

end

end S3V.HttpSerThm
