import S3V.Thm.XmlToken
import S3V.Thm.XmlRoundtrip
/-!
What the encoder produces is well-nested in the sense of `XmlToken.lean`, so the tokeniser reads it back — for schemas
that pass the second check evaluated on the generated tables, defined here: every element name is made of name bytes and
the attribute keys of one start tag are pairwise distinct (`Sch.tagsGood` over `attrKeys`, `SerRoot.tagsGood`).
-/
namespace S3V.Xml
open S3V

/-- the keys a generated `fn attributes(&self)` can list into one start tag (`attrPairs` with every member present):
for every member bound to an attribute the declaration of its prefix (if it has one) and its name -/
def attrKeys : Flds → List Bytes
  | .cons tag _ shape _ rest =>
    (match shape with
      | .attr => (nsDeclFor tag).map (·.1) ++ [tag]
      | _ => [])
    ++ attrKeys rest
  | .nil => []

mutual
  /-- every element name of the schema (members, list members, variants) is made of name bytes, and the attribute
  keys written into the start tag of a struct — `xmlns` of a root, the prefix declarations and the members bound to
  attributes — are pairwise distinct (quick-xml's attribute iterator refuses a key written twice; `check_attributes`
  of `xml/de.rs` runs it over every start tag since the repair of `xml-illformed-accepted:attribute-syntax`) -/
  def Sch.tagsGood : Sch → Bool
    | .struct fs => fs.tagsGood && distinct (xmlnsKey :: attrKeys fs)
    | .union vs => vs.tagsGood
    | _ => true
  def Flds.tagsGood : Flds → Bool
    | .nil => true
    | .cons t _ shape s r =>
      goodName t && (match shape with | .wrapped m => goodName m | _ => true) && s.tagsGood && r.tagsGood
  def Vars.tagsGood : Vars → Bool
    | .nil => true
    | .cons t s r => goodName t && s.tagsGood && r.tagsGood
end

theorem goodRest_nsAttr (ns : Option Bytes) : GoodRest (nsAttr ns) := by
  rw [nsAttr_eq]
  exact ⟨_, rfl, nsPairsOf_good ns, by cases ns <;> simp [nsPairsOf]⟩

theorem attrPairs_good : ∀ (fs : Flds) (fvs : List FVal), fs.tagsGood = true →
    ∀ kv ∈ attrPairs fs fvs, PairGood kv
  | .nil, _, _, kv, h => by simp [attrPairs] at h
  | .cons _ _ _ _ _, [], _, kv, h => by simp [attrPairs] at h
  | .cons tag p sh s rest, fv :: fvs, hg, kv, h => by
    simp only [Flds.tagsGood, Bool.and_eq_true] at hg
    rw [attrPairs_cons, List.mem_append] at h
    rcases h with h | h
    · rcases mem_memberPairs h with rfl | ⟨b, rfl⟩
      · exact ⟨(by decide : goodName xmlnsXsiKey = true), escapeAttr_noQuot _⟩
      · exact ⟨hg.1.1.1, escapeAttr_noQuot _⟩
    · exact attrPairs_good rest fvs hg.2 kv h

theorem attrPairs_keys_sublist : ∀ (fs : Flds) (fvs : List FVal),
    ((attrPairs fs fvs).map (·.1)).Sublist (attrKeys fs)
  | .nil, _ => by simp [attrPairs, attrKeys]
  | .cons _ _ _ _ _, [] => by simp [attrPairs]
  | .cons tag p sh s rest, fv :: fvs => by
    simp only [attrPairs, attrKeys, List.map_append]
    refine List.Sublist.append ?_ (attrPairs_keys_sublist rest fvs)
    split
    · simp
    · simp

theorem attrPairs_nodup (fs : Flds) (fvs : List FVal) (h : distinct (xmlnsKey :: attrKeys fs) = true) :
    (xmlnsKey :: (attrPairs fs fvs).map (·.1)).Nodup :=
  (nodupB_iff.mp (distinct_eq_nodupB _ ▸ h)).sublist ((attrPairs_keys_sublist fs fvs).cons_cons xmlnsKey)

/-- the attributes `start_of` writes for a value (`SerializeContent::attributes`, `attr_value`), as pairs: good ones,
with keys distinct from each other and from `xmlns` -/
theorem encAttrs_pairs (s : Sch) (v : Val) (hg : s.tagsGood = true) :
    ∃ ps, encAttrs s v = attrsOf ps ∧ (∀ kv ∈ ps, PairGood kv) ∧
      (xmlnsKey :: ps.map (·.1)).Nodup := by
  have hnil : ∃ ps : List (Bytes × Bytes), [] = attrsOf ps ∧ (∀ kv ∈ ps, PairGood kv) ∧
      (xmlnsKey :: ps.map (·.1)).Nodup :=
    ⟨[], rfl, fun _ h => absurd h List.not_mem_nil, List.nodup_cons.mpr ⟨List.not_mem_nil, List.nodup_nil⟩⟩
  cases s with
  | struct fs =>
    cases v with
    | struct vs =>
      simp only [Sch.tagsGood, Bool.and_eq_true] at hg
      exact ⟨attrPairs fs vs, rfl, attrPairs_good fs vs hg.1, attrPairs_nodup fs vs hg.2⟩
    | _ => exact hnil
  | _ => exact hnil

theorem goodRest_encAttrs (s : Sch) (v : Val) (hg : s.tagsGood = true) : GoodRest (encAttrs s v) := by
  obtain ⟨ps, he, hgood, hnd⟩ := encAttrs_pairs s v hg
  exact ⟨ps, he, hgood, (List.nodup_cons.mp hnd).2⟩

/-- the start tag of a root: `xmlns` (`content_with_ns`) in front of the attributes of the value -/
theorem goodRest_ns_encAttrs (ns : Option Bytes) (s : Sch) (v : Val) (hg : s.tagsGood = true) :
    GoodRest (nsAttr ns ++ encAttrs s v) := by
  obtain ⟨ps, he, hgood, hnd⟩ := encAttrs_pairs s v hg
  refine ⟨nsPairsOf ns ++ ps, by rw [he, nsAttr_eq, attrsOf_append],
    fun kv h => (List.mem_append.mp h).elim (nsPairsOf_good ns kv) (hgood kv), ?_⟩
  cases ns with
  | none => exact (List.nodup_cons.mp hnd).2
  | some uri => exact hnd

/-! ### segments

What the encoder writes is put together from complete elements. A run of them can stand in front of any well-nested
continuation that begins with a tag (`Seg`), and such runs are closed under `++`, `flatMap` and wrapping into an element;
the content of an element is such a run or one text (`Content`). -/

/-- `x` is a run of complete elements under the open elements `st` -/
def Seg (st : List Bytes) (x : List Ev) : Prop :=
  ∀ t, WN st t → headNotText t = true → WN st (x ++ t) ∧ headNotText (x ++ t) = true

/-- `x` can be the content of an element: in front of the element's end tag it is well nested -/
def Content (st : List Bytes) (x : List Ev) : Prop := ∀ t, WN st t → headNotText t = true → WN st (x ++ t)

theorem Seg.content {st : List Bytes} {x : List Ev} (h : Seg st x) : Content st x := fun t ht hh => (h t ht hh).1

theorem Seg.nil (st : List Bytes) : Seg st [] := fun _ ht hh => ⟨ht, hh⟩

theorem Seg.append {st : List Bytes} {x y : List Ev} (hx : Seg st x) (hy : Seg st y) : Seg st (x ++ y) := by
  intro t ht hh
  rw [List.append_assoc]
  exact hx _ (hy t ht hh).1 (hy t ht hh).2

theorem Seg.flatMap {α : Type} {st : List Bytes} {g : α → List Ev} : ∀ {vs : List α}, (∀ v ∈ vs, Seg st (g v)) →
    Seg st (vs.flatMap g)
  | [], _ => Seg.nil st
  | v :: vs, h => by
    rw [List.flatMap_cons]
    exact (h v List.mem_cons_self).append (Seg.flatMap fun w hw => h w (List.mem_cons_of_mem _ hw))

theorem Seg.elemA {st : List Bytes} {tag a : Bytes} {inner : List Ev} (hg : goodName tag = true) (ha : GoodRest a)
    (hi : Content (tag :: st) inner) : Seg st (elemA tag a inner) := by
  intro t ht _
  refine ⟨?_, by simp [Xml.elemA, headNotText, Ev.isTextB]⟩
  simp only [Xml.elemA, List.cons_append, List.append_assoc, List.nil_append, WN]
  exact ⟨hg, ha, hi _ ⟨hg, st, rfl, ht⟩ (by simp [headNotText, Ev.isTextB])⟩

/-- a text the serialiser wrote, inside an element (`st ≠ []`: the serialiser writes character data only there) -/
theorem Content.text {st : List Bytes} (hst : st ≠ []) (x : Bytes) : Content st (textEv (escapeText x)) := by
  intro t ht hh
  unfold textEv
  split
  · simpa using ht
  · rename_i hne
    simp only [List.cons_append, List.nil_append, WN]
    exact ⟨⟨Or.inl hst, hasCdataEnd_of_noGt _ fun c hc => (escapeText_clean x c hc).2.1⟩, hne,
      fun c hc => (escapeText_clean x c hc).1, hh, ht⟩

theorem Content.scalar {s : Sch} (hs : isScalar s = true) (v : Val) {st : List Bytes} (hst : st ≠ []) :
    Content st (encode s v) := by
  fun_cases encode s v
  -- the arms of the scalar kinds write a text; a struct and a union are no scalars; the last arm writes nothing
  any_goals exact Content.text hst _
  any_goals cases hs
  exact (Seg.nil st).content

mutual
  theorem content_encode : ∀ (s : Sch) (v : Val), s.tagsGood = true → ∀ (st : List Bytes), st ≠ [] →
      Content st (encode s v)
    | .struct fs, v, hg, st, _ => by
      cases v with
      | struct vs =>
        simp only [Sch.tagsGood, Bool.and_eq_true] at hg
        exact (seg_encodeFields fs vs hg.1 st).content
      | _ => exact (Seg.nil st).content
    | .union vars, v, hg, st, _ => by
      cases v with
      | union tag v => exact (seg_encodeVariant vars tag v hg st).content
      | _ => exact (Seg.nil st).content
    | .str, v, _, st, hst | .enm, v, _, st, hst | .i32, v, _, st, hst | .i64, v, _, st, hst | .bool, v, _, st, hst
    | .ts _, v, _, st, hst => Content.scalar rfl v hst
  theorem seg_encodeFields : ∀ (fs : Flds) (vs : List FVal), fs.tagsGood = true → ∀ (st : List Bytes),
      Seg st (encodeFields fs vs)
    | .nil, _, _, st => by simpa [encodeFields] using Seg.nil st
    | .cons _ _ _ _ _, [], _, st => by simpa [encodeFields] using Seg.nil st
    | .cons tag p shape s r, fv :: fvs, hg, st => by
      simp only [Flds.tagsGood, Bool.and_eq_true] at hg
      obtain ⟨⟨⟨hgt, hgm⟩, hgs⟩, hgr⟩ := hg
      rw [encodeFields_cons]
      refine Seg.append ?_ (seg_encodeFields r fvs hgr st)
      have item : ∀ (n : Bytes) (st : List Bytes), goodName n = true → ∀ v,
          Seg st (Xml.elemA n (encAttrs s v) (encode s v)) :=
        fun n st hn v => Seg.elemA hn (goodRest_encAttrs s v hgs) (content_encode s v hgs _ (List.cons_ne_nil _ _))
      -- a single element, the items inside the list's own element, the items side by side, or nothing
      unfold encField
      split
      · exact item tag st hgt _
      · exact Seg.elemA hgt GoodRest.nil (Seg.flatMap fun v _ => item _ _ hgm v).content
      · exact Seg.flatMap fun v _ => item tag st hgt v
      · exact Seg.nil st
  theorem seg_encodeVariant : ∀ (vars : Vars) (tag : Bytes) (v : Val), vars.tagsGood = true → ∀ (st : List Bytes),
      Seg st (encodeVariant vars tag v)
    | .nil, _, _, _, st => Seg.nil st
    | .cons tg s r, tag, v, hg, st => by
      simp only [Vars.tagsGood, Bool.and_eq_true] at hg
      simp only [encodeVariant]
      split
      · exact Seg.elemA hg.1.1 (goodRest_encAttrs s v hg.1.2) (content_encode s v hg.1.2 _ (List.cons_ne_nil _ _))
      · exact seg_encodeVariant r tag v hg.2 st
end

theorem WN_encodeFields : ∀ (fs : Flds) (vs : List FVal), fs.tagsGood = true → ∀ (st : List Bytes) (t : List Ev),
      WN st t → headNotText t = true →
      WN st (encodeFields fs vs ++ t) ∧ headNotText (encodeFields fs vs ++ t) = true :=
  fun fs vs hg st => seg_encodeFields fs vs hg st

theorem WN_encodeVariant : ∀ (vars : Vars) (tag : Bytes) (v : Val), vars.tagsGood = true →
      ∀ (st : List Bytes) (t : List Ev), WN st t → headNotText t = true →
      WN st (encodeVariant vars tag v ++ t) ∧ headNotText (encodeVariant vars tag v ++ t) = true :=
  fun vars tag v hg st => seg_encodeVariant vars tag v hg st

def SerRoot.tagsGood : SerRoot → Bool
  | .named t _ => goodName t
  | .nested o i _ => goodName o && goodName i
  | .location t _ => goodName t

theorem SerRoot.goodName_of_forget {sr : SerRoot} {root : Bytes} (hf : sr.forget = .named root)
    (hg : sr.tagsGood = true) : goodName root = true := by
  cases sr <;> cases hf
  exact hg

theorem WN_encodeDoc (root : SerRoot) (s : Sch) (v : Val) (hr : root.tagsGood = true) (hs : s.tagsGood = true) :
    WN [] (encodeDoc root s v) := by
  suffices h : Seg [] (encodeDoc root s v) by simpa using (h [] trivial rfl).1
  cases root with
  | named tag ns =>
    exact Seg.elemA (inner := encode s v) hr (goodRest_ns_encAttrs ns s v hs) (content_encode s v hs _ (List.cons_ne_nil _ _))
  | nested o i ns =>
    simp only [SerRoot.tagsGood, Bool.and_eq_true] at hr
    exact Seg.elemA (inner := Xml.elemA i _ _) hr.1 (goodRest_nsAttr ns)
      (Seg.elemA hr.2 (goodRest_encAttrs s v hs) (content_encode s v hs _ (List.cons_ne_nil _ _))).content
  | location tag ns =>
    simp only [encodeDoc]
    split
    · exact Seg.elemA (inner := textEv _) hr (goodRest_nsAttr ns) (Content.text (List.cons_ne_nil _ _) _)
    · exact Seg.elemA (inner := []) hr (goodRest_nsAttr ns) (Seg.nil _).content

theorem tokenize_write_doc (root : SerRoot) (s : Sch) (v : Val) (hr : root.tagsGood = true) (hs : s.tagsGood = true) :
    deEvents (tokenize (write (encodeDoc root s v))) = encodeDoc root s v :=
  deEvents_tokenize_write _ (WN_encodeDoc root s v hr hs)

end S3V.Xml
