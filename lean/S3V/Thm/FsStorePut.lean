import S3V.Thm.FsStoreNames
import S3V.Thm.FsStoreTree
/-!
# C18: `put_object` refines the store
-/
namespace S3V.FsStore
open S3V.StoreSpec

theorem checksOk_eq (H : Hashes) (c : Bytes) (x : Cks) : StoreSpec.checksOk H c x = FsStore.checksOk H c x := rfl

/-- `put_object` may be compared with the store: names agree, the side-file names fit [else
    fs:long-key-internal-error: since c3dcb24 such a key is refused with `KeyTooLongError` before anything is written — the
    store accepts it], the key is canonical [fs:key-normalised, fs:directory-key] and, when the bucket exists,
    its path is free (prefix-freedom; fs:leftover-directory) -/
def PutOk (s : State) (b k : Bytes) : Prop :=
  NameOk b ∧ CanonKey k ∧ sideTooLong b k false = false ∧
  (bucketOk b = true →
    match s.tree b with
    | none => True
    | some t =>
      match keyPath k with
      | none => True
      | some p => WriteOk t p)

instance (s : State) (b k : Bytes) : Decidable (PutOk s b k) := by
  unfold PutOk; decide_pred

theorem put_refines (H : Hashes) (dl : Nat) {s : State} (hi : Inv s) {b k c : Bytes} {md : Option Meta}
    {cks : Cks} {clen : Option Int} (hg : PutOk s b k) : Refines H dl s (.putObject b k c md cks clen) := by
  obtain ⟨hname, ⟨hslash, hcanon⟩, hshort, hbucket⟩ := hg
  rcases hname.cases with hb | hb
  case inr => simp [Refines, step, StoreSpec.step, hb, hi]
  have hbucket := hbucket hb.1
  rcases tree_cases s b with ht | ⟨t, ht⟩
  · simp [Refines, step, StoreSpec.step, hb, ht, hi]
  rcases key_cases k with hk | ⟨p, hk, hp⟩
  · simp [Refines, step, StoreSpec.step, hslash, objPath, hb, hk, ht, hi]
  simp only [ht.1, hk.1] at hbucket hcanon
  cases hck : FsStore.checksOk H c cks with
  | false => simp [Refines, step, StoreSpec.step, hslash, objPath, hb, hk, ht, checksOk_eq, hck, hshort, hi]
  | true =>
    exact .of_eq (r := .put (some (etagOf H c)) cks)
      (by cases md <;> simp [step, hslash, objPath, hb, hk, ht, hck, commitFile_eq ht.1 hbucket hp, hshort, alSet])
      (by simp [StoreSpec.step, hb, hk, ht, checksOk_eq, hck, metaOf_good])
      (writeFile_core (mv := md.map .good) hi ht.1 hp hcanon hbucket.2 c (by cases md <;> simp) (some cks))

end S3V.FsStore
