import S3V.Thm.FsPath
/-!
# Lemma: `absolutize_virtually(root)` confines EVERY string (C17)

Independent of the key check of `get_object_path`: whatever string reaches `resolve_abs_path`, the result — if
there is one (the alternatives are `InvalidInput` and the path-dedot panic) — is a dot-free location with the
root's components as a prefix. Hypothesis on the process CWD (used by path-dedot for strings that begin with `.` or
`..`): absolute and free of `..`, like the root (`std::env::current_dir()` returns such a path).
-/
namespace S3V.FsPath

theorem allNormal_comps_good {s : Bytes} {l : List Comp} (hc : components s = l) (hl : AllNormal l) :
    ∀ n ∈ names l, Good n :=
  -- `hl` is not needed: `names` picks the `Normal`s of any list
  fun _ hn => have _ := hl; mem_components (s := s) (hc ▸ mem_names hn)

theorem parentTokens_rootOk {cwd : Bytes} {ns : List Bytes} (hlc : components cwd = .rootDir :: ns.map .normal) :
    parentTokens cwd = if ns = [] then none else some ([47] :: ns.dropLast) := by
  unfold parentTokens
  rw [hlc]
  cases ns with
  | nil => rfl
  | cons c r =>
    have hlast : (Comp.rootDir :: (c :: r).map Comp.normal).getLast? = some (.normal ((c :: r).getLast (by simp))) := by
      rw [List.map_cons, List.getLast?_cons_cons, ← List.map_cons, List.getLast?_map,
        List.getLast?_eq_some_getLast (List.cons_ne_nil c r)]
      rfl
    rw [hlast, if_neg (List.cons_ne_nil c r), List.dropLast_cons_of_ne_nil (by simp), List.map_cons, ← List.map_dropLast,
      map_osStr_normal]
    rfl

theorem dedotStart_toks {ab : Bool} {cwd : Bytes} (hcwd : RootOk cwd) {first : Comp}
    (hfirst : ∀ n, first = .normal n → Good n) :
    ∃ fr g₀ f, dedotStart ab cwd first = (Toks fr g₀, fr, f) ∧ (∀ n ∈ g₀, Good n) ∧ (f = false → first ≠ .parentDir) := by
  obtain ⟨ns, hlc, hg⟩ := hcwd.shape
  have hiter : pathIter cwd = [47] :: ns := by
    rw [pathIter, hlc, List.map_cons, map_osStr_normal]
    rfl
  cases first with
  | rootDir => exact ⟨true, [], false, rfl, nofun, fun _ => nofun⟩
  | curDir => exact ⟨true, ns, true, by simp [dedotStart, hiter, Toks], hg, nofun⟩
  | parentDir =>
    simp only [dedotStart, parentTokens_rootOk hlc]
    by_cases hl : ns = []
    · rw [if_pos hl]
      simp only
      split
      · exact ⟨true, [], true, rfl, nofun, nofun⟩
      · exact ⟨false, [], true, rfl, nofun, nofun⟩
    · rw [if_neg hl]
      exact ⟨true, ns.dropLast, true, rfl, fun n hn => hg n (List.dropLast_subset _ hn), nofun⟩
  | normal n =>
    have hgn : Good n := hfirst n rfl
    cases ab with
    | false => exact ⟨false, [n], false, rfl, fun _ hm => List.mem_singleton.mp hm ▸ hgn, fun _ => nofun⟩
    | true =>
      exact ⟨true, ns ++ [n], true, by simp [dedotStart, hiter, Toks],
        List.forall_mem_append.mpr ⟨hg, fun _ hm => List.mem_singleton.mp hm ▸ hgn⟩, nofun⟩

/-- **path-dedot leaves no `..`**: whatever `parse_dot_from` / `absolutize_from` return, its body is names only. (Whether the
    result is absolute, and a `.` in front of a relative one, are of no account to `absolutize_virtually`.) -/
theorem dedot_body {ab : Bool} {cwd s p : Bytes} (hcwd : RootOk cwd) (h : dedotFrom ab cwd s = .ok p) :
    AllNormal (body p) := by
  cases hcs : components s with
  | nil =>
    unfold dedotFrom at h
    rw [hcs] at h
    cases ab <;> cases h
    · exact allNormal_body (hcs ▸ List.not_mem_nil)
    · exact allNormal_body hcwd.2
  | cons first rest =>
    obtain ⟨fr, g₀, f, h₀, hg₀, hf₀⟩ := dedotStart_toks (ab := ab) hcwd (first := first)
      (fun n e => mem_components (s := s) (by rw [hcs, e]; simp))
    rcases dedotFrom_cases hcs h₀ with h' | ⟨h', hf, hrest⟩
    · rw [h'] at h
      split at h
      · cases h
      · cases h
        exact body_render_toks fr (foldl_pop_good (rest_bodyComp hcs) hg₀) ▸ allNormal_map _
    · -- the string comes back as it is: it does not begin with `..` and none follows
      cases h'.symm.trans h
      exact allNormal_body fun hm => (List.mem_cons.mp (hcs ▸ hm)).elim (fun e => hf₀ hf e.symm) hrest

theorem resolveAbsPath_under_root (e : Env) (hr : RootOk e.root) (hc : RootOk e.cwd) {s p : Bytes}
    (h : resolveAbsPath e s = .ok p) : NoDots (components p) ∧ components e.root <+: components p := by
  obtain ⟨vr, hvr, hvc, hva⟩ := hr.vroot e.cwd
  have hav : absolutizeVirtually e.cwd e.root s = .ok p := by
    unfold resolveAbsPath at h
    split at h
    · rename_i q hq; cases h; exact hq
    · cases h
    · cases h
  unfold absolutizeVirtually at hav
  rw [hvr] at hav
  simp only at hav
  cases hd : dedotFrom false e.cwd s with
  | panic => rw [hd] at hav; cases hav
  | ok q =>
    rw [hd] at hav
    simp only at hav
    -- `q` is what path-dedot made of `s`: its body is names; absolute, it is returned when it starts with the root; relative, it is
    -- joined to the root
    have hq := dedot_body hc hd
    cases hqa : isAbsolute q with
    | true =>
      rw [hqa] at hav
      simp only [↓reduceIte] at hav
      split at hav
      · rename_i hsw
        cases hav
        refine ⟨⟨body p, components_abs hqa, hq⟩, ?_⟩
        unfold startsWith at hsw
        rw [hvc] at hsw
        exact List.isPrefixOf_iff_prefix.mp hsw
      · cases hav
    | false =>
      rw [hqa] at hav
      simp only [Bool.false_eq_true, ↓reduceIte] at hav
      cases hav
      rw [(components_join hva hqa).1, hvc]
      exact ⟨noDots_under hr rfl hq, List.prefix_append _ _⟩

end S3V.FsPath
