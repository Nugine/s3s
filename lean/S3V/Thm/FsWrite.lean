import S3V.Model.FsWrite
/-!
# Lemmas for C19: one writer, a fault after any step

A fault after `k` steps leaves what the program cut off after `k` steps leaves (`dropAfter_eq_run_take`), so everything here is
about `run`. Whether a step goes through is decided by the step alone (`Step.passes`), and so is what it hands to the writer
(`Step.bytes`). A write program is `pre ++ .rename f :: post` (`Shape`): the steps of `pre` leave everything a client can observe
alone and keep the temporary file guarded, whether they pass or fail (`pre_exec`); the steps of `post` leave destination and
temporary file alone (`post_exec`). One walk over `pre` with any program behind it (`run_pre_append`) gives `Shape.answer`: the
call fails with nothing changed, or every step up to and including the rename passed and `post` runs on the destination holding the
bytes gathered (`result`). `Shape.fault` is that read at a program cut off — before the rename only steps of `pre` are left, after
it a program of the same shape —; `Shape.fails` and `Shape.run_ok` are the two disjuncts of `Shape.answer`, each under the value of
`result` that selects it. For each of the three operations: how its
program splits, that the split is a `Shape`, and what its `result` is in terms of the request (`putObject_result`, …); the rest is
instantiation.
-/
namespace S3V.FsWrite

/-- the state an interrupted or failed call had reached -/
def outSt : Except (Code × St) St → St
  | .ok s => s
  | .error (_, s) => s

theorem dropAfter_eq_run_take (k : Nat) (prog : List Step) (s : St) :
    dropAfter k prog s = (run (prog.take k) s).2 := by
  induction prog generalizing k s with
  | nil => cases k <;> rfl
  | cons st r ih =>
    cases k with
    | zero => rfl
    | succ k =>
      have := ih k
      unfold dropAfter at this ⊢
      simp only [List.take_succ_cons, run, prefixRun]
      cases exec s st with
      | ok s' => exact this s'
      | error e => rfl

theorem run_eq_drop (prog : List Step) (s : St) : (run prog s).2 = dropAfter prog.length prog s := by
  rw [dropAfter_eq_run_take, List.take_length]

/-- does the step go through? The state has no say in it -/
def Step.passes : Step → Bool
  | .listed ok | .sizes ok | .check ok => ok
  | .probe p | .part p => p.there
  | .frame f => f != .err
  | .mkdirs fails | .rename fails | .saveMeta fails | .dropMeta fails | .saveInfo fails => !fails
  | .consume | .dropPart | .create | .flush => true

/-- the bytes the step hands to the writer -/
def Step.bytes : Step → Bytes
  | .frame (.ok b) | .part (.present b _) => b
  | _ => []

/-- the steps that may follow the rename -/
def Step.post : Step → Bool
  | .saveMeta _ | .dropMeta _ | .saveInfo _ | .dropPart | .consume => true
  | _ => false

/-- the steps that may stand before it -/
def Step.pre : Step → Bool
  | .rename _ => false
  | st => !st.post

/-- nothing a client can observe distinguishes `r` from `s`: destination, side files, upload record, part files -/
def Same (s r : St) : Prop :=
  r.dest = s.dest ∧ r.mdata = s.mdata ∧ r.info = s.info ∧ r.uploadRec = s.uploadRec ∧ r.partsGone = s.partsGone

/-- `r` looks to a client like `s` (`Same`) and a temporary file, if there is one, is guarded: the state of a call that has not
    yet renamed -/
def Before (s r : St) : Prop := Same s r ∧ (r.tmp = true → r.owned = true)

/-- `r` looks to a client like `s` (`Same`) and no temporary file is left: what an abandoned or failed call must leave -/
def Untouched (s r : St) : Prop := Same s r ∧ r.tmp = false

theorem Before.refl {s : St} (hg : s.tmp = true → s.owned = true) : Before s s := ⟨⟨rfl, rfl, rfl, rfl, rfl⟩, hg⟩

/-- `Drop` removes the temporary file if it is guarded by a `FileWriter` -/
theorem Before.cleanup {s r : St} (h : Before s r) : Untouched s (cleanup r) := by
  unfold FsWrite.cleanup
  split
  · exact ⟨h.1, rfl⟩
  · next ho => exact ⟨h.1, Bool.eq_false_iff.mpr fun ht => ho (h.2 ht)⟩

/-- a step before the rename: passing or failing, it changes nothing a client can observe (`create` brings the temporary file
    and its guard into being at once), and when it passes the writer has its bytes -/
theorem pre_exec {st : Step} (hp : st.pre = true) {s r : St} (h : Before s r) :
    match exec r st with
    | .ok t => st.passes = true ∧ Before s t ∧ t.acc = r.acc ++ st.bytes
    | .error (c, t) => st.passes = false ∧ c ≠ .ok ∧ Before s t := by
  have nil : r.acc = r.acc ++ [] := (List.append_nil _).symm
  cases st with cases hp
  | create => exact ⟨rfl, ⟨h.1, fun _ => rfl⟩, nil⟩
  | flush => exact ⟨rfl, h, nil⟩
  | listed b | sizes b | check b =>
    cases b
    · exact ⟨rfl, nofun, h⟩
    · exact ⟨rfl, h, nil⟩
  | mkdirs b =>
    cases b
    · exact ⟨rfl, h, nil⟩
    · exact ⟨rfl, nofun, h⟩
  | probe p =>
    cases p
    · exact ⟨rfl, h, nil⟩
    · exact ⟨rfl, nofun, h⟩
  | part p =>
    cases p
    · exact ⟨rfl, h, rfl⟩
    · exact ⟨rfl, nofun, h⟩
  | frame f =>
    cases f
    · exact ⟨rfl, h, rfl⟩
    · exact ⟨rfl, nofun, h⟩

theorem post_exec {st : Step} (hp : st.post = true) (s : St) :
    match exec s st with
    | .ok t => t.dest = s.dest ∧ t.tmp = s.tmp ∧ t.owned = s.owned
    | .error (_, t) => t.dest = s.dest ∧ t.tmp = s.tmp ∧ t.owned = s.owned := by
  cases st with cases hp
  | saveMeta b | dropMeta b | saveInfo b => cases b <;> exact ⟨rfl, rfl, rfl⟩
  | dropPart | consume => exact ⟨rfl, rfl, rfl⟩

/-- steps that may follow the rename leave destination and temporary file as the rename left them -/
theorem run_post {post : List Step} (hp : ∀ st ∈ post, st.post = true) {s : St} (ho : s.owned = false) :
    (run post s).2.dest = s.dest ∧ (run post s).2.tmp = s.tmp := by
  have hc : ∀ s : St, s.owned = false → cleanup s = s := fun s h => by simp [cleanup, h]
  induction post generalizing s with
  | nil => rw [run, hc s ho]; exact ⟨rfl, rfl⟩
  | cons st r ih =>
    have h := post_exec (hp st (.head _)) s
    rw [run]
    rcases he : exec s st with ⟨c, t⟩ | t <;> simp only [he] at h ⊢
    · rw [hc _ (h.2.2.trans ho)]; exact ⟨h.1, h.2.1⟩
    · rw [← h.1, ← h.2.1]; exact ih (fun st hst => hp st (.tail _ hst)) (h.2.2.trans ho)

/-- the steps before the rename, then whatever follows: one of them fails and the call ends there with nothing changed, or
    all pass and what follows starts in a state in which nothing has changed yet and the writer holds the bytes gathered -/
theorem run_pre_append {pre : List Step} (hpre : ∀ st ∈ pre, st.pre = true) (tail : List Step) {s0 s : St}
    (hB : Before s0 s) :
    (pre.all Step.passes = false ∧ ∃ c r, c ≠ .ok ∧ Before s0 r ∧ run (pre ++ tail) s = (c, cleanup r)) ∨
    (pre.all Step.passes = true ∧ ∃ r, Before s0 r ∧ r.acc = s.acc ++ (pre.map Step.bytes).flatten ∧
      run (pre ++ tail) s = run tail r) := by
  induction pre generalizing s with
  | nil => exact .inr ⟨rfl, s, hB, (List.append_nil _).symm, rfl⟩
  | cons st rest ih =>
    have h := pre_exec (hpre st (.head _)) hB
    rw [List.cons_append, run, List.all_cons]
    rcases he : exec s st with ⟨c, t⟩ | t <;> simp only [he] at h ⊢
    · exact .inl ⟨by rw [h.1]; rfl, c, t, h.2.1, h.2.2, rfl⟩
    · rw [h.1, Bool.true_and]
      refine (ih (fun st hst => hpre st (.tail _ hst)) h.2.1).imp_right fun ⟨hall, r, hr, hra, hrun⟩ => ⟨hall, r, hr, ?_, hrun⟩
      rw [hra, h.2.2, List.map_cons, List.flatten_cons, List.append_assoc]

/-- the steps of `pre` may stand before the rename, those of `post` after it -/
structure Shape (pre post : List Step) : Prop where
  allPre : pre.all Step.pre = true
  allPost : post.all Step.post = true

/-- what the program `pre ++ .rename f :: post` puts in place of the destination: the bytes gathered by `pre`, if all of `pre`
    and the rename pass -/
def result (pre : List Step) (f : Bool) : Option Bytes :=
  if pre.all Step.passes && !f then some (pre.map Step.bytes).flatten else none

/-- what a fault at any position `k` of `prog` leaves, entered in a state whose temporary file (if any) is guarded: nothing has
    changed; or more than `nPre` steps have run, `bytes` is some `all` and the destination holds the bytes accumulated before
    followed by `all`. No temporary file either way. For the programs of the three operations `nPre` is the number of steps
    before the rename, so that `nPre < k` says that the rename has run. -/
def FaultOk (prog : List Step) (nPre : Nat) (bytes : Option Bytes) : Prop :=
  ∀ (s : St) (k : Nat), (s.tmp = true → s.owned = true) →
    Untouched s (dropAfter k prog s) ∨
    (nPre < k ∧ (dropAfter k prog s).tmp = false ∧
      ∃ all, bytes = some all ∧ (dropAfter k prog s).dest = some (s.acc ++ all))

/-- the call answers an error and nothing has changed -/
def Fails (prog : List Step) : Prop :=
  ∀ s : St, (s.tmp = true → s.owned = true) → (run prog s).1 ≠ .ok ∧ Untouched s (run prog s).2

/-- The guard is disarmed only by the rename that puts the gathered bytes in place: a call of which a step before the rename,
    or the rename, fails answers an error and has changed nothing; otherwise the steps after the rename find the destination
    replaced and no temporary file -/
theorem Shape.answer {pre post : List Step} (h : Shape pre post) (f : Bool) {s : St} (hg : s.tmp = true → s.owned = true) :
    (result pre f = none ∧ (run (pre ++ .rename f :: post) s).1 ≠ .ok ∧ Untouched s (run (pre ++ .rename f :: post) s).2) ∨
    (result pre f = some (pre.map Step.bytes).flatten ∧ ∃ r, Before s r ∧ run (pre ++ .rename f :: post) s =
      run post { r with dest := some (s.acc ++ (pre.map Step.bytes).flatten), tmp := false, owned := false }) := by
  rcases run_pre_append (List.all_eq_true.mp h.allPre) (.rename f :: post) (Before.refl hg) with
    ⟨hall, c, r, hc, hr, hrun⟩ | ⟨hall, r, hr, hra, hrun⟩
  · rw [hrun, result, hall]
    exact .inl ⟨rfl, hc, hr.cleanup⟩
  · rw [hrun, result, hall, ← hra]
    cases f with
    | true => exact .inl ⟨rfl, nofun, hr.cleanup⟩
    | false => exact .inr ⟨rfl, r, hr, rfl⟩

/-- cut off at or before the rename the program has only steps that change nothing; cut off later it is a program of the same
    shape, whose steps after the rename leave what the rename put in place -/
theorem Shape.fault {pre post : List Step} (h : Shape pre post) (f : Bool) :
    FaultOk (pre ++ .rename f :: post) pre.length (result pre f) := by
  intro s k hg
  rw [dropAfter_eq_run_take, List.take_append]
  by_cases hk : k ≤ pre.length
  · rw [Nat.sub_eq_zero_of_le hk, List.take_zero]
    rcases run_pre_append (fun st hst => List.all_eq_true.mp h.allPre st (List.mem_of_mem_take hst)) [] (Before.refl hg) with
      ⟨_, c, r, _, hr, hrun⟩ | ⟨_, r, hr, _, hrun⟩
    all_goals rw [hrun]; exact .inl hr.cleanup
  · obtain ⟨j, hj⟩ : ∃ j, k - pre.length = j + 1 := ⟨k - pre.length - 1, by omega⟩
    have hpost : ∀ st ∈ post.take j, st.post = true := fun st hst =>
      List.all_eq_true.mp h.allPost st (List.mem_of_mem_take hst)
    rw [List.take_of_length_le (by omega), hj, List.take_succ_cons]
    rcases Shape.answer ⟨h.allPre, List.all_eq_true.mpr hpost⟩ f hg with ⟨_, _, hu⟩ | ⟨hres, r, _, hrun⟩
    · exact .inl hu
    · rw [hrun]
      exact .inr ⟨by omega, (run_post hpost rfl).2, _, hres, (run_post hpost rfl).1⟩

theorem Shape.fails {pre post : List Step} (h : Shape pre post) {f : Bool} (hf : result pre f = none) :
    Fails (pre ++ .rename f :: post) := fun s hg =>
  (h.answer f hg).elim (fun h => h.2) fun ⟨hs, _⟩ => by rw [hf] at hs; cases hs

theorem Shape.run_ok {pre post : List Step} (h : Shape pre post) {all : Bytes} (hres : result pre false = some all) {s : St}
    (hg : s.tmp = true → s.owned = true) :
    ∃ r, Before s r ∧ run (pre ++ .rename false :: post) s =
      run post { r with dest := some (s.acc ++ all), tmp := false, owned := false } := by
  rcases h.answer false hg with ⟨hn, _⟩ | ⟨hs, r, hr, hrun⟩
  · rw [hres] at hn; cases hn
  · rw [hres] at hs; cases hs
    exact ⟨r, hr, hrun⟩

/-- The property theorems name the request's bytes (`allBytes c.frames`, `allParts c.parts`), not `result`: `FaultOk` passes from
    `result pre f` to `bytes` when `result pre f = if g then bytes else none`. -/
theorem Shape.faultOk_of_result {pre post : List Step} (h : Shape pre post) {f : Bool} {g : Prop} [Decidable g] {bytes : Option Bytes}
    (hres : result pre f = if g then bytes else none) : FaultOk (pre ++ .rename f :: post) pre.length bytes := fun s k hg =>
  (h.fault f s k hg).imp_right fun ⟨hk, ht, all, ha, hd⟩ => by
    rw [hres] at ha
    split at ha
    · exact ⟨hk, ht, all, ha, hd⟩
    · cases ha

/-- the four clauses of the C19 all-or-nothing theorems, for a write that starts from the previous state of the store -/
theorem FaultOk.allOrNothing {prog : List Step} {n : Nat} {bytes : Option Bytes} (h : FaultOk prog n bytes)
    (old : Option Bytes) (m i : Side) (k : Nat) :
    let s := dropAfter k prog (initSt old m i)
    s.tmp = false ∧ (s.dest = old ∨ ∃ all, bytes = some all ∧ s.dest = some all) ∧ (k ≤ n → s.dest = old) ∧
      ((s.mdata ≠ m ∨ s.info ≠ i ∨ s.uploadRec = false ∨ s.partsGone ≠ 0) → ∃ all, bytes = some all ∧ s.dest = some all) := by
  rcases h (initSt old m i) k nofun with ⟨⟨hd, hm, hi, hu, hp⟩, ht⟩ | ⟨hk, ht, all, ha, hd⟩
  · refine ⟨ht, .inl hd, fun _ => hd, fun hne => ?_⟩
    -- nothing has changed, so none of the four can differ
    rcases hne with hne | hne | hne | hne
    · exact absurd hm hne
    · exact absurd hi hne
    · exact absurd (hne.symm.trans hu) nofun
    · exact absurd hp hne
  · exact ⟨ht, .inr ⟨all, ha, hd⟩, fun hk' => absurd hk' (by omega), fun _ => ⟨all, ha, hd⟩⟩

theorem Fails.unchanged {prog : List Step} (h : Fails prog) (old : Option Bytes) (m i : Side) :
    (run prog (initSt old m i)).1 ≠ .ok ∧ (run prog (initSt old m i)).2.dest = old ∧
      (run prog (initSt old m i)).2.tmp = false ∧ (run prog (initSt old m i)).2.mdata = m ∧
      (run prog (initSt old m i)).2.info = i ∧ (run prog (initSt old m i)).2.uploadRec = true ∧
      (run prog (initSt old m i)).2.partsGone = 0 :=
  have ⟨hc, ⟨hd, hm, hi, hu, hp⟩, ht⟩ := h (initSt old m i) nofun
  ⟨hc, hd, ht, hm, hi, hu, hp⟩

/-- the body arrives whole exactly when every frame step passes, and is what they gather -/
theorem allBytes_eq : ∀ frames : List Frame, allBytes frames =
    if (frames.map Step.frame).all Step.passes then some ((frames.map Step.frame).map Step.bytes).flatten else none
  | [] => rfl
  | .err :: _ => rfl
  | .ok b :: r => by
    rw [allBytes, allBytes_eq r]
    show _ = if (r.map Step.frame).all Step.passes = true then some (b ++ ((r.map Step.frame).map Step.bytes).flatten) else none
    split <;> rfl

/-- the validation of `complete_multipart_upload` passes exactly when the parts assemble -/
theorem allParts_eq : ∀ parts : List Part, allParts parts =
    if parts.all Part.there && parts.all Part.fine then some ((parts.map Step.part).map Step.bytes).flatten else none
  | [] => rfl
  | .missing :: _ => rfl
  | .present _ false :: r => by
    show none = if (r.all Part.there && (false && r.all Part.fine)) = true then _ else none
    rw [Bool.false_and, Bool.and_false]
    rfl
  | .present b true :: r => by
    rw [allParts, allParts_eq r]
    show _ = if (r.all Part.there && r.all Part.fine) = true then some (b ++ ((r.map Step.part).map Step.bytes).flatten) else none
    split <;> rfl

/-- what follows the rename in `put_object` -/
def putPost (c : Cfg) : List Step :=
  [if c.hasMeta then .saveMeta c.metaFails else .dropMeta c.metaFails, .saveInfo c.infoFails]

def putPre (c : Cfg) : List Step :=
  .create :: (c.frames.map .frame ++ [.flush, .check c.checksumsEqual, .mkdirs c.mkdirsFails])

def partPre (c : Cfg) : List Step := .create :: (c.frames.map .frame ++ [.flush, .mkdirs c.mkdirsFails])

def completePre (c : Cfg) : List Step :=
  c.parts.map .probe ++ .sizes (c.parts.all Part.fine) :: .create :: (c.parts.map .part ++ [.mkdirs c.mkdirsFails])

theorem putObjectProg_eq (c : Cfg) : putObjectProg c = putPre c ++ .rename c.renameFails :: putPost c := by
  cases h : c.hasMeta <;> simp [putObjectProg, putPre, putPost, h]

theorem uploadPartProg_eq (c : Cfg) : uploadPartProg c = partPre c ++ .rename c.renameFails :: [] := by
  simp [uploadPartProg, partPre]

theorem completeProg_eq (c : Cfg) (h : c.parts ≠ []) :
    completeProg c = completePre c ++ .rename c.renameFails :: completePost c := by
  simp [completeProg, completePre, h]

/-- the program of a complete without a part list or with an empty one (0fcb858): the refusal -/
theorem completeProg_nil (c : Cfg) (h : c.parts = []) : completeProg c = [.listed false] := by
  simp [completeProg, h]

theorem putObject_shape (c : Cfg) : Shape (putPre c) (putPost c) :=
  ⟨by simp [putPre, Step.pre, Step.post], by cases h : c.hasMeta <;> simp [putPost, h, Step.post]⟩

theorem uploadPart_shape (c : Cfg) : Shape (partPre c) [] := ⟨by simp [partPre, Step.pre, Step.post], rfl⟩

theorem complete_shape (c : Cfg) : Shape (completePre c) (completePost c) :=
  ⟨by simp [completePre, Step.pre, Step.post], by cases h : c.hasMeta <;> simp [completePost, h, Step.post]⟩

/-- a program whose steps before the rename pass exactly when `a` and `g` hold, and gather `x`: `g` and the rename guard what
    `a` lets through -/
theorem result_eq {pre : List Step} {a g : Bool} {x : Bytes} (hp : pre.all Step.passes = (a && g))
    (hb : (pre.map Step.bytes).flatten = x) (f : Bool) :
    result pre f = if g && !f then (if a then some x else none) else none := by
  rw [result, hp, hb]
  cases a <;> cases g <;> cases f <;> rfl

/-- `put_object` puts the whole body in place, if the checksums agree and `done()` gets through -/
theorem putObject_result (c : Cfg) : result (putPre c) c.renameFails =
    if c.checksumsEqual && !c.mkdirsFails && !c.renameFails then allBytes c.frames else none := by
  rw [allBytes_eq]
  exact result_eq
    (by simp only [putPre, List.all_cons, List.all_append, List.all_nil, Step.passes, Bool.true_and, Bool.and_true])
    (by simp [putPre, Step.bytes]) _

theorem uploadPart_result (c : Cfg) : result (partPre c) c.renameFails =
    if !c.mkdirsFails && !c.renameFails then allBytes c.frames else none := by
  rw [allBytes_eq]
  exact result_eq
    (by simp only [partPre, List.all_cons, List.all_append, List.all_nil, Step.passes, Bool.true_and, Bool.and_true])
    (by simp [partPre, Step.bytes]) _

/-- `complete_multipart_upload` puts the parts in place, concatenated, if `done()` gets through; the parts are there when the
    probes have passed -/
theorem complete_result (c : Cfg) : result (completePre c) c.renameFails =
    if !c.mkdirsFails && !c.renameFails then allParts c.parts else none := by
  rw [allParts_eq]
  refine result_eq ?_ (by simp [completePre, Step.bytes]) _
  simp only [completePre, List.all_cons, List.all_append, List.all_map, List.all_nil, Step.passes, Function.comp_def,
    Bool.true_and, Bool.and_true]
  cases c.parts.all Part.there <;> simp

theorem putObject_faultOk (c : Cfg) : FaultOk (putObjectProg c) (c.frames.length + 4) (allBytes c.frames) := by
  rw [putObjectProg_eq, show c.frames.length + 4 = (putPre c).length by simp [putPre]]
  exact (putObject_shape c).faultOk_of_result (putObject_result c)

theorem uploadPart_faultOk (c : Cfg) : FaultOk (uploadPartProg c) (c.frames.length + 3) (allBytes c.frames) := by
  rw [uploadPartProg_eq, show c.frames.length + 3 = (partPre c).length by simp [partPre]]
  exact (uploadPart_shape c).faultOk_of_result (uploadPart_result c)

theorem complete_faultOk (c : Cfg) :
    FaultOk (completeProg c) (2 * c.parts.length + 3) (allParts c.parts) := by
  by_cases hne : c.parts = []
  · rw [completeProg_nil c hne]
    exact fun s k hg => .inl (by cases k <;> exact (Before.refl hg).cleanup)
  · rw [completeProg_eq c hne, show 2 * c.parts.length + 3 = (completePre c).length by simp [completePre]; omega]
    exact (complete_shape c).faultOk_of_result (complete_result c)

theorem putObject_fails (c : Cfg)
    (h : allBytes c.frames = none ∨ c.checksumsEqual = false ∨ c.mkdirsFails = true ∨ c.renameFails = true) :
    Fails (putObjectProg c) := by
  rw [putObjectProg_eq]
  refine (putObject_shape c).fails ?_
  rw [putObject_result]
  rcases h with h | h | h | h <;> simp [h]

theorem uploadPart_fails (c : Cfg) (h : allBytes c.frames = none ∨ c.mkdirsFails = true ∨ c.renameFails = true) :
    Fails (uploadPartProg c) := by
  rw [uploadPartProg_eq]
  refine (uploadPart_shape c).fails ?_
  rw [uploadPart_result]
  rcases h with h | h | h <;> simp [h]

theorem complete_fails (c : Cfg)
    (h : c.parts = [] ∨ allParts c.parts = none ∨ c.mkdirsFails = true ∨ c.renameFails = true) :
    Fails (completeProg c) := by
  by_cases hne : c.parts = []
  · rw [completeProg_nil c hne]
    exact fun s hg => ⟨nofun, (Before.refl hg).cleanup⟩
  · rw [completeProg_eq c hne]
    refine (complete_shape c).fails ?_
    rw [complete_result]
    rcases h.resolve_left hne with h | h | h <;> simp [h]

/-- running the steps after the rename (no fault among them): the metadata is the upload's (none if it has none), the
    checksum record is new, every listed part file and the upload record are gone; destination and temporary file are not
    touched -/
theorem run_completePost (c : Cfg) (hf : c.metaFails = false) (hi : c.infoFails = false) (s : St) :
    run (completePost c) s =
      (.ok, cleanup { s with mdata := if c.hasMeta then .new else .absent, info := .new,
                             partsGone := s.partsGone + c.parts.length, uploadRec := false }) := by
  have hdrop : ∀ (n : Nat) (s : St), run ((List.replicate n Step.dropPart) ++ [.consume]) s =
      (.ok, cleanup { s with partsGone := s.partsGone + n, uploadRec := false }) := by
    intro n
    induction n with
    | zero => intro s; simp [run, exec]
    | succ n ih =>
      intro s
      simp only [List.replicate_succ, List.cons_append, run, exec]
      rw [ih]
      simp [Nat.add_assoc, Nat.add_comm 1 n]
  have hmap : (c.parts.map fun _ => Step.dropPart) = List.replicate c.parts.length Step.dropPart :=
    List.map_const' ..
  unfold completePost
  rw [hmap, List.cons_append, List.cons_append, hf, hi]
  cases hm : c.hasMeta <;> simp only [run, exec, Bool.false_eq_true, ↓reduceIte] <;> rw [hdrop]

theorem run_putPost (c : Cfg) (hf : c.metaFails = false) (hi : c.infoFails = false) (s : St) :
    run (putPost c) s = (.ok, cleanup { s with mdata := if c.hasMeta then .new else .absent, info := .new }) := by
  rw [putPost, hf, hi]
  cases c.hasMeta <;> rfl

theorem putObject_run_ok (c : Cfg) (all : Bytes) (hb : allBytes c.frames = some all) (h1 : c.checksumsEqual = true)
    (h2 : c.renameFails = false) (h3 : c.metaFails = false) (h4 : c.infoFails = false) (h5 : c.mkdirsFails = false)
    {s : St} (hg : s.tmp = true → s.owned = true) :
    ∃ r, Before s r ∧ run (putObjectProg c) s =
      (.ok, { r with dest := some (s.acc ++ all), tmp := false, owned := false,
                     mdata := if c.hasMeta then .new else .absent, info := .new }) := by
  have hres : result (putPre c) false = some all := by rw [← h2, putObject_result, h1, h2, h5]; exact hb
  obtain ⟨r, hr, hrun⟩ := (putObject_shape c).run_ok hres hg
  exact ⟨r, hr, by rw [putObjectProg_eq, h2, hrun, run_putPost c h3 h4]; rfl⟩

theorem complete_run_ok (c : Cfg) (all : Bytes) (hne : c.parts ≠ []) (hb : allParts c.parts = some all)
    (h1 : c.mkdirsFails = false) (h2 : c.renameFails = false) (h3 : c.metaFails = false) (h4 : c.infoFails = false)
    {s : St} (hg : s.tmp = true → s.owned = true) :
    ∃ r, Before s r ∧ run (completeProg c) s =
      (.ok, { r with dest := some (s.acc ++ all), tmp := false, owned := false,
                     mdata := if c.hasMeta then .new else .absent, info := .new, uploadRec := false,
                     partsGone := r.partsGone + c.parts.length }) := by
  have hres : result (completePre c) false = some all := by rw [← h2, complete_result, h1, h2]; exact hb
  obtain ⟨r, hr, hrun⟩ := (complete_shape c).run_ok hres hg
  exact ⟨r, hr, by rw [completeProg_eq c hne, h2, hrun, run_completePost c h3 h4]; rfl⟩

/-- the refusal answers `MalformedXML` and changes nothing, at any fault position -/
theorem refusal_changes_nothing (s : St) (ho : s.owned = false) :
    run [.listed false] s = (.malformedXML, s) ∧ ∀ k, cleanup (outSt (prefixRun k [.listed false] s)) = s := by
  have hc : cleanup s = s := by simp [cleanup, ho]
  exact ⟨congrArg _ hc, fun k => by cases k <;> exact hc⟩

end S3V.FsWrite
