import S3V.Thm.FsPath
import S3V.Thm.ListLemmas
import S3V.Thm.Decimal
/-!
# Lemmas: the bookkeeping names are single good components starting with `.` (C17)
-/
namespace S3V.FsPath

/-- the decimal text of a number holds digits only: no `/`, no `.`, no `-` -/
theorem not_mem_natDigits {x : UInt8} (hx : S3V.isDigit x = false) (n : Nat) : x ∉ natDigits n := not_mem_fmtDec hx n

theorem noSlash_natDigits (n : Nat) : (47 : UInt8) ∉ natDigits n := not_mem_natDigits rfl n

theorem noSlash_intText (i : Int) : (47 : UInt8) ∉ intText i := by
  unfold intText
  split
  · intro h
    rcases List.mem_cons.mp h with h | h
    · cases h
    · exact noSlash_natDigits _ h
  · exact noSlash_natDigits _

theorem hexNibble_ne_slash {c x : UInt8} (h : hexNibble c = some x) : x ≠ 47 := by
  unfold hexNibble at h
  split at h
  · rename_i hc
    cases h
    intro e; subst e; exact absurd hc.1 (by decide)
  · split at h
    · rename_i hc
      cases h
      intro e; subst e; exact absurd hc.1 (by decide)
    · split at h
      · rename_i hc
        cases h
        intro e
        have h1 := UInt8.le_iff_toNat_le.mp hc.1
        have h2 := UInt8.le_iff_toNat_le.mp hc.2
        have := congrArg UInt8.toNat e
        simp [UInt8.toNat_add] at this h1 h2
        omega
      · cases h

theorem mapM_hexNibble_noSlash (l h : Bytes) (hh : l.mapM hexNibble = some h) : (47 : UInt8) ∉ h := fun hm =>
  have ⟨_, ha⟩ := mem_of_mapM_eq_some hh 47 hm
  hexNibble_ne_slash ha rfl

theorem uuidFromSimple_noSlash {s u : Bytes} (h : uuidFromSimple s = some u) : (47 : UInt8) ∉ u := by
  unfold uuidFromSimple at h
  split at h
  · cases h
  · split at h
    · cases h
    · rename_i hx hm
      cases h
      have hh := mapM_hexNibble_noSlash _ _ hm
      have ht : ∀ n, (47 : UInt8) ∉ hx.take n := fun n m => hh (List.mem_of_mem_take m)
      have hd : ∀ n, (47 : UInt8) ∉ hx.drop n := fun n m => hh (List.mem_of_mem_drop m)
      have htd : ∀ n k, (47 : UInt8) ∉ (hx.drop n).take k := fun n k m => hd n (List.mem_of_mem_take m)
      simp [ht, hd, htd]

theorem uuidFromHyphenated_noSlash {s u : Bytes} (h : uuidFromHyphenated s = some u) : (47 : UInt8) ∉ u := by
  unfold uuidFromHyphenated at h
  split at h
  · cases h
  · split at h
    · exact uuidFromSimple_noSlash h
    · cases h

theorem parseUuid_noSlash {s u : Bytes} (h : parseUuid s = some u) : (47 : UInt8) ∉ u := by
  unfold parseUuid at h
  split at h
  · exact uuidFromSimple_noSlash h
  · split at h
    · exact uuidFromHyphenated_noSlash h
    · split at h
      · exact uuidFromHyphenated_noSlash h
      · split at h
        · exact uuidFromHyphenated_noSlash h
        · cases h

/-- a bookkeeping name: one good component that starts with `.` (so that no bucket that arrives over HTTP is named so) -/
structure DotName (n : Bytes) : Prop where
  good : Good n
  dot : n.head? = some 46

/-- a bucket string that passes the first-byte clause of `check_bucket_name` and is one component: that component does not
    begin with `.` -/
theorem bucket_comp_head {b bn : Bytes} (hf : bucketNameFirstOk b = true) (hc : components b = [.normal bn]) :
    bn.head? ≠ some 46 := by
  cases b with
  | nil => simp [bucketNameFirstOk] at hf
  | cons c cs =>
    have hc46 : c ≠ 46 := by
      intro e; subst e; simp [bucketNameFirstOk] at hf
    have hc47 : c ≠ 47 := by
      intro e; subst e; simp [bucketNameFirstOk] at hf
    -- the first byte is neither `.` nor `/`: it heads the first segment, and that segment is the component
    obtain ⟨s, r, _, h2⟩ := splitSlash_splits.cons_eq c cs
    rw [if_neg hc47] at h2
    have hseg : segComp (c :: s) = some (.normal (c :: s)) := by
      unfold segComp
      rw [if_neg (by simp), if_neg (by intro e; exact hc46 (List.cons.inj e).1),
        if_neg (by intro e; exact hc46 (List.cons.inj e).1)]
    have hbody : body (c :: cs) = .normal (c :: s) :: r.filterMap segComp := by
      simp [body, h2, hseg]
    have hrel : isAbsolute (c :: cs) = false := isAbsolute_cons_ne hc47 cs
    rcases components_rel_cases hrel with h' | h' <;> rw [hc, hbody] at h'
    · have := (List.cons.inj h').1
      cases this
      simp [hc46]
    · cases h'

/-- a string without `/` that begins `.` `c` … with `c` not `.`; all bookkeeping names are of this form, with `c` a letter of
    their fixed prefix -/
theorem good_dot_name {n : Bytes} {c : UInt8} {rest : Bytes} (hn : n = 46 :: c :: rest) (h1 : c ≠ 46)
    (h : (47 : UInt8) ∉ n) : DotName n := by
  subst hn
  exact ⟨⟨nofun, nofun, fun e => h1 (List.cons.inj (List.cons.inj e).2).1, h⟩, rfl⟩

theorem good_metadataName {enc : Bytes → Bytes} (he : EncNoSlash enc) (b k : Bytes) {u : Option Bytes}
    (hu : ∀ x, u = some x → (47 : UInt8) ∉ x) :
    DotName (metadataName enc b k u) := by
  refine good_dot_name (c := 98) rfl (by decide) ?_
  simp only [metadataName, List.mem_append, not_or]
  refine ⟨⟨⟨⟨⟨by decide, he b⟩, by decide⟩, he k⟩, ?_⟩, by decide⟩
  cases u with
  | none => exact List.not_mem_nil
  | some x =>
    simp only [List.mem_append, not_or]
    exact ⟨by decide, hu x rfl⟩

theorem good_internalInfoName {enc : Bytes → Bytes} (he : EncNoSlash enc) (b k : Bytes) :
    DotName (internalInfoName enc b k) := by
  refine good_dot_name (c := 98) rfl (by decide) ?_
  simp only [internalInfoName, List.mem_append, not_or]
  exact ⟨⟨⟨⟨by decide, he b⟩, by decide⟩, he k⟩, by decide⟩

theorem good_uploadInfoName {u : Bytes} (hu : (47 : UInt8) ∉ u) :
    DotName (uploadInfoName u) := by
  refine good_dot_name (c := 117) rfl (by decide) ?_
  simp only [uploadInfoName, List.mem_append, not_or]
  exact ⟨⟨by decide, hu⟩, by decide⟩

theorem good_uploadPartName {u : Bytes} (hu : (47 : UInt8) ∉ u) (n : Int) :
    DotName (uploadPartName u n) := by
  refine good_dot_name (c := 117) rfl (by decide) ?_
  simp only [uploadPartName, uploadPartPrefix, List.mem_append, not_or]
  exact ⟨⟨⟨by decide, hu⟩, by decide⟩, noSlash_intText n⟩

theorem good_tmpName (c : Nat) : DotName (tmpName c) := by
  refine good_dot_name (c := 116) rfl (by decide) ?_
  simp only [tmpName, List.mem_append, not_or]
  exact ⟨⟨by decide, noSlash_natDigits c⟩, by decide⟩

end S3V.FsPath
