import S3V.Thm.ListLemmas

/-!
# Lemmas: the insertion loop of the stable sorts

Every sort in the models (`sort_by` on header and query vectors, on form fields, on listings, on part numbers) is written
as the same loop: the new element passes the leading entries that are `r`-before it and stops at the first that is not.
`insBy r` is that loop and `sortBy r` the sort that inserts from the right; a model's insertion function and sort are these
for its own test (`insBy_of`, `sortBy_of`: their defining equations are the hypotheses; a sort written as a `foldl` from
the empty list is `sortBy` of the reversed list, `sortBy_of_foldl`). What the proofs need — the loop
permutes; it keeps a list sorted by a transitive `le` when what passes `x` is `le` it and `x` is `le` what stops it; selecting
by a predicate commutes with it when the test is closed downwards along `le` — is proved here once.
-/
namespace S3V

variable {α : Type}

def insBy (r : α → α → Bool) (x : α) : List α → List α
  | [] => [x]
  | y :: t => if r y x then y :: insBy r x t else x :: y :: t

/-- `foldr` form of the sort (`x :: xs => insert x (sort xs)`) -/
def sortBy (r : α → α → Bool) (l : List α) : List α := l.foldr (insBy r) []

theorem sortBy_cons (r : α → α → Bool) (x : α) (l : List α) : sortBy r (x :: l) = insBy r x (sortBy r l) := rfl

theorem insBy_of {r : α → α → Bool} {ins : α → List α → List α} (h₁ : ∀ x, ins x [] = [x])
    (h₂ : ∀ x y t, ins x (y :: t) = if r y x then y :: ins x t else x :: y :: t) (x : α) (l : List α) :
    ins x l = insBy r x l := by
  induction l with
  | nil => exact h₁ x
  | cons y t ih => rw [h₂, insBy, ih]

theorem sortBy_of {r : α → α → Bool} {ins : α → List α → List α} {srt : List α → List α}
    (hi : ∀ x l, ins x l = insBy r x l) (h₁ : srt [] = []) (h₂ : ∀ x t, srt (x :: t) = ins x (srt t)) (l : List α) :
    srt l = sortBy r l := by
  induction l with
  | nil => exact h₁
  | cons x t ih => rw [h₂, hi, ih, sortBy_cons]

/-- a function that inserts from the left, starting from nothing, is the sort of the reversed list -/
theorem sortBy_of_foldl {r : α → α → Bool} {ins : α → List α → List α} (hi : ∀ x l, ins x l = insBy r x l) (l : List α) :
    l.foldl (fun acc x => ins x acc) [] = sortBy r l.reverse := by
  rw [List.foldl_eq_foldr_reverse, funext fun x => funext (hi x)]
  rfl

/-- the loop as a cut: `x` goes between what passes it and what stops it, so that permuting, selecting and projecting are
    read off `takeWhile` and `dropWhile` -/
theorem insBy_eq (r : α → α → Bool) (x : α) : ∀ l, insBy r x l = l.takeWhile (r · x) ++ x :: l.dropWhile (r · x)
  | [] => rfl
  | y :: t => by
    rw [insBy, List.takeWhile_cons, List.dropWhile_cons]
    cases r y x
    · rfl
    · exact congrArg (y :: ·) (insBy_eq r x t)

theorem insBy_perm (r : α → α → Bool) (x : α) (l : List α) : (insBy r x l).Perm (x :: l) := by
  rw [insBy_eq]
  exact List.perm_middle.trans (by rw [List.takeWhile_append_dropWhile])

theorem mem_insBy {r : α → α → Bool} {x y : α} {l : List α} : y ∈ insBy r x l ↔ y = x ∨ y ∈ l :=
  (insBy_perm r x l).mem_iff.trans List.mem_cons

theorem sortBy_perm (r : α → α → Bool) (l : List α) : (sortBy r l).Perm l := by
  induction l with
  | nil => exact .refl _
  | cons x t ih => exact (insBy_perm r x _).trans (ih.cons x)

theorem insBy_of_forall_false {r : α → α → Bool} {x : α} {l : List α} (h : ∀ y ∈ l, r y x = false) : insBy r x l = x :: l := by
  cases l with
  | nil => rfl
  | cons z t => rw [insBy, if_neg (by rw [h z List.mem_cons_self]; nofun)]

variable {le : α → α → Prop} {r : α → α → Bool}

theorem insBy_pairwise {x : α} (trans : ∀ a b c, le a b → le b c → le a c) (ht : ∀ y, r y x = true → le y x)
    (hf : ∀ y, r y x = false → le x y) {l : List α} (h : l.Pairwise le) : (insBy r x l).Pairwise le := by
  induction l with
  | nil => exact List.pairwise_singleton _ _
  | cons z t ih =>
    rw [List.pairwise_cons] at h
    unfold insBy
    split
    · rename_i hz
      refine List.pairwise_cons.mpr ⟨fun y hy => ?_, ih h.2⟩
      rcases mem_insBy.mp hy with rfl | hy
      · exact ht z hz
      · exact h.1 y hy
    · rename_i hz
      have hxz := hf z (Bool.not_eq_true _ ▸ hz)
      refine List.pairwise_cons.mpr ⟨fun y hy => ?_, List.pairwise_cons.mpr h⟩
      rcases List.mem_cons.mp hy with rfl | hy
      · exact hxz
      · exact trans _ _ _ hxz (h.1 y hy)

theorem sortBy_pairwise (trans : ∀ a b c, le a b → le b c → le a c)
    (ht : ∀ x y, r y x = true → le y x) (hf : ∀ x y, r y x = false → le x y) (l : List α) :
    (sortBy r l).Pairwise le := by
  induction l with
  | nil => exact .nil
  | cons x t ih => exact insBy_pairwise trans (ht x) (hf x) ih

/-- `down`: once an entry stops `x`, all later ones do -/
theorem filter_insBy {x : α} (q : α → Bool) (down : ∀ y y', le y y' → r y' x = true → r y x = true) {l : List α}
    (h : l.Pairwise le) :
    (insBy r x l).filter q = if q x then insBy r x (l.filter q) else l.filter q := by
  obtain ⟨ht, hd⟩ := filter_while (r · x) q (h.imp fun hab => down _ _ hab)
  rw [insBy_eq, insBy_eq, ht, hd, List.filter_append, List.filter_cons]
  split
  · rfl
  · rw [← List.filter_append, List.takeWhile_append_dropWhile]

/-- projecting to the key commutes with a sort that compares keys -/
theorem map_insBy {β : Type} (k : α → β) (r : β → β → Bool) (x : α) (l : List α) :
    (insBy (fun y x => r (k y) (k x)) x l).map k = insBy r (k x) (l.map k) := by
  rw [insBy_eq, insBy_eq, List.map_append, List.map_cons, List.takeWhile_map, List.dropWhile_map]
  rfl

theorem map_sortBy {β : Type} (k : α → β) (r : β → β → Bool) :
    ∀ l : List α, (sortBy (fun y x => r (k y) (k x)) l).map k = sortBy r (l.map k)
  | [] => rfl
  | x :: t => by rw [sortBy_cons, map_insBy, map_sortBy k r t]; rfl

end S3V
