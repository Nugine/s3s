import S3V.Thm.DtoTimestampText
import S3V.Thm.DtoCivil
import S3V.Spec.Dto
/-! # Timestamps: round trips of the text forms, instant preservation

The UTC year of an instant by range (`utcYear_fourDigit_iff`, `utcYear_time_iff`), the `DateTime` and `HttpDate` round trips, the model's
calendar against the counting calendar of the specification, an RFC 3339 text with any offset
(`parse_rfc3339Text`), and: whatever one of the three forms accepts lies within `time`'s range (`parseHttpDate_range`;
`parseRfc3339_eq_some_iff` for the `DateTime` form; the epoch form and the three together, `Ts.parse_range`, are in
`DtoTimestampEpoch`) and every instant of that range is written by all three (`format_total_of_range`). -/
namespace S3V.Dto

/-! day numbers of the first days of the years that bound `Timestamp::parse` (0000 … 9999) and `time` (−9999 … 9999) -/
theorem jan1_year0 : daysFromCivil 0 1 1 = -719528 := by decide
theorem jan1_year10000 : daysFromCivil 10000 1 1 = 2932897 := by decide
theorem jan1_yearNeg9999 : daysFromCivil (-9999) 1 1 = -4371587 := by decide

/-- 0000-01-01T00:00:00Z; the last second of year 9999 is `unixMax`, the upper end of `time`'s range -/
def unixYear0 : Int := -62167219200

/-- the instants whose UTC year lies in `[lo, hi)` -/
theorem utcYear_between_iff (unix lo hi : Int) :
    lo ≤ (utcFields unix).1 ∧ (utcFields unix).1 < hi ↔
      daysFromCivil lo 1 1 * 86400 ≤ unix ∧ unix < daysFromCivil hi 1 1 * 86400 := by
  have hlo := civilFromDays_year_lt_iff (unix / 86400) lo
  have hhi := civilFromDays_year_lt_iff (unix / 86400) hi
  show lo ≤ (civilFromDays (unix / 86400)).1 ∧ (civilFromDays (unix / 86400)).1 < hi ↔ _
  omega

theorem utcYear_fourDigit_iff (unix : Int) :
    0 ≤ (utcFields unix).1 ∧ (utcFields unix).1 ≤ 9999 ↔ unixYear0 ≤ unix ∧ unix ≤ unixMax := by
  have := utcYear_between_iff unix 0 10000
  rw [jan1_year0, jan1_year10000] at this
  unfold unixYear0 unixMax
  omega

theorem utcYear_time_iff (unix : Int) :
    -9999 ≤ (utcFields unix).1 ∧ (utcFields unix).1 ≤ 9999 ↔ unixMin ≤ unix ∧ unix ≤ unixMax := by
  have := utcYear_between_iff unix (-9999) 10000
  rw [jan1_yearNeg9999, jan1_year10000] at this
  unfold unixMin unixMax
  omega

theorem utcFields_valid (unix : Int) (h1 : unixYear0 ≤ unix) (h2 : unix ≤ unixMax) :
    ∃ (y : Int) (m d sod : Nat), utcFields unix = (y, m, d, sod) ∧
      0 ≤ y ∧ y ≤ 9999 ∧ 1 ≤ m ∧ m ≤ 12 ∧ d ≤ 31 ∧ sod < 86400 ∧
      validFields y m d (sod / 3600) (sod / 60 % 60) (sod % 60) = true ∧
      localSeconds y m d (sod / 3600) (sod / 60 % 60) (sod % 60) = unix := by
  obtain ⟨hz, hm1, hm2, hd1, hd2⟩ := civil_days_civil (unix / 86400)
  obtain ⟨hy1, hy2⟩ : 0 ≤ (civilFromDays (unix / 86400)).1 ∧ (civilFromDays (unix / 86400)).1 ≤ 9999 :=
    (utcYear_fourDigit_iff unix).mpr ⟨h1, h2⟩
  refine ⟨(civilFromDays (unix / 86400)).1, (civilFromDays (unix / 86400)).2.1, (civilFromDays (unix / 86400)).2.2,
    (unix % 86400).toNat, rfl, hy1, hy2, hm1, hm2, Nat.le_trans hd2 (daysInMonth_le_31 _ _), by omega, ?_, ?_⟩
  · simp only [validFields, Bool.and_eq_true, decide_eq_true_eq]
    omega
  · unfold localSeconds
    rw [hz]
    omega

/-- the converse of `utcFields_valid` (instants and valid field tuples correspond one to one): what holds of an instant
    by its UTC year (`utcYear_between_iff` and its instances) holds of `localSeconds` by the year written -/
theorem utcFields_localSeconds {y : Int} {mo d h mi s : Nat} (hv : validFields y mo d h mi s = true) :
    utcFields (localSeconds y mo d h mi s) = (y, mo, d, h * 3600 + mi * 60 + s) := by
  simp only [validFields, Bool.and_eq_true, decide_eq_true_eq] at hv
  obtain ⟨⟨⟨⟨⟨-, hm1, hm2⟩, hd1, hd2⟩, hh⟩, hmi⟩, hs⟩ := hv
  have hsod : h * 3600 + mi * 60 + s < 86400 := by omega
  rw [utcFields, localSeconds]
  generalize h * 3600 + mi * 60 + s = sod at hsod ⊢
  have hq : (daysFromCivil y mo d * 86400 + (sod : Int)) / 86400 = daysFromCivil y mo d := by omega
  have hr : ((daysFromCivil y mo d * 86400 + (sod : Int)) % 86400).toNat = sod := by omega
  rw [hq, days_civil_days y mo d hm1 hm2 hd1 hd2, hr]

/-- `checked_to_offset(UTC)` succeeds on every instant `time` can hold in UTC -/
theorem toUtc_of_range (t : Ts) (h1 : unixMin ≤ t.unix) (h2 : t.unix ≤ unixMax) : toUtc t = some (utcFields t.unix) := by
  obtain ⟨hy1, hy2⟩ := (utcYear_time_iff t.unix).mpr ⟨h1, h2⟩
  simp only [toUtc, Bool.and_eq_true, decide_eq_true_eq, hy1, hy2, and_self, if_true]

/-- **the year check of the `DateTime` arm** (code since b7ef08a), as a range of instants: a text `time` parses is
    accepted exactly when its instant lies in the years 0000 … 9999 of UTC -/
theorem parseRfc3339_of_time {e : Bytes} {t : Ts} (h : parseRfc3339Time e = some t) :
    parseRfc3339 e = if unixYear0 ≤ t.unix ∧ t.unix ≤ unixMax then some t else none := by
  rw [parseRfc3339_eq, h, Option.bind_some]
  simp only [utcYear_fourDigit_iff]

theorem parseRfc3339_eq_some_iff {e : Bytes} {t : Ts} :
    parseRfc3339 e = some t ↔ parseRfc3339Time e = some t ∧ unixYear0 ≤ t.unix ∧ t.unix ≤ unixMax := by
  constructor
  · intro h
    have ht := parseRfc3339_time h
    rw [parseRfc3339_of_time ht] at h
    exact ⟨ht, (Option.ite_none_right_eq_some.mp h).1⟩
  · rintro ⟨ht, hr⟩
    rw [parseRfc3339_of_time ht, if_pos hr]

/-- text of `formatDateTime` for an instant of the years 0000 … 9999, in right-nested form -/
theorem formatDateTime_eq (t : Ts) (y : Int) (m d sod : Nat) (hf : utcFields t.unix = (y, m, d, sod))
    (hy1 : 0 ≤ y) (hy2 : y ≤ 9999) :
    formatDateTime t = some (pad4 y.natAbs ++ 45 :: (pad2 m ++ 45 :: (pad2 d ++ 84 :: (pad2 (sod / 3600) ++ 58 ::
      (pad2 (sod / 60 % 60) ++ 58 :: (pad2 (sod % 60) ++ 46 :: (pad3 (t.nanos / 1000000) ++ [90]))))))) := by
  have hr : (decide (-9999 ≤ y) && decide (y ≤ 9999)) = true := by simp; omega
  have hneg : ¬ y < 0 := by omega
  simp only [formatDateTime, toUtc, hf, hr, if_true, fmtYear, hneg, if_false, fmtHms, List.nil_append,
    List.append_assoc, List.cons_append]

theorem datetime_roundtrip (t : Ts) (h1 : unixYear0 ≤ t.unix) (h2 : t.unix ≤ unixMax)
    (hn : t.nanos < 1000000000) :
    ∃ txt, formatDateTime t = some txt ∧
      parseRfc3339 txt = some ⟨t.unix, t.nanos / 1000000 * 1000000, 0⟩ := by
  obtain ⟨y, m, d, sod, hf, hy1, hy2, hm1, hm2, hd31, hs, hv, hloc⟩ := utcFields_valid t.unix h1 h2
  refine ⟨_, formatDateTime_eq t y m d sod hf hy1 hy2, ?_⟩
  have hya : ((y.natAbs : Nat) : Int) = y := by omega
  have htime := parseTime_digits (Y := y.natAbs) (m := m) (d := d) (H := sod / 3600) (Mi := sod / 60 % 60) (S := sod % 60)
    (nDigits_pad4 (by omega)) (nDigits_pad2 (by omega)) (nDigits_pad2 (by omega)) (nDigits_pad2 (by omega))
    (nDigits_pad2 (by omega)) (nDigits_pad2 (by omega)) (by omega) 84
    (parseSubsec_pad3 (t.nanos / 1000000) (by omega) 90 (by decide) []) parseOffset_Z
  rw [hya, hv, if_pos rfl, hloc, Int.sub_zero] at htime
  exact parseRfc3339_eq_some_iff.mpr ⟨htime, h1, h2⟩

theorem firstMatch_weekday (i : Nat) (hi : i < 7) (rest : Bytes) :
    firstMatch weekdayNames (weekdayNames.getD i [] ++ rest) 0 = some (i, rest) := by
  have : i = 0 ∨ i = 1 ∨ i = 2 ∨ i = 3 ∨ i = 4 ∨ i = 5 ∨ i = 6 := by omega
  -- no name is a prefix of another, so `stripPrefix` refuses every earlier name: `simp` evaluates each case
  rcases this with rfl | rfl | rfl | rfl | rfl | rfl | rfl <;>
    simp [weekdayNames, firstMatch, stripPrefix]

theorem firstMatch_month (i : Nat) (hi : i < 12) (rest : Bytes) :
    firstMatch monthNames (monthNames.getD i [] ++ rest) 0 = some (i, rest) := by
  have : i = 0 ∨ i = 1 ∨ i = 2 ∨ i = 3 ∨ i = 4 ∨ i = 5 ∨ i = 6 ∨ i = 7 ∨ i = 8 ∨ i = 9 ∨ i = 10 ∨ i = 11 := by omega
  rcases this with rfl | rfl | rfl | rfl | rfl | rfl | rfl | rfl | rfl | rfl | rfl | rfl <;>
    simp [monthNames, firstMatch, stripPrefix]

theorem parseYearSigned_pad4 (Y : Nat) (hY : Y < 10000) (rest : Bytes) :
    parseYearSigned (pad4 Y ++ rest) = some ((Y : Int), rest) := by
  have h := (nDigits_pad4 hY).read rest
  have hd : isDigit (digitChar (Y / 1000 % 10)) = true := isDigit_digitChar (by omega)
  have h43 := digit_ne _ hd 43 (by decide)
  have h45 := digit_ne _ hd 45 (by decide)
  simp only [pad4, List.cons_append, List.nil_append] at h ⊢
  unfold parseYearSigned
  simp only [h43, h45, Bool.or_self, Bool.false_eq_true, if_false, decide_false, h, bind, Option.bind]

theorem parseHttpDate_canonical (wd mi Y d H Mi S : Nat) (hwd : wd < 7) (hmi : mi < 12) (hY : Y < 10000) (hd : d < 100)
    (hH : H < 100) (hMi : Mi < 100) (hS : S < 100) :
    parseHttpDate (weekdayNames.getD wd [] ++ 44 :: 32 :: (pad2 d ++ 32 :: (monthNames.getD mi [] ++ 32 ::
      (pad4 Y ++ 32 :: (pad2 H ++ 58 :: (pad2 Mi ++ 58 :: (pad2 S ++ gmtSuffix))))))) =
      if validFields Y (mi + 1) d H Mi S then some ⟨localSeconds Y (mi + 1) d H Mi S, 0, 0⟩ else none := by
  unfold parseHttpDate
  have hsp : ∀ r : Bytes, stripPrefix [44, 32] (44 :: 32 :: r) = some r := by intro r; simp [stripPrefix]
  have hg : stripPrefix gmtSuffix gmtSuffix = some [] := by decide
  simp only [firstMatch_weekday wd hwd, firstMatch_month mi hmi, hsp, (nDigits_pad2 hd).read, (nDigits_pad2 hH).read,
    (nDigits_pad2 hMi).read, (nDigits_pad2 hS).read, parseYearSigned_pad4 Y hY, expectChar_cons, hg, bind, Option.bind]
  cases validFields (↑Y) (mi + 1) d H Mi S <;> simp

theorem formatHttpDate_eq (t : Ts) (y : Int) (m d sod : Nat) (hf : utcFields t.unix = (y, m, d, sod))
    (hy1 : 0 ≤ y) (hy2 : y ≤ 9999) :
    formatHttpDate t = some (weekdayNames.getD (weekdayOfDays (t.unix / 86400)) [] ++ 44 :: 32 :: (pad2 d ++ 32 ::
      (monthNames.getD (m - 1) [] ++ 32 :: (pad4 y.natAbs ++ 32 :: (pad2 (sod / 3600) ++ 58 ::
      (pad2 (sod / 60 % 60) ++ 58 :: (pad2 (sod % 60) ++ gmtSuffix))))))) := by
  have hr : (decide (-9999 ≤ y) && decide (y ≤ 9999)) = true := by simp; omega
  have hneg : ¬ y < 0 := by omega
  simp only [formatHttpDate, toUtc, hf, hr, if_true, fmtYear, hneg, if_false, fmtHms, List.nil_append,
    List.append_assoc, List.cons_append]

theorem httpdate_roundtrip (t : Ts) (h1 : unixYear0 ≤ t.unix) (h2 : t.unix ≤ unixMax) :
    ∃ txt, formatHttpDate t = some txt ∧ parseHttpDate txt = some ⟨t.unix, 0, 0⟩ := by
  obtain ⟨y, m, d, sod, hf, hy1, hy2, hm1, hm2, hd31, hs, hv, hloc⟩ := utcFields_valid t.unix h1 h2
  refine ⟨_, formatHttpDate_eq t y m d sod hf hy1 hy2, ?_⟩
  have hwd : weekdayOfDays (t.unix / 86400) < 7 := by unfold weekdayOfDays; omega
  rw [parseHttpDate_canonical _ (m - 1) y.natAbs d (sod / 3600) (sod / 60 % 60) (sod % 60) hwd (by omega) (by omega)
    (by omega) (by omega) (by omega) (by omega)]
  have hya : ((y.natAbs : Nat) : Int) = y := by omega
  have hm : m - 1 + 1 = m := by omega
  rw [hya, hm, hv, if_pos rfl, hloc]

open S3V.DtoSpec

theorem leapYear_iff (y : Nat) : leapYear y = true ↔ Leap (y : Int) := by
  simp only [leapYear, Bool.and_eq_true, Bool.or_eq_true, decide_eq_true_eq, ne_eq, decide_not, Bool.not_eq_true',
    decide_eq_false_iff_not]
  omega

theorem daysInMonth_eq_monthLength (y m : Nat) (hm1 : 1 ≤ m) (hm2 : m ≤ 12) :
    daysInMonth (y : Int) m = monthLength y m := by
  have hl : isLeap (y : Int) = leapYear y := by rw [Bool.eq_iff_iff, isLeap_iff, leapYear_iff]
  have hm : m = 1 ∨ m = 2 ∨ m = 3 ∨ m = 4 ∨ m = 5 ∨ m = 6 ∨ m = 7 ∨ m = 8 ∨ m = 9 ∨ m = 10 ∨ m = 11 ∨ m = 12 := by omega
  rcases hm with rfl | rfl | rfl | rfl | rfl | rfl | rfl | rfl | rfl | rfl | rfl | rfl <;>
    simp [daysInMonth, monthLength, hl]

theorem daysFromCivil_eq_specDays (y m d : Nat) (hy : 1 ≤ y) (hm1 : 1 ≤ m) (hm2 : m ≤ 12) (hd : 1 ≤ d) :
    daysFromCivil (y : Int) m d = specDays y m d := by
  have hM := monthStart_of_rec y (daysBeforeMonth y) (monthLength y) rfl
    (fun m hm => by obtain ⟨k, rfl⟩ : ∃ k, m = k + 1 := ⟨m - 1, by omega⟩; rfl)
    (fun m h1 h2 => (daysInMonth_eq_monthLength y m h1 h2).symm) m hm1 hm2
  rw [daysFromCivil_jan _ m d hm1 hm2 hd, specDays, hM, daysBeforeYear, daysThrough]
  omega

theorem two_eq (n : Nat) : two n = pad2 n := rfl
theorem three_eq (n : Nat) : three n = pad3 n := rfl
theorem four_eq (n : Nat) : four n = pad4 n := rfl
theorem fracText_eq (ms : Option Nat) : fracText ms = (match ms with | none => [] | some x => 46 :: pad3 x) := by cases ms <;> rfl

theorem fracNanosOf_ms (ms : Option Nat) (hms : ∀ x, ms = some x → x < 1000) :
    fracNanosOf ms < 1000000000 ∧ fracNanosOf ms / 1000000 * 1000000 = fracNanosOf ms := by
  cases ms with
  | none => exact ⟨by decide, rfl⟩
  | some x =>
    have := hms x rfl
    simp only [fracNanosOf]
    omega

theorem parseTime_rfc3339Text (Y m d H Mi S : Nat) (ms : Option Nat) (neg : Bool) (oh om : Nat)
    (hdate : validDate Y m d = true) (hH : H ≤ 23) (hMi : Mi ≤ 59) (hS : S ≤ 59)
    (hms : ∀ x, ms = some x → x < 1000) (hoh : oh ≤ 23) (hom : om ≤ 59) :
    parseRfc3339Time (rfc3339Text Y m d H Mi S ms neg oh om) =
      some ⟨rfc3339Instant Y m d H Mi S neg oh om, fracNanosOf ms, offsetSeconds neg oh om⟩ := by
  simp only [validDate, Bool.and_eq_true, decide_eq_true_eq] at hdate
  obtain ⟨⟨⟨⟨⟨hy1, hy2⟩, hm1⟩, hm2⟩, hd1⟩, hd2⟩ := hdate
  rw [← daysInMonth_eq_monthLength Y m hm1 hm2] at hd2
  have hd31 : d ≤ 31 := Nat.le_trans hd2 (daysInMonth_le_31 _ m)
  have hoff := parseOffset_hm neg oh om hoh hom
  have hsign : isDigit (if neg then 45 else 43) = false := by cases neg <;> decide
  have hne46 : (if neg then (45 : UInt8) else 43) ≠ 46 := by cases neg <;> decide
  have hfrac : parseSubsec (fracText ms ++ ((if neg then 45 else 43) :: (pad2 oh ++ 58 :: pad2 om))) =
      some (fracNanosOf ms, (if neg then 45 else 43) :: (pad2 oh ++ 58 :: pad2 om)) := by
    cases ms with
    | none => exact parseSubsec_none _ hne46 _
    | some x => exact parseSubsec_pad3 x (hms x rfl) _ hsign _
  unfold rfc3339Text
  simp only [two_eq, four_eq]
  rw [parseTime_digits (nDigits_pad4 (show Y < 10000 by omega)) (nDigits_pad2 (show m < 100 by omega))
    (nDigits_pad2 (show d < 100 by omega)) (nDigits_pad2 (show H < 100 by omega)) (nDigits_pad2 (show Mi < 100 by omega))
    (nDigits_pad2 (show S < 100 by omega)) (by omega) 84 hfrac hoff]
  have hv : validFields (Y : Int) m d H Mi S = true := by
    simp only [validFields, Bool.and_eq_true, decide_eq_true_eq]
    omega
  rw [if_pos hv]
  simp only [localSeconds, rfc3339Instant, offsetSeconds, daysFromCivil_eq_specDays Y m d hy1 hm1 hm2 hd1]

theorem parse_rfc3339Text (Y m d H Mi S : Nat) (ms : Option Nat) (neg : Bool) (oh om : Nat)
    (hdate : validDate Y m d = true) (hH : H ≤ 23) (hMi : Mi ≤ 59) (hS : S ≤ 59)
    (hms : ∀ x, ms = some x → x < 1000) (hoh : oh ≤ 23) (hom : om ≤ 59) :
    parseRfc3339 (rfc3339Text Y m d H Mi S ms neg oh om) =
      if unixYear0 ≤ rfc3339Instant Y m d H Mi S neg oh om ∧ rfc3339Instant Y m d H Mi S neg oh om ≤ unixMax
      then some ⟨rfc3339Instant Y m d H Mi S neg oh om, fracNanosOf ms, offsetSeconds neg oh om⟩ else none :=
  parseRfc3339_of_time (parseTime_rfc3339Text Y m d H Mi S ms neg oh om hdate hH hMi hS hms hoh hom)

/-! an accepted timestamp can be written (code since b7ef08a: `fmt_timestamp(..).unwrap()` cannot fail on it): every instant
    within `time`'s range is written, and each form accepts only such instants (`parseHttpDate_range` below, `Ts.parse_range`) -/

theorem format_total_of_range (t : Ts) (h1 : unixMin ≤ t.unix) (h2 : t.unix ≤ unixMax) :
    (∃ a, formatDateTime t = some a) ∧ (∃ b, formatHttpDate t = some b) ∧ (∃ c, formatEpochSeconds t = some c) := by
  have hf := toUtc_of_range t h1 h2
  refine ⟨?_, ?_, ?_⟩
  · unfold formatDateTime
    rw [hf]
    exact ⟨_, rfl⟩
  · unfold formatHttpDate
    rw [hf]
    exact ⟨_, rfl⟩
  · unfold formatEpochSeconds
    simp only
    split <;> exact ⟨_, rfl⟩

theorem localSeconds_range (y : Int) (mo d h mi s : Nat) (hv : validFields y mo d h mi s = true) :
    unixMin ≤ localSeconds y mo d h mi s ∧ localSeconds y mo d h mi s ≤ unixMax := by
  rw [← utcYear_time_iff, utcFields_localSeconds hv]
  simp only [validFields, Bool.and_eq_true, decide_eq_true_eq] at hv
  obtain ⟨⟨⟨⟨⟨hy, -⟩, -⟩, -⟩, -⟩, -⟩ := hv
  exact hy

theorem localSeconds_range_year0 (y : Int) (mo d h mi s : Nat) (hy0 : 0 ≤ y) (hv : validFields y mo d h mi s = true) :
    unixYear0 ≤ localSeconds y mo d h mi s ∧ localSeconds y mo d h mi s ≤ unixMax := by
  rw [← utcYear_fourDigit_iff, utcFields_localSeconds hv]
  simp only [validFields, Bool.and_eq_true, decide_eq_true_eq] at hv
  obtain ⟨⟨⟨⟨⟨⟨-, hy⟩, -⟩, -⟩, -⟩, -⟩, -⟩ := hv
  exact ⟨hy0, hy⟩

theorem parseHttpDate_range {e : Bytes} {t : Ts} (h : parseHttpDate e = some t) :
    unixMin ≤ t.unix ∧ t.unix ≤ unixMax := by
  unfold parseHttpDate at h
  simp only [Option.bind_eq_bind, Option.bind_eq_some_iff] at h
  obtain ⟨a1, -, a2, -, a3, -, a4, -, a5, -, a6, -, a7, -, a8, -, a9, -, a10, -, a11, -, a12, -, a13, -, a14, -, h⟩ := h
  simp only [Option.bind_none, Option.ite_none_left_eq_some] at h
  obtain ⟨-, hv, h⟩ := h
  rw [← Option.some.inj h]
  exact localSeconds_range _ _ _ _ _ _ (by simpa using hv)

end S3V.Dto
