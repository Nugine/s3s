import S3V.Thm.SigV2Sts
import S3V.Thm.SigV2Inj
/-!
# Lemmas: the side conditions of `render_injective` follow from conditions on the request (C11)
-/
namespace S3V.SigV2Thm
open S3V S3V.SigV2

/-- request-level conditions: no `\n` in the method, header values are `to_str` strings, header names
    contain neither `:` nor `\n` (they are HTTP tokens), a presigned `Expires` contains no `\n`, and the
    resource starts with `/` (a virtual-host bucket, or an origin-form path) -/
def reqOk (mode : SigV2Spec.Mode) (r : SigV2Spec.Req) : Bool :=
  r.method.all (· ≠ 10) && valuesVisible r
    && r.headers.all (fun h => h.1.all fun c => c ≠ 58 && c ≠ 10)
    && (mode = .header || (SigV2Spec.paramValues r (sp!"Expires")).all fun v => v.all (· ≠ 10))
    && (r.vhBucket.isSome || r.path.head? = some 47)

theorem commaJoin_all (p : UInt8 → Bool) (hp : p 44 = true) (vs : List Bytes) (h : ∀ v ∈ vs, v.all p = true) :
    (SigV2Spec.commaJoin vs).all p = true := by
  cases vs with
  | nil => rfl
  | cons v ws =>
    simp only [SigV2Spec.commaJoin, List.all_append, Bool.and_eq_true]
    refine ⟨h v (by simp), ?_⟩
    rw [List.all_eq_true]
    intro c hc
    obtain ⟨w, hw, hcw⟩ := List.mem_flatMap.mp hc
    rcases List.mem_cons.mp hcw with rfl | hcw
    · exact hp
    · exact List.all_eq_true.mp (h w (by simp [hw])) c hcw

theorem visible_ne_nl (v : Bytes) (h : v.all isVisibleAscii = true) : v.all (· ≠ 10) = true := by
  rw [List.all_eq_true] at h ⊢
  intro c hc
  have := h c hc
  simp only [decide_eq_true_eq]
  intro e; subst e; revert this; decide

theorem trimOws_all (p : UInt8 → Bool) (v : Bytes) (h : v.all p = true) : (SigV2Spec.trimOws v).all p = true := by
  rw [List.all_eq_true] at h ⊢
  exact fun c hc => h c ((trimBy_sublist SigV2Spec.isOws v).subset hc)

theorem mem_mergeEqual {x : Bytes} {l : List Bytes} (h : x ∈ SigV2Spec.mergeEqual l) : x ∈ l := by
  fun_induction SigV2Spec.mergeEqual l with
  | case1 => exact h
  | case2 y => exact h
  | case3 a rest ih => exact List.mem_cons_of_mem _ (ih h)
  | case4 a b rest hne ih =>
    rcases List.mem_cons.mp h with rfl | h
    · exact List.mem_cons_self
    · exact List.mem_cons_of_mem _ (ih h)

theorem mem_amzNames {n : Bytes} {r : SigV2Spec.Req} (h : n ∈ SigV2Spec.amzNames r) :
    SigV2Spec.isAmzName n = true ∧ ∃ x ∈ r.headers, n = SigV2Spec.lower x.1 := by
  rw [amzNames_eq] at h
  obtain ⟨h2, h3⟩ := List.mem_filter.mp (mem_mergeEqual h)
  obtain ⟨p, hp, rfl⟩ := List.mem_map.mp h2
  obtain ⟨x, hx, rfl⟩ := List.mem_map.mp (mem_sortByFirst.mp hp)
  exact ⟨h3, x, hx, rfl⟩

theorem isAmzName_head {n : Bytes} (h : SigV2Spec.isAmzName n = true) : n.head? = some 120 := by
  cases n with
  | nil => simp [SigV2Spec.isAmzName, SigV2Spec.isPrefixOf] at h
  | cons c cs =>
    simp only [SigV2Spec.isAmzName, SigV2Spec.isPrefixOf, Bool.and_eq_true, decide_eq_true_eq] at h
    simp [← h.1]

theorem lowerByte_eq_or_ge (c : UInt8) : SigV2Spec.lowerByte c = c ∨ 97 ≤ (SigV2Spec.lowerByte c).toNat := by
  unfold SigV2Spec.lowerByte
  split
  · have : (32 : UInt8).toNat = 32 := rfl
    rw [UInt8.toNat_add]
    omega
  · exact .inl rfl

theorem lowerByte_ne {c d : UInt8} (hd : d.toNat < 97) (h : c ≠ d) : SigV2Spec.lowerByte c ≠ d := by
  rcases lowerByte_eq_or_ge c with e | hge
  · rw [e]; exact h
  · intro e; rw [e] at hge; omega

theorem lower_all (n : Bytes) (h : n.all (fun c => c ≠ 58 && c ≠ 10) = true) :
    (SigV2Spec.lower n).all (fun c => c ≠ 58 && c ≠ 10) = true := by
  unfold SigV2Spec.lower
  rw [List.all_map]
  rw [List.all_eq_true] at h ⊢
  intro c hc
  have := h c hc
  simp only [Function.comp, Bool.and_eq_true, decide_eq_true_eq] at this ⊢
  exact ⟨lowerByte_ne (by decide) this.1, lowerByte_ne (by decide) this.2⟩

theorem resource_head (r : SigV2Spec.Req) (hr : (r.vhBucket.isSome || r.path.head? = some 47) = true) :
    (SigV2Spec.canonicalizedResource r).head? = some 47 := by
  unfold SigV2Spec.canonicalizedResource
  cases hb : r.vhBucket with
  | some b => simp
  | none =>
    rw [hb] at hr
    simp only [Option.isSome_none, Bool.false_eq_true, false_or, Bool.or_eq_true, decide_eq_true_eq] at hr
    cases hp : r.path with
    | nil => rw [hp] at hr; simp at hr
    | cons c cs => rw [hp] at hr; simp at hr; simp [hr]

theorem view_ok_of_reqOk (mode : SigV2Spec.Mode) (r : SigV2Spec.Req) (h : reqOk mode r = true) :
    (SigV2Spec.view mode r).ok = true := by
  simp only [reqOk, Bool.and_eq_true] at h
  obtain ⟨⟨⟨⟨hm, hv⟩, hn⟩, he⟩, hr⟩ := h
  have hfv : ∀ n, ∀ v ∈ SigV2Spec.fieldValues r n, v.all (· ≠ 10) = true :=
    fun n v hvm => visible_ne_nl v (fieldValues_visible r hv n v hvm)
  have hpos : ∀ n, (SigV2Spec.positional r n).all (· ≠ 10) = true :=
    fun n => commaJoin_all _ (by decide) _ (hfv n)
  simp only [SigV2Spec.View.ok, SigV2Spec.view, Bool.and_eq_true]
  refine ⟨⟨⟨⟨⟨hm, hpos _⟩, hpos _⟩, ?_⟩, ?_⟩, ?_⟩
  · -- date element
    cases mode with
    | header =>
      simp only [SigV2Spec.dateElement]
      split
      · rfl
      · exact hpos _
    | query =>
      simp only [SigV2Spec.dateElement]
      apply commaJoin_all _ (by decide)
      simp only [Bool.or_eq_true, decide_eq_true_eq, reduceCtorEq, false_or] at he
      exact fun v hvm => List.all_eq_true.mp he v hvm
  · -- canonical x-amz pairs
    rw [List.all_eq_true]
    intro p hp
    unfold SigV2Spec.amzHeaders at hp
    obtain ⟨n, hnm, rfl⟩ := List.mem_map.mp hp
    obtain ⟨hamz, x, hx, rfl⟩ := mem_amzNames hnm
    simp only [Bool.and_eq_true, decide_eq_true_eq]
    refine ⟨⟨isAmzName_head hamz, lower_all _ (List.all_eq_true.mp hn x hx)⟩, ?_⟩
    apply commaJoin_all _ (by decide)
    intro v hvm
    obtain ⟨w, hw, rfl⟩ := List.mem_map.mp hvm
    exact trimOws_all _ w (hfv _ w hw)
  · exact decide_eq_true (resource_head r hr)

end S3V.SigV2Thm
