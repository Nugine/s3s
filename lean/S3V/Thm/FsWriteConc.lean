import S3V.Model.FsWrite
/-!
# Lemmas for C19: `n` writers to one key under any interleaving

Invariant over all schedules (`Inv`), by the component of the world it speaks of: temporary names are distinct (`Ids`: the
counter is `fetch_add`); every temporary file belongs to exactly the writer that drew its number and holds a prefix (by frames)
of that writer's content (`Tmps`); the destination is the previous content while nobody has renamed and afterwards always some
*renamed* writer's whole content (`DestOk`).
-/
namespace S3V.FsWrite

/-- the numbers the writers have drawn, against the counter (`tmp_file_counter.fetch_add`) -/
structure Ids (counter : Nat) (ws : List Writer) : Prop where
  /-- a drawn number is below the counter -/
  lt : ∀ (i : Nat) (wr : Writer), ws[i]? = some wr → 1 ≤ wr.pc → wr.tmpId < counter
  /-- two writers never hold the same number -/
  distinct : ∀ (i j : Nat) (wr wr' : Writer), ws[i]? = some wr → ws[j]? = some wr' → i ≠ j →
    1 ≤ wr.pc → 1 ≤ wr'.pc → wr.tmpId ≠ wr'.tmpId

/-- the temporary files, against the writers -/
structure Tmps (tmps : Nat → Option Bytes) (ws : List Writer) : Prop where
  /-- while a writer is writing, its temporary file holds the frames it has written so far -/
  of : ∀ (i : Nat) (wr : Writer), ws[i]? = some wr → 2 ≤ wr.pc → wr.pc ≤ wr.frames.length + 2 →
    tmps wr.tmpId = some ((wr.frames.take (wr.pc - 2)).flatten)
  /-- every temporary file belongs to a writer that is writing (so that none is left once every writer has renamed) -/
  owner : ∀ (id : Nat) (v : Bytes), tmps id = some v →
    ∃ (i : Nat) (wr : Writer), ws[i]? = some wr ∧ wr.tmpId = id ∧ 2 ≤ wr.pc ∧ wr.pc ≤ wr.frames.length + 2

/-- the destination is the previous content while nobody has renamed, afterwards the whole content of a writer that has -/
def DestOk (old dest : Option Bytes) (ws : List Writer) : Prop :=
  ((∀ (i : Nat) (wr : Writer), ws[i]? = some wr → wr.pc ≠ wr.frames.length + 3) ∧ dest = old) ∨
    ∃ (i : Nat) (wr : Writer), ws[i]? = some wr ∧ wr.pc = wr.frames.length + 3 ∧ dest = some wr.content

/-- the three clauses, each on the components of the world it speaks of; a step changes one writer and at most one of
    counter, temporary files, destination -/
structure Inv (old : Option Bytes) (w : World) : Prop where
  ids : Ids w.counter w.writers
  tmps : Tmps w.tmps w.writers
  dest : DestOk old w.dest w.writers

theorem inv_init (old : Option Bytes) (contents : List (List Bytes)) : Inv old (initWorld old contents) := by
  have hpc : ∀ (i : Nat) (wr : Writer), (initWorld old contents).writers[i]? = some wr → wr.pc = 0 := by
    intro i wr h
    simp only [initWorld, List.getElem?_map, Option.map_eq_some_iff] at h
    obtain ⟨f, _, rfl⟩ := h
    rfl
  refine ⟨⟨?_, ?_⟩, ⟨?_, ?_⟩, .inl ⟨?_, rfl⟩⟩
  · intro i wr h h1; rw [hpc i wr h] at h1; omega
  · intro i j wr wr' h _ _ h1; rw [hpc i wr h] at h1; omega
  · intro i wr h h2; rw [hpc i wr h] at h2; omega
  · intro id v h; simp [initWorld] at h
  · intro i wr h; rw [hpc i wr h]; omega

private theorem get_set {α : Type} {l : List α} {i j : Nat} {a x : α} (h : (l.set i a)[j]? = some x) :
    (j = i ∧ x = a) ∨ (j ≠ i ∧ l[j]? = some x) := by
  by_cases hij : i = j
  · subst hij
    rw [List.getElem?_set_self'] at h
    cases hl : l[i]? with
    | none => rw [hl] at h; cases h
    | some w => rw [hl] at h; exact .inl ⟨rfl, (Option.some.inj h).symm⟩
  · exact .inr ⟨fun e => hij e.symm, (List.getElem?_set_ne hij).symm.trans h⟩

private theorem set_get_self {α : Type} {l : List α} {i : Nat} {a w : α} (h : l[i]? = some w) : (l.set i a)[i]? = some a := by
  rw [List.getElem?_set_self', h]
  rfl

private theorem take_succ_flatten (frames : List Bytes) (k : Nat) (hk : k < frames.length) :
    (frames.take (k + 1)).flatten = (frames.take k).flatten ++ frames.getD k [] := by
  rw [List.take_add_one, List.flatten_append]
  simp [List.getElem?_eq_getElem hk]

/-- writer `i` becomes `nw`, the counter may grow: the new writer's number must be below the counter and differ from the others' -/
theorem Ids.set {c c' : Nat} {ws : List Writer} {i : Nat} {nw : Writer} (h : Ids c ws) (hc : c ≤ c')
    (hid : 1 ≤ nw.pc → nw.tmpId < c')
    (hfresh : ∀ (j : Nat) (x : Writer), ws[j]? = some x → j ≠ i → 1 ≤ x.pc → 1 ≤ nw.pc → x.tmpId ≠ nw.tmpId) :
    Ids c' (ws.set i nw) := by
  refine ⟨?_, ?_⟩
  · intro j x hx h1
    rcases get_set hx with ⟨_, hxe⟩ | ⟨_, hx'⟩
    · rw [hxe] at h1 ⊢; exact hid h1
    · exact Nat.lt_of_lt_of_le (h.lt j x hx' h1) hc
  · intro j k x y hx hy hjk h1 h1'
    rcases get_set hx with ⟨hji, hxe⟩ | ⟨hji, hx'⟩
    · rcases get_set hy with ⟨hki, hye⟩ | ⟨hki, hy'⟩
      · exact absurd (hji.trans hki.symm) hjk
      · rw [hxe] at h1 ⊢
        exact (hfresh k y hy' hki h1' h1).symm
    · rcases get_set hy with ⟨hki, hye⟩ | ⟨hki, hy'⟩
      · rw [hye] at h1' ⊢
        exact hfresh j x hx' hji h1 h1'
      · exact h.distinct j k x y hx' hy' hjk h1 h1'

/-- a step that is not the rename keeps the destination clause -/
theorem DestOk.keep {old d : Option Bytes} {ws : List Writer} {i : Nat} {wr nw : Writer} (h : DestOk old d ws)
    (hw : ws[i]? = some wr) (hold : wr.pc ≠ wr.frames.length + 3) (hnew : nw.pc ≠ nw.frames.length + 3) :
    DestOk old d (ws.set i nw) := by
  rcases h with ⟨hn, hd⟩ | ⟨j, x, hx, hp, hd⟩
  · left
    refine ⟨?_, hd⟩
    intro j x hx
    rcases get_set hx with ⟨_, hxe⟩ | ⟨_, hx'⟩
    · rw [hxe]; exact hnew
    · exact hn j x hx'
  · right
    have hji : j ≠ i := by
      intro e; rw [e, hw] at hx; cases hx; exact hold hp
    exact ⟨j, x, by rw [List.getElem?_set_ne (Ne.symm hji)]; exact hx, hp, hd⟩

/-- a step of a writer that has drawn its number and changes nothing but its own temporary file (to `v`) and its program
    counter (to `pc'`) -/
theorem Tmps.set {c : Nat} {tmps : Nat → Option Bytes} {ws : List Writer} {i : Nat} {wr : Writer} (hI : Ids c ws)
    (hT : Tmps tmps ws) (hw : ws[i]? = some wr) (h1 : 1 ≤ wr.pc) (pc' : Nat) (v : Option Bytes)
    (hv : 2 ≤ pc' → pc' ≤ wr.frames.length + 2 → v = some ((wr.frames.take (pc' - 2)).flatten))
    (hv' : ∀ b, v = some b → 2 ≤ pc' ∧ pc' ≤ wr.frames.length + 2) :
    Tmps (setTmp tmps wr.tmpId v) (ws.set i { wr with pc := pc' }) := by
  refine ⟨fun j x hx h2 h3 => ?_, fun id b hb => ?_⟩
  · rcases get_set hx with ⟨_, rfl⟩ | ⟨hj, hx'⟩
    · simp only [setTmp, ↓reduceIte]
      exact hv h2 h3
    · -- another writer's file has another number
      have hne := hI.distinct j i x wr hx' hw hj (by omega) h1
      simp only [setTmp, hne, ↓reduceIte]
      exact hT.of j x hx' h2 h3
  · unfold setTmp at hb
    split at hb
    · next hid =>
      obtain ⟨p2, p3⟩ := hv' b hb
      exact ⟨i, _, set_get_self hw, hid.symm, p2, p3⟩
    · next hid =>
      obtain ⟨j, x, hx, hidx, p2, p3⟩ := hT.owner id b hb
      have hji : j ≠ i := by
        intro e
        rw [e, hw] at hx
        cases hx
        exact hid hidx.symm
      exact ⟨j, x, (List.getElem?_set_ne (Ne.symm hji)).trans hx, hidx, p2, p3⟩

theorem wstep_cases (w : World) (wr : Writer) :
    (wr.pc = 0 ∧ wstep w wr = ({ w with counter := w.counter + 1 }, { wr with pc := 1, tmpId := w.counter })) ∨
    (wr.pc = 1 ∧ wstep w wr = ({ w with tmps := setTmp w.tmps wr.tmpId (some []) }, { wr with pc := 2 })) ∨
    (2 ≤ wr.pc ∧ wr.pc < wr.frames.length + 2 ∧ wstep w wr =
      ({ w with tmps := setTmp w.tmps wr.tmpId (some ((w.tmps wr.tmpId).getD [] ++ wr.frames.getD (wr.pc - 2) [])) },
       { wr with pc := wr.pc + 1 })) ∨
    (wr.pc = wr.frames.length + 2 ∧ wstep w wr =
      ({ w with dest := w.tmps wr.tmpId, tmps := setTmp w.tmps wr.tmpId none }, { wr with pc := wr.pc + 1 })) ∨
    (wr.frames.length + 3 ≤ wr.pc ∧ wstep w wr = (w, wr)) := by
  unfold wstep
  split
  · exact .inl ⟨‹_›, rfl⟩
  split
  · exact .inr (.inl ⟨‹_›, rfl⟩)
  split
  · exact .inr (.inr (.inl ⟨by omega, ‹_›, rfl⟩))
  split
  · exact .inr (.inr (.inr (.inl ⟨‹_›, rfl⟩)))
  · exact .inr (.inr (.inr (.inr ⟨by omega, rfl⟩)))

theorem sched_none {w : World} {i : Nat} (h : w.writers[i]? = none) : sched w i = w := by
  unfold sched
  rw [h]

theorem sched_some {w : World} {i : Nat} {wr : Writer} (h : w.writers[i]? = some wr) :
    sched w i = { (wstep w wr).1 with writers := (wstep w wr).1.writers.set i (wstep w wr).2 } := by
  unfold sched
  rw [h]

theorem inv_sched {old : Option Bytes} {w : World} (hI : Inv old w) (i : Nat) : Inv old (sched w i) := by
  cases hw : w.writers[i]? with
  | none =>
    rw [sched_none hw]
    exact hI
  | some wr =>
    rw [sched_some hw]
    -- the numbers, for a step that keeps the counter and the writer's number
    have ids : ∀ pc', 1 ≤ wr.pc → Ids w.counter (w.writers.set i { wr with pc := pc' }) := fun pc' h1 =>
      hI.ids.set (Nat.le_refl _) (fun _ => hI.ids.lt i wr hw h1)
        (fun j x hx hji hp _ => hI.ids.distinct j i x wr hx hw hji hp h1)
    rcases wstep_cases w wr with ⟨h0, e⟩ | ⟨h1, e⟩ | ⟨hge, h2, e⟩ | ⟨h3, e⟩ | ⟨_, e⟩ <;> rw [e] <;> simp only
    · -- draw a counter value
      have others : ∀ (j : Nat) (x : Writer), w.writers[j]? = some x → 2 ≤ x.pc → j ≠ i := by
        intro j x hx h2 e
        rw [e, hw] at hx
        cases hx
        omega
      refine ⟨hI.ids.set (Nat.le_succ _) (fun _ => Nat.lt_succ_self _)
          (fun j x hx _ hp _ => Nat.ne_of_lt (hI.ids.lt j x hx hp)),
        ⟨fun j x hx h2 h3 => ?_, fun id v hv => ?_⟩, hI.dest.keep hw (by omega) (show 1 ≠ wr.frames.length + 3 by omega)⟩
      · rcases get_set hx with ⟨_, rfl⟩ | ⟨_, hx'⟩
        · exact absurd h2 (show ¬2 ≤ 1 by decide)
        · exact hI.tmps.of j x hx' h2 h3
      · obtain ⟨j, x, hx, hid, h2, h3⟩ := hI.tmps.owner id v hv
        exact ⟨j, x, (List.getElem?_set_ne (Ne.symm (others j x hx h2))).trans hx, hid, h2, h3⟩
    · -- create the temporary file
      have hpos : 1 ≤ wr.pc := Nat.le_of_eq h1.symm
      exact ⟨ids 2 hpos,
        hI.tmps.set hI.ids hw hpos 2 (some []) (fun _ _ => rfl) (fun _ _ => ⟨Nat.le_refl 2, Nat.le_add_left 2 _⟩),
        hI.dest.keep hw (by omega) (show 2 ≠ wr.frames.length + 3 by omega)⟩
    · -- append one frame
      have hpos : 1 ≤ wr.pc := Nat.le_of_succ_le hge
      have hcur := hI.tmps.of i wr hw hge (Nat.le_of_lt h2)
      refine ⟨ids (wr.pc + 1) hpos, hI.tmps.set hI.ids hw hpos (wr.pc + 1) _ (fun _ _ => ?_) (fun _ _ => ⟨Nat.le_succ_of_le hge, h2⟩),
        hI.dest.keep hw (by omega) (show wr.pc + 1 ≠ wr.frames.length + 3 by omega)⟩
      rw [hcur, show wr.pc + 1 - 2 = (wr.pc - 2) + 1 by omega, take_succ_flatten _ _ (by omega)]
      rfl
    · -- the rename
      have hge : 2 ≤ wr.pc := h3 ▸ Nat.le_add_left 2 _
      have hpos : 1 ≤ wr.pc := Nat.le_of_succ_le hge
      have hcontent : w.tmps wr.tmpId = some wr.content := by
        rw [hI.tmps.of i wr hw hge (Nat.le_of_eq h3), h3, Nat.add_sub_cancel, List.take_length]
        rfl
      exact ⟨ids (wr.pc + 1) hpos, hI.tmps.set hI.ids hw hpos (wr.pc + 1) none (fun _ h => by omega) nofun,
        .inr ⟨i, _, set_get_self hw, congrArg (· + 1) h3, hcontent⟩⟩
    · -- finished: nothing happens
      have : w.writers.set i wr = w.writers := by
        obtain ⟨hlt, rfl⟩ := List.getElem?_eq_some_iff.mp hw
        exact List.set_getElem_self hlt
      rw [this]
      exact hI

theorem inv_runSched {old : Option Bytes} {w : World} (hI : Inv old w) (schedule : List Nat) :
    Inv old (runSched w schedule) := by
  induction schedule generalizing w with
  | nil => exact hI
  | cons i r ih => exact ih (inv_sched hI i)

/-! What the invariant says to a client: the destination is never a mixture, and finished writers leave nothing behind. -/

theorem Inv.dest_cases {old : Option Bytes} {w : World} (hI : Inv old w) :
    w.dest = old ∨ ∃ wr ∈ w.writers, w.dest = some wr.content := by
  rcases hI.dest with ⟨_, hd⟩ | ⟨j, x, hx, _, hd⟩
  · exact .inl hd
  · exact .inr ⟨x, List.mem_of_getElem? hx, hd⟩

theorem Inv.dest_of_done {old : Option Bytes} {w : World} (hI : Inv old w) (hne : w.writers ≠ [])
    (hdone : ∀ wr ∈ w.writers, wr.done = true) : ∃ wr ∈ w.writers, w.dest = some wr.content := by
  rcases hI.dest with ⟨hn, _⟩ | ⟨j, x, hx, _, hd⟩
  · obtain ⟨x, r, hxr⟩ := List.exists_cons_of_ne_nil hne
    have := hdone x (hxr ▸ List.mem_cons_self)
    simp only [Writer.done, decide_eq_true_eq] at this
    exact absurd this (hn 0 x (hxr ▸ rfl))
  · exact ⟨x, List.mem_of_getElem? hx, hd⟩

/-- a temporary file has an owner that is still writing (`Tmps.owner`): none is left once every writer has renamed -/
theorem Inv.no_tmp_of_done {old : Option Bytes} {w : World} (hI : Inv old w)
    (hdone : ∀ wr ∈ w.writers, wr.done = true) (id : Nat) : w.tmps id = none := by
  cases ht : w.tmps id with
  | none => rfl
  | some v =>
    obtain ⟨j, x, hx, _, _, h3⟩ := hI.tmps.owner id v ht
    have := hdone x (List.mem_of_getElem? hx)
    simp only [Writer.done, decide_eq_true_eq] at this
    omega

theorem wstep_frames (w : World) (wr : Writer) :
    (wstep w wr).2.frames = wr.frames ∧ (wstep w wr).1.writers = w.writers := by
  rcases wstep_cases w wr with ⟨_, e⟩ | ⟨_, e⟩ | ⟨_, _, e⟩ | ⟨_, e⟩ | ⟨_, e⟩ <;> rw [e] <;> exact ⟨rfl, rfl⟩

theorem writers_frames_sched (w : World) (i : Nat) :
    (sched w i).writers.map (·.frames) = w.writers.map (·.frames) := by
  cases hw : w.writers[i]? with
  | none => rw [sched_none hw]
  | some wr =>
    rw [sched_some hw]
    simp only
    rw [(wstep_frames w wr).2]
    apply List.ext_getElem?
    intro j
    simp only [List.getElem?_map]
    by_cases hji : j = i
    · rw [hji, set_get_self hw, hw]; simp [(wstep_frames w wr).1]
    · rw [List.getElem?_set_ne (Ne.symm hji)]

theorem writers_frames_runSched (w : World) (schedule : List Nat) :
    (runSched w schedule).writers.map (·.frames) = w.writers.map (·.frames) := by
  induction schedule generalizing w with
  | nil => rfl
  | cons i r ih =>
    show (runSched (sched w i) r).writers.map _ = _
    rw [ih, writers_frames_sched]

theorem writers_frames_init (old : Option Bytes) (contents : List (List Bytes)) (schedule : List Nat) :
    (runSched (initWorld old contents) schedule).writers.map (·.frames) = contents := by
  rw [writers_frames_runSched]
  simp [initWorld, Function.comp_def]

/-- every writer of a run from `initWorld old contents` writes one of the `contents` -/
theorem writers_frames_mem {old : Option Bytes} {contents : List (List Bytes)} {schedule : List Nat} {wr : Writer}
    (h : wr ∈ (runSched (initWorld old contents) schedule).writers) : wr.frames ∈ contents :=
  writers_frames_init old contents schedule ▸ List.mem_map_of_mem h

end S3V.FsWrite
