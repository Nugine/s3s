import S3V.Model.SigV4
import S3V.Spec.SigV4Verify
import S3V.Thm.BytesText
/-!
# Lemmas: blanks at the edges of header values do not reach the verdict of `v4_check_header_auth` (repair d453cd3)

`extract_amz_date` / `extract_amz_content_sha256` parse `trim_ows(val)`, the canonical headers `trim()` every value, the
`Authorization` value is the only one read as it stands. Hence a line-by-line rewrite of the header values that neither
trimming sees, and that leaves `authorization` lines alone (`EdgeRewrite`), changes nothing that the verifier reads — for
every request, not only for the witness of the former finding class `sigv4-edge-whitespace-amz-header`
(`v4CheckHeaderAuth_padded`; as a property: `C05_edge_rewrite_verdict_invariant`).
-/
namespace S3V.SigV4
open S3V

/-- the model's `trim_ows` is the trimming of the reference verifier (RFC 9110: OWS = SP / HTAB) -/
theorem trimOws_eq_spec (s : Bytes) : trimOws s = SigV4Spec.trimLws s := rfl

theorem trimOws_edge (ws₁ ws₂ v : Bytes) (h₁ : ∀ c ∈ ws₁, isOws c = true) (h₂ : ∀ c ∈ ws₂, isOws c = true) :
    trimOws (ws₁ ++ v ++ ws₂) = trimOws v := trimBy_edge v h₁ h₂

theorem isTrimWs_of_isOws {c : UInt8} (h : isOws c = true) : isTrimWs c = true := by
  simp only [isOws, Bool.or_eq_true, decide_eq_true_eq] at h
  rcases h with h | h <;> subst h <;> decide

theorem trim_edge (ws₁ ws₂ v : Bytes) (h₁ : ∀ c ∈ ws₁, isOws c = true) (h₂ : ∀ c ∈ ws₂, isOws c = true) :
    trim (ws₁ ++ v ++ ws₂) = trim v :=
  trimBy_edge v (fun c hc => isTrimWs_of_isOws (h₁ c hc)) fun c hc => isTrimWs_of_isOws (h₂ c hc)

/-! ## look-ups see names only -/

theorem getAllPairs_map_name (g : Bytes × Bytes → Bytes × Bytes) (hg : ∀ p, (g p).1 = p.1) (hs : List (Bytes × Bytes))
    (n : Bytes) : getAllPairs (hs.map g) n = (getAllPairs hs n).map g := by
  have hq (q : Bytes → Bool) : (fun x : Bytes × Bytes => q x.1) ∘ g = fun x => q x.1 :=
    funext fun p => congrArg q (hg p)
  unfold getAllPairs
  rw [List.dropWhile_map, List.takeWhile_map, hq fun x => bLt x n, hq fun x => bLe x n]

/-- `get_unique` looks at names only: rewriting the values line by line rewrites the value it returns -/
theorem getUnique_mapValues (f : Bytes → Bytes → Bytes) (hs : List (Bytes × Bytes)) (n : Bytes) :
    getUnique (hs.map fun p => (p.1, f p.1 p.2)) n = (getUnique hs n).map (f n) := by
  unfold getUnique
  have hname : ((fun x : Bytes × Bytes => bLt x.1 n) ∘ fun p : Bytes × Bytes => (p.1, f p.1 p.2)) =
      fun x => bLt x.1 n := rfl
  rw [List.dropWhile_map, hname]
  cases (hs.dropWhile fun x => bLt x.1 n) with
  | nil => rfl
  | cons p following =>
    cases following with
    | nil =>
      simp only [List.map_cons, List.map_nil]
      by_cases hp : p.1 = n
      · simp [hp]
      · simp [hp]
    | cons q rest =>
      simp only [List.map_cons]
      by_cases hq : q.1 = n
      · simp [hq]
      · by_cases hp : p.1 = n
        · simp [hq, hp]
        · simp [hq, hp]

/-- d453cd3: rewriting header values in any way `trim_ows` does not see leaves what `extract_amz_date` and
    `extract_amz_content_sha256` return unchanged -/
theorem extract_edge_blanks_ignored (hs : List (Bytes × Bytes)) (pad : Bytes → Bytes → Bytes)
    (hpad : ∀ n v, trimOws (pad n v) = trimOws v) :
    extractAmzDate (hs.map fun p => (p.1, pad p.1 p.2)) = extractAmzDate hs ∧
    extractContentSha (hs.map fun p => (p.1, pad p.1 p.2)) = extractContentSha hs := by
  unfold extractAmzDate extractContentSha
  rw [getUnique_mapValues, getUnique_mapValues]
  constructor
  · cases getUnique hs b!"x-amz-date" with
    | none => rfl
    | some v => simp only [Option.map_some, hpad]
  · cases getUnique hs b!"x-amz-content-sha256" with
    | none => rfl
    | some v => simp only [Option.map_some, hpad]

/-! ## the canonical headers see names and `trim`med values only -/

/-- what `push_canonical_headers` can see of a selection -/
def trimmedLines (l : List (Bytes × Bytes)) : List (Bytes × Bytes) := l.map fun p => (p.1, trim p.2)

theorem trimmedLines_eq_cons {n v : Bytes} {rest l' : List (Bytes × Bytes)}
    (h : trimmedLines ((n, v) :: rest) = trimmedLines l') :
    ∃ v' rest', l' = (n, v') :: rest' ∧ trim v = trim v' ∧ trimmedLines rest = trimmedLines rest' := by
  cases l' with
  | nil => simp [trimmedLines] at h
  | cons p' rest' =>
    simp only [trimmedLines, List.map_cons, List.cons.injEq, Prod.mk.injEq] at h
    obtain ⟨⟨hn, hv⟩, hrest⟩ := h
    exact ⟨p'.2, rest', by rw [hn], hv, hrest⟩

theorem pushHeaderLines_congr : ∀ (l l' : List (Bytes × Bytes)) (last : Option Bytes) (ans : Bytes),
    trimmedLines l = trimmedLines l' → pushHeaderLines last ans l = pushHeaderLines last ans l' := by
  intro l
  induction l with
  | nil =>
    intro l' last ans h
    rw [List.map_eq_nil_iff.mp h.symm]
  | cons p rest ih =>
    intro l' last ans h
    obtain ⟨v', rest', rfl, hv, hrest⟩ := trimmedLines_eq_cons h
    simp only [pushHeaderLines, hv]
    split <;> exact ih rest' _ _ hrest

theorem signedNamesGo_congr : ∀ (l l' : List (Bytes × Bytes)) (last : Option Bytes),
    trimmedLines l = trimmedLines l' → signedNamesGo last l = signedNamesGo last l' := by
  intro l
  induction l with
  | nil =>
    intro l' last h
    rw [List.map_eq_nil_iff.mp h.symm]
  | cons p rest ih =>
    intro l' last h
    obtain ⟨v', rest', rfl, _, hrest⟩ := trimmedLines_eq_cons h
    simp only [signedNamesGo]
    split
    · exact ih rest' _ hrest
    · rw [ih rest' _ hrest]

theorem getAllPairs_isEmpty_congr {l l' : List (Bytes × Bytes)} (h : trimmedLines l = trimmedLines l') (n : Bytes) :
    (getAllPairs l n).isEmpty = (getAllPairs l' n).isEmpty := by
  have e : ∀ m : List (Bytes × Bytes), (getAllPairs m n).isEmpty = (getAllPairs (trimmedLines m) n).isEmpty := by
    intro m
    unfold trimmedLines
    rw [getAllPairs_map_name (fun p => (p.1, trim p.2)) (fun _ => rfl)]
    cases getAllPairs m n <;> rfl
  rw [e l, e l', h]

theorem createCanonicalRequest_congr (sha256hex : Bytes → Bytes) (method uriPath : Bytes) (qs : List (Bytes × Bytes))
    {l l' : List (Bytes × Bytes)} (h : trimmedLines l = trimmedLines l') (payload : Payload) :
    createCanonicalRequest sha256hex method uriPath qs l payload =
      createCanonicalRequest sha256hex method uriPath qs l' payload := by
  unfold createCanonicalRequest canonicalHeadersImpl signedHeadersImpl
  rw [pushHeaderLines_congr l l' none [] h, signedNamesGo_congr l l' none h]

/-- the selection from the rewritten lines shows the canonicalisation what the selection from the original lines shows
    (a fallback value, e.g. HTTP/2 `:authority` for `host`, is the same on both sides) -/
theorem trimmedLines_findMultiple (pad : Bytes → Bytes → Bytes) (hcanon : ∀ n v, trim (pad n v) = trim v)
    (hs : List (Bytes × Bytes)) (names : List Bytes) (onMissing : Bytes → Option Bytes) :
    trimmedLines (findMultiple (hs.map fun p => (p.1, pad p.1 p.2)) names onMissing) =
      trimmedLines (findMultiple hs names onMissing) := by
  unfold findMultiple trimmedLines
  rw [List.map_flatMap, List.map_flatMap]
  congr 1
  funext name
  rw [getAllPairs_map_name (fun p => (p.1, pad p.1 p.2)) (fun _ => rfl)]
  cases getAllPairs hs name with
  | nil => rfl
  | cons p ps =>
    simp only [List.map_cons, List.map_map, List.cons.injEq, true_and, hcanon]
    exact List.map_congr_left fun q _ => by simp only [Function.comp, hcanon]

/-- a line-by-line rewrite of header values that neither trimming sees and that leaves `authorization` lines alone -/
structure EdgeRewrite (pad : Bytes → Bytes → Bytes) : Prop where
  /-- invisible to `trim_ows` -/
  ows : ∀ n v, trimOws (pad n v) = trimOws v
  /-- invisible to the `trim()` of the canonical headers -/
  canon : ∀ n v, trim (pad n v) = trim v
  /-- the `Authorization` value is parsed as it stands -/
  auth : ∀ v, pad b!"authorization" v = v

/-- the context whose header values are rewritten line by line by `pad` -/
def Ctx.padded (c : Ctx) (pad : Bytes → Bytes → Bytes) : Ctx := { c with hs := c.hs.map fun p => (p.1, pad p.1 p.2) }

theorem getUnique_authorization_padded (c : Ctx) {pad : Bytes → Bytes → Bytes} (h : EdgeRewrite pad) :
    getUnique (c.padded pad).hs b!"authorization" = getUnique c.hs b!"authorization" := by
  unfold Ctx.padded
  simp only [getUnique_mapValues]
  cases getUnique c.hs b!"authorization" with
  | none => rfl
  | some v => simp only [Option.map_some, h.auth]

theorem headerSelection_padded (c : Ctx) {pad : Bytes → Bytes → Bytes} (h : EdgeRewrite pad) (a : Authorization) :
    trimmedLines (headerSelection (c.padded pad) a) = trimmedLines (headerSelection c a) :=
  trimmedLines_findMultiple pad h.canon c.hs (sortBytes a.signedHeaders) (hostFallback c.http2 c.authority)

theorem signedHeaderMissing_padded (c : Ctx) {pad : Bytes → Bytes → Bytes} (h : EdgeRewrite pad) (a : Authorization) :
    signedHeaderMissing (c.padded pad) a = signedHeaderMissing c a := by
  unfold signedHeaderMissing
  congr 1
  funext n
  exact getAllPairs_isEmpty_congr (headerSelection_padded c h a) n

theorem headerSignature_padded (sha256hex : Bytes → Bytes) (hmac : Bytes → Bytes → Bytes) (c : Ctx)
    {pad : Bytes → Bytes → Bytes} (h : EdgeRewrite pad) (a : Authorization) (secret : Bytes) (d : AmzDate)
    (payload : Payload) :
    headerSignature sha256hex hmac (c.padded pad) a secret d payload = headerSignature sha256hex hmac c a secret d payload := by
  unfold headerSignature
  simp only []
  rw [createCanonicalRequest_congr sha256hex (c.padded pad).method (c.padded pad).path (c.padded pad).qs
    (headerSelection_padded c h a) payload]
  rfl

theorem headerPayload_padded (c : Ctx) (pad : Bytes → Bytes → Bytes) (sha : Option ContentSha) :
    headerPayload (c.padded pad) sha = headerPayload c sha := rfl

/-- everything the verifier reads from the rewritten context is what it reads from the original one -/
theorem v4CheckHeaderAuth_padded (sha256hex : Bytes → Bytes) (hmac : Bytes → Bytes → Bytes)
    (lookup : Option (Bytes → Option Bytes)) (c : Ctx) {pad : Bytes → Bytes → Bytes} (h : EdgeRewrite pad) :
    v4CheckHeaderAuth sha256hex hmac lookup (c.padded pad) = v4CheckHeaderAuth sha256hex hmac lookup c := by
  obtain ⟨e1, e2⟩ : extractAmzDate (c.padded pad).hs = extractAmzDate c.hs ∧
      extractContentSha (c.padded pad).hs = extractContentSha c.hs := extract_edge_blanks_ignored c.hs pad h.ows
  have e3 : (c.padded pad).decodedContentLength = c.decodedContentLength := rfl
  simp only [v4CheckHeaderAuth, getUnique_authorization_padded c h, e1, e2, e3, signedHeaderMissing_padded c h,
    headerSignature_padded sha256hex hmac c h, headerPayload_padded]

/-- blanks (SP / HTAB) put around the values of `x-amz-date` and `x-amz-content-sha256` lines are an `EdgeRewrite` -/
def padAmz (ws₁ ws₂ : Bytes) (n v : Bytes) : Bytes :=
  if n = b!"x-amz-date" ∨ n = b!"x-amz-content-sha256" then ws₁ ++ v ++ ws₂ else v

theorem padAmz_edgeRewrite (ws₁ ws₂ : Bytes) (h₁ : ∀ c ∈ ws₁, isOws c = true) (h₂ : ∀ c ∈ ws₂, isOws c = true) :
    EdgeRewrite (padAmz ws₁ ws₂) where
  ows n v := by unfold padAmz; split; exact trimOws_edge ws₁ ws₂ v h₁ h₂; rfl
  canon n v := by unfold padAmz; split; exact trim_edge ws₁ ws₂ v h₁ h₂; rfl
  auth v := by unfold padAmz; rw [if_neg (by decide)]

end S3V.SigV4
