import S3V.Gen.Bindings
import S3V.Thm.HttpDe
/-!
# The generated binding table as input of the binding-helper model

`S3V.Drv.Service.helperModelVerdict` turns a row of the generated table (`S3V.Gen.Binding`) into a statement of the
hand-written helper model (`S3V.HttpDe.Bind`). That conversion is copied here (`opBinds`) so that theorems can be
stated about it; the only difference is that the test "the member name ends in `attributes`" is made on the byte
list of the table (`List.isSuffixOf`) instead of on a `String` (string literals do not reduce in the kernel).

Covered locations: `header` and `query` — exactly the rows for which `bindKind` of the driver answers `some`.
Rows bound to the URI path (`label`), to the `x-amz-meta-*` family (`pfx`, helper `parse_opt_metadata`, which is
not a `Kind` of `decodeAll`) and to the payload are dropped by the conversion, here as in the driver.

`rowKind` is `some (kindOf b)` on the header / query rows (`isHQ`) and `none` elsewhere (`rowKind_eq`), so every `filterMap`
over converted rows is `filter isHQ` then `map` (`filterMap_rowKind`). `shape` / `opShape`: the (header-or-query side, wire
name) pairs whose `Nodup` is `Distinct` (`distinct_of_nodup`; `opShape_nodup` from the table fact `C02_wire_names_distinct`).
`conformsB` / `confB`: Boolean `Conforms` / `Conf` for the examples.
-/
namespace S3V.HttpDeTable
open S3V S3V.Gen S3V.HttpDe S3V.HttpBinding

variable {V : Type}

/-- `bindKind` of `S3V/Drv/Service.lean`, copied by hand: nothing but reading the two side by side keeps them in
    step -/
def bindKind (b : Binding) : Option Kind :=
  match b.loc, b.required with
  | .header, true => some .reqHeader
  | .header, false => some .optHeader
  | .query, true => some .reqQuery
  | .query, false => some .optQuery
  | _, _ => none

/-- `"attributes"` -/
def attributesSuffix : Bytes := [97, 116, 116, 114, 105, 98, 117, 116, 101, 115]

/-- `(bytesToString b.member).endsWith "attributes"` of the driver, on the byte list: the list-valued header
    members (`parse_list_header`) of the S3 model are the object-attribute lists -/
def isListMember (b : Binding) : Bool := attributesSuffix.isSuffixOf b.member

/-- the `binds` of `helperModelVerdict`, with the scalar decoder of each row a parameter (the driver takes
    `fun _ => some`, i.e. `V = Bytes`, identity) -/
def opBinds (dec : Binding → Bytes → Option V) (op : Op) : List (Bind V) :=
  (implInputs op).filterMap fun b =>
    let isList := isListMember b
    match bindKind b with
    | some k =>
      let k' := if isList then Kind.listHeader b.required else k
      some ⟨k', b.wire, dec b⟩
    | none => none

structure Codec (V : Type) where
  dec : Bytes → Option V
  enc : V → Bytes

def rowKind (b : Binding) : Option Kind :=
  (bindKind b).map fun k => if isListMember b then Kind.listHeader b.required else k

def rowEB (c : Binding → Codec V) (b : Binding) : Option (EB V) :=
  (rowKind b).map fun k => ⟨⟨k, b.wire, (c b).dec⟩, (c b).enc⟩

/-- the bindings of `op` together with the encoder of each member (what `C02_decode_encode` is about) -/
def opEBs (c : Binding → Codec V) (op : Op) : List (EB V) := (implInputs op).filterMap (rowEB c)

def isHQ (b : Binding) : Bool := b.loc == .header || b.loc == .query

def kindOf (b : Binding) : Kind :=
  if isListMember b then .listHeader b.required
  else match b.loc == .header, b.required with
    | true, true => .reqHeader
    | true, false => .optHeader
    | false, true => .reqQuery
    | false, false => .optQuery

theorem rowKind_eq (b : Binding) : rowKind b = if isHQ b then some (kindOf b) else none := by
  obtain ⟨m, l, w, r, f⟩ := b
  unfold rowKind kindOf
  cases l <;> cases r <;> rfl

theorem filterMap_rowKind {β : Type} (φ : Binding → Kind → β) (l : List Binding) :
    l.filterMap (fun b => (rowKind b).map (φ b)) = (l.filter isHQ).map fun b => φ b (kindOf b) := by
  rw [← filterMap_ite]
  congr 1
  funext b
  rw [rowKind_eq]
  split <;> rfl

/-- `rowEB` in the form `filterMap_rowKind` rewrites -/
theorem rowEB_eq (c : Binding → Codec V) :
    rowEB c = fun b => (rowKind b).map fun k => ⟨⟨k, b.wire, (c b).dec⟩, (c b).enc⟩ := rfl

theorem opEBs_wires (c : Binding → Codec V) (l : List Binding) :
    (l.filterMap (rowEB c)).map (·.bind.wire) = (l.filter isHQ).map (·.wire) := by
  rw [rowEB_eq, filterMap_rowKind, List.map_map]
  rfl

def listMembersAreHeaders (op : Op) : Bool := (implInputs op).all fun b => !isListMember b || b.loc == .header

theorem listMember_loc {op : Op} (hl : listMembersAreHeaders op = true) {b : Binding} (hb : b ∈ implInputs op)
    (hi : isListMember b = true) : b.loc = .header := by
  have := List.all_eq_true.mp hl b hb
  simpa [hi] using this

theorem isHeaderKind_kindOf {b : Binding} (hl : isListMember b = true → b.loc = .header) :
    isHeaderKind (kindOf b) = (b.loc == .header) := by
  unfold kindOf
  cases hi : isListMember b with
  | true => rw [hl hi]; rfl
  | false => cases b.loc == .header <;> cases b.required <;> rfl

theorem loc_of_isHQ {b : Binding} (h : isHQ b = true) : b.loc = if b.loc == .header then .header else .query := by
  cases hh : b.loc == .header with
  | true => exact eq_of_beq hh
  | false => simpa [isHQ, hh] using h

theorem mem_opEBs_row {c : Binding → Codec V} {op : Op} (hl : listMembersAreHeaders op = true) {eb : EB V}
    (h : eb ∈ opEBs c op) :
    ∃ b ∈ implInputs op, eb.bind.wire = b.wire ∧ b.loc = if isHeaderKind eb.bind.kind then .header else .query := by
  rw [opEBs, rowEB_eq, filterMap_rowKind] at h
  obtain ⟨b, hb, rfl⟩ := List.mem_map.mp h
  obtain ⟨hb, hq⟩ := List.mem_filter.mp hb
  exact ⟨b, hb, rfl, (loc_of_isHQ hq).trans (by rw [← isHeaderKind_kindOf (listMember_loc hl hb)])⟩

def shape (bs : List (EB V)) : List (Bool × Name) := bs.map fun b => (isHeaderKind b.bind.kind, b.bind.wire)

def distinctB : List (Bool × Name) → Bool
  | [] => true
  | a :: l => l.all (fun b => !(a.1 == b.1 && a.2 == b.2)) && distinctB l

theorem distinct_of_nodup (bs : List (EB V)) (h : (shape bs).Nodup) : Distinct bs := by
  rw [shape, List.Nodup, List.pairwise_map] at h
  exact h.imp fun hne hk hw => hne (Prod.ext hk hw)

theorem distinctB_iff_nodup : ∀ (l : List (Bool × Name)), distinctB l = true ↔ l.Nodup
  | [] => by simp [distinctB]
  | a :: l => by
    -- the test is equality of pairs
    have : ∀ b : Bool × Name, (a.1 == b.1 && a.2 == b.2) = (a == b) := fun _ => rfl
    simp only [distinctB, this, Bool.and_eq_true, List.all_eq_true, Bool.not_eq_true', beq_eq_false_iff_ne, ne_eq,
      List.forall_mem_ne, distinctB_iff_nodup l, List.nodup_cons]

theorem distinct_of_distinctB (bs : List (EB V)) (h : distinctB (shape bs) = true) : Distinct bs :=
  distinct_of_nodup bs ((distinctB_iff_nodup _).mp h)

/-- the shape of an operation's bindings, read off the table (no codec in it) -/
def opShape (op : Op) : List (Bool × Name) :=
  (implInputs op).filterMap fun b => (rowKind b).map fun k => (isHeaderKind k, b.wire)

theorem shape_opEBs (c : Binding → Codec V) (op : Op) : shape (opEBs c op) = opShape op := by
  rw [shape, opEBs, rowEB_eq, filterMap_rowKind, opShape, filterMap_rowKind, List.map_map]
  rfl

theorem opShape_eq {op : Op} (hl : listMembersAreHeaders op = true) :
    opShape op = ((implInputs op).filter isHQ).map fun b => (b.loc == .header, b.wire) := by
  rw [opShape, filterMap_rowKind]
  exact List.map_congr_left fun b hb =>
    congrArg (·, b.wire) (isHeaderKind_kindOf (listMember_loc hl (List.mem_filter.mp hb).1))

theorem opShape_nodup {op : Op} (hl : listMembersAreHeaders op = true)
    (hn : (((implInputs op).filter isHQ).map fun b => (b.loc, b.wire)).Nodup) : (opShape op).Nodup := by
  rw [opShape_eq hl]
  refine nodup_map_of_nodup_map (fun a ha b hb he => ?_) hn
  injection he with hloc hwire
  rw [hwire, loc_of_isHQ (List.mem_filter.mp ha).2, loc_of_isHQ (List.mem_filter.mp hb).2, hloc]

/-! ## a decidable checker for `Conf` (for non-vacuity examples with concrete values) -/

def conformsB [DecidableEq V] (b : EB V) (s : Slot V) : Bool :=
  (match b.bind.kind, s with
    | .reqHeader, .one _ => true
    | .optHeader, .opt _ => true
    | .listHeader req, .many vs => (!req || !vs.isEmpty) && vs.all fun v => lineItems (b.enc v) == [b.enc v]
    | .reqQuery, .one _ => true
    | .optQuery, .opt _ => true
    | _, _ => false) &&
  (slotValues s).all fun v => b.bind.dec (b.enc v) == some v

def confB [DecidableEq V] : List (EB V) → List (Slot V) → Bool
  | [], [] => true
  | b :: bs, s :: ss => conformsB b s && confB bs ss
  | _, _ => false

theorem conforms_of_conformsB [DecidableEq V] (b : EB V) (s : Slot V) (h : conformsB b s = true) :
    Conforms b s := by
  obtain ⟨⟨k, w, d⟩, e⟩ := b
  simp only [conformsB, Bool.and_eq_true, List.all_eq_true, beq_iff_eq] at h
  refine ⟨?_, h.2⟩
  have h1 := h.1
  split at h1
  · trivial
  · trivial
  · simp only [Bool.and_eq_true, Bool.or_eq_true, Bool.not_eq_true', List.all_eq_true, beq_iff_eq] at h1
    refine ⟨fun hr => ?_, h1.2⟩
    rintro rfl
    simpa [hr] using h1.1
  · trivial
  · trivial
  · cases h1

theorem conf_of_confB [DecidableEq V] : ∀ (bs : List (EB V)) (ss : List (Slot V)), confB bs ss = true → Conf bs ss
  | [], [], _ => trivial
  | [], _ :: _, h => by simp [confB] at h
  | _ :: _, [], h => by simp [confB] at h
  | b :: bs, s :: ss, h => by
    simp only [confB, Bool.and_eq_true] at h
    exact ⟨conforms_of_conformsB b s h.1, conf_of_confB bs ss h.2⟩

end S3V.HttpDeTable
