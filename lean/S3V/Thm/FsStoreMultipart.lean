import S3V.Thm.FsStoreNames
/-!
# C18: multipart uploads — create, upload part, list parts, abort refine the store
-/
namespace S3V.FsStore
open S3V.StoreSpec

/-- the abstract upload of an entry of `uploads`: `absUpload s e = (e.1, uploadOf s e.1 e.2)`, curried so that the lemmas about
    association lists mapped over their values apply -/
def uploadOf (s : State) (id : Nat) (ui : UpInfo) : Upload :=
  ⟨ui.owner, ui.bucket, ui.key, (alLookup (ui.bucket, ui.key, id) s.upMetas).getD [], absParts s id⟩

theorem abs_uploads (s : State) : (abs s).uploads = s.uploads.map fun e => (e.1, uploadOf s e.1 e.2) := rfl

theorem abs_upload_lookup (s : State) (id : Nat) :
    alLookup id (abs s).uploads = (alLookup id s.uploads).map (uploadOf s id) := by
  rw [abs_uploads]
  exact alLookup_map_val (fun id ui => uploadOf s id ui) id s.uploads

/-- the part (number, content) a part file stands for within upload `id'`; `absParts s id'` collects them -/
def fp (id' : Nat) : (Nat × Int) × Bytes → Option (Int × Bytes) :=
  fun p => if p.1.1 = id' then some (p.1.2, p.2) else none

theorem absParts_eq (s : State) (id : Nat) : absParts s id = s.parts.filterMap (fp id) := rfl

/-- the part file `(id, n)` shows as part `n` of upload `id`, and no other part file does -/
theorem fp_shows (id : Nat) (n : Int) (l : List ((Nat × Int) × Bytes)) : ShowsAt (fp id) l (id, n) n := by
  refine ⟨fun _ _ _ h => ?_, fun a' _ _ _ _ hne h heq => hne ?_⟩
  · simp [fp] at h
    rw [← h]
  · obtain ⟨i, m⟩ := a'
    by_cases hi' : i = id <;> simp [fp, hi'] at h
    rw [hi', h.1, heq]

theorem filterMap_parts_filter {id' : Nat} {q : (Nat × Int) × Bytes → Bool} (hq : ∀ e, e.1.1 = id' → q e = true)
    (l : List ((Nat × Int) × Bytes)) :
    (l.filter q).filterMap (fp id') = l.filterMap (fp id') := by
  rw [List.filterMap_filter]
  congr 1
  funext e
  by_cases h : e.1.1 = id'
  · simp [fp, h, hq e h]
  · simp [fp, h]

theorem absParts_insert_other {l : List ((Nat × Int) × Bytes)} {id id' : Nat} (n : Int) (c : Bytes) (hne : id' ≠ id) :
    (alInsert (id, n) c l).filterMap (fp id') = l.filterMap (fp id') := by
  induction l with
  | nil => simp [alInsert, fp, hne.symm]
  | cons e t ih =>
    obtain ⟨⟨i, m⟩, b⟩ := e
    by_cases h : (i, m) = (id, n)
    · simp only [Prod.mk.injEq] at h
      obtain ⟨rfl, rfl⟩ := h
      simp [alInsert, fp, hne.symm]
    · simp only [alInsert, h, if_false, List.filterMap_cons, ih]

theorem absParts_insert_self {s : State} (hi : Inv s) (id : Nat) (n : Int) (c : Bytes) :
    (alInsert (id, n) c s.parts).filterMap (fp id) = alInsert n c (absParts s id) := by
  unfold absParts
  apply filterMap_alInsert _ _ (id, n) c n c s.parts hi.pnd
  · simp [fp]
  · intro b' _; exact ⟨b', by simp⟩
  · intro _ _ _ _; rfl
  · exact fp_shows id n s.parts

/-- an upload that exists and was created for this bucket and key -/
def BoundUpload (s : State) (u : UploadRef) (b k : Bytes) : Prop :=
  match u with
  | none => False
  | some id =>
    match alLookup id s.uploads with
    | none => False
    | some ui => ui.bucket = b ∧ ui.key = k

instance (s : State) (u : UploadRef) (b k : Bytes) : Decidable (BoundUpload s u b k) := by
  unfold BoundUpload
  split
  · infer_instance
  · split <;> infer_instance

/-- `BoundUpload` says that `check_upload_exists` finds a record -/
theorem BoundUpload.iff_find {s : State} {id : Nat} {b k : Bytes} :
    BoundUpload s (some id) b k ↔ (s.findUpload id b k).isSome = true := by
  unfold BoundUpload State.findUpload
  cases hl : alLookup id s.uploads with
  | none => simp [hl]
  | some ui => by_cases h : ui.bucket = b ∧ ui.key = k <;> simp [hl, h]

theorem abs_upload (s : State) (id : Nat) (b k : Bytes) :
    (abs s).upload (some id) b k = (s.findUpload id b k).map fun ui => (id, uploadOf s id ui) := by
  unfold Store.upload State.findUpload
  simp only [abs_upload_lookup]
  cases alLookup id s.uploads with
  | none => rfl
  | some ui => by_cases h : ui.bucket = b ∧ ui.key = k <;> simp [uploadOf, h]

theorem findUpload_some {s : State} {id : Nat} {b k : Bytes} {ui : UpInfo} (h : s.findUpload id b k = some ui) :
    alLookup id s.uploads = some ui ∧ ui.bucket = b ∧ ui.key = k := by
  unfold State.findUpload at h
  cases hl : alLookup id s.uploads with
  | none => simp [hl] at h
  | some u =>
    rw [hl] at h
    by_cases hc : u.bucket = b ∧ u.key = k
    · simp only [hc, and_self, if_true, Option.some.injEq] at h
      subst h
      exact ⟨rfl, hc⟩
    · simp [hc] at h

/-- a request by `who` that names upload `id` under `(b, k)`: there is no such upload on either side (`NoSuchUpload`), both
    sides find the record of somebody else's upload (`AccessDenied`), or both find the requester's -/
theorem upload_cases (s : State) (who : Who) (id : Nat) (b k : Bytes) :
    (s.verify who id b k = some .NoSuchUpload ∧ s.findUpload id b k = none ∧ (abs s).upload (some id) b k = none) ∨
    (∃ ui, s.verify who id b k = some .AccessDenied ∧ s.findUpload id b k = some ui ∧
      (abs s).upload (some id) b k = some (id, uploadOf s id ui) ∧ (uploadOf s id ui).owner ≠ who) ∨
    ∃ ui, (s.verify who id b k = none ∧ s.findUpload id b k = some ui ∧
        (abs s).upload (some id) b k = some (id, uploadOf s id ui) ∧ (uploadOf s id ui).owner = who) ∧
      alLookup id s.uploads = some ui ∧ ui.bucket = b ∧ ui.key = k := by
  have hup := abs_upload s id b k
  cases hf : s.findUpload id b k with
  | none => exact .inl ⟨by simp [State.verify, hf], rfl, by rw [hup, hf]; rfl⟩
  | some ui =>
    rw [hf] at hup
    by_cases hown : ui.owner = who
    · exact .inr (.inr ⟨ui, ⟨by simp [State.verify, hf, hown], rfl, hup, hown⟩, findUpload_some hf⟩)
    · exact .inr (.inl ⟨ui, by simp [State.verify, hf, hown], rfl, hup, hown⟩)

/-- the upload `u` names does not exist under this bucket and key: the id is not a UUID, no upload has it, or the upload was
    created for another bucket or key. No operation's predicate asks for it: such a request is inside, answered
    `NoSuchUpload` by both sides (`AbsentUpload.verify`, `AbsentUpload.upload`; code since 41e1cf2) -/
def AbsentUpload (s : State) (u : UploadRef) (b k : Bytes) : Prop :=
  match u with
  | none => True
  | some id =>
    match alLookup id s.uploads with
    | none => True
    | some ui => ¬ (ui.bucket = b ∧ ui.key = k)

theorem AbsentUpload.find {s : State} {id : Nat} {b k : Bytes} (h : AbsentUpload s (some id) b k) :
    s.findUpload id b k = none := by
  unfold AbsentUpload at h
  simp only at h
  unfold State.findUpload
  cases hl : alLookup id s.uploads with
  | none => rfl
  | some ui =>
    rw [hl] at h
    have h' : ¬ (ui.bucket = b ∧ ui.key = k) := h
    simp [h']

/-- an upload that does not exist under this bucket and key is unknown to the store as well -/
theorem AbsentUpload.upload {s : State} {u : UploadRef} {b k : Bytes} (h : AbsentUpload s u b k) :
    (abs s).upload u b k = none := by
  cases u with
  | none => rfl
  | some id => rw [abs_upload, h.find]; rfl

theorem AbsentUpload.verify {s : State} {id : Nat} {b k : Bytes} (h : AbsentUpload s (some id) b k) (who : Who) :
    s.verify who id b k = some .NoSuchUpload := by
  simp [State.verify, h.find]

/-- `create_multipart_upload` comparable: the bucket name agrees and the metadata file name fits
    [else fs:long-key-internal-error]. The state is not looked at -/
def CreateUploadOk (_s : State) (b k : Bytes) : Prop :=
  NameOk b ∧ sideTooLong b k true = false

instance (s : State) (b k : Bytes) : Decidable (CreateUploadOk s b k) := by
  unfold CreateUploadOk; decide_pred

theorem absParts_fresh {pa : List ((Nat × Int) × Bytes)} {id : Nat} (h : ∀ e ∈ pa, e.1.1 ≠ id) :
    pa.filterMap (fp id) = [] := by
  apply List.filterMap_eq_nil_iff.mpr
  intro e he
  simp [fp, h e he]

theorem Inv.upMeta_fresh {s : State} (hi : Inv s) (b k : Bytes) : alLookup (b, k, s.issued + 1) s.upMetas = none := by
  apply alLookup_eq_none_iff.mpr
  intro e he heq
  have := hi.upMetaIds e he
  rw [heq] at this
  simp only at this
  omega

/-- a new upload under the next id, its metadata file written when metadata is given -/
theorem createUpload_core {s : State} (hi : Inv s) (who : Who) (b k : Bytes) (md : Option Meta) :
    let s' : State := { s with issued := s.issued + 1, uploads := alInsert (s.issued + 1) ⟨who, b, k⟩ s.uploads,
                               upMetas := alSet (b, k, s.issued + 1) md s.upMetas }
    abs s' = { abs s with issued := s.issued + 1,
                          uploads := alInsert (s.issued + 1) ⟨who, b, k, md.getD [], []⟩ (abs s).uploads } ∧
    Inv s' := by
  have hfreshP : ∀ e ∈ s.parts, e.1.1 ≠ s.issued + 1 := by
    intro e he; have := hi.partIds e he; omega
  constructor
  · refine store_ext rfl ?_ rfl
    rw [abs_uploads]
    simp only
    rw [map_alInsert_congr (fun id ui => uploadOf _ id ui) (fun id ui => uploadOf s id ui) (s.issued + 1) _ s.uploads hi.und,
      ← abs_uploads]
    · simp only [uploadOf, absParts_eq, absParts_fresh hfreshP, alLookup_alSet_self]
    · intro e he hne
      simp only [uploadOf, absParts_eq]
      rw [alLookup_alSet_ne fun heq => hne (Prod.mk.inj (Prod.mk.inj heq).2).2]
  · refine hi.of_uploads (keysNodup_alInsert hi.und) hi.pnd ?_ (fun e he => Nat.le_succ_of_le (hi.partIds e he)) ?_
    · intro e he
      rcases alInsert_mem he with rfl | he
      · exact Nat.le_refl _
      · exact Nat.le_succ_of_le (hi.upIds e he)
    · intro e he
      rcases alSet_mem he with ⟨m, _, rfl⟩ | he
      · exact Nat.le_refl _
      · exact Nat.le_succ_of_le (hi.upMetaIds e he)

theorem createUpload_refines (H : Hashes) (dl : Nat) {s : State} (hi : Inv s) {who : Who} {b k : Bytes}
    {md : Option Meta} (hg : CreateUploadOk s b k) : Refines H dl s (.createMultipartUpload who b k md) := by
  obtain ⟨hname, hshort⟩ := hg
  rcases hname.cases with hb | hb
  case inr => simp [Refines, step, StoreSpec.step, objPath, hb, hi]
  rcases key_cases k with hk | ⟨p, hk, _⟩
  · simp [Refines, step, StoreSpec.step, objPath, hb, hk, hi]
  cases hhas : alHas b s.buckets with
  | false => simp [Refines, step, StoreSpec.step, objPath, hb, hk, abs_alHas, hhas, hi]
  | true =>
    have hiss : (abs s).issued = s.issued := rfl
    refine .of_eq (r := .created (s.issued + 1)) ?_ (by simp [StoreSpec.step, hb, hk, abs_alHas, hhas, hiss])
      (createUpload_core hi who b k md)
    -- without metadata no file is written: none with the new id is there to remove
    cases md with
    | none => simp [step, objPath, hb, hk, hhas, alSet, alErase_absent (hi.upMeta_fresh b k)]
    | some m => simp [step, objPath, hb, hk, hhas, hshort, alSet]

/-- the abstract upload with part `n` set to `c`: what the store's `upload_part` makes of it -/
def withPart (up : Upload) (n : Int) (c : Bytes) : Upload := { up with parts := alInsert n c up.parts }

/-- a part file written for an upload that exists: part `n` of the abstract upload is set -/
theorem writePart_core {s : State} (hi : Inv s) {id : Nat} {ui : UpInfo} (hl : alLookup id s.uploads = some ui)
    (n : Int) (c : Bytes) :
    let s' : State := { s with parts := alInsert (id, n) c s.parts }
    abs s' = { abs s with uploads := alInsert id (withPart (uploadOf s id ui) n c) (abs s).uploads } ∧ Inv s' := by
  constructor
  · refine store_ext rfl ?_ rfl
    rw [abs_uploads,
      map_eq_alInsert_map (fun id ui => uploadOf _ id ui) (fun id ui => uploadOf s id ui) id ui s.uploads hi.und hl,
      ← abs_uploads]
    · congr 1
      unfold withPart uploadOf
      congr 1
      exact absParts_insert_self hi id n c
    · intro e _ hne
      unfold uploadOf
      congr 1
      exact absParts_insert_other n c hne
  · refine hi.of_uploads hi.und (keysNodup_alInsert hi.pnd) hi.upIds ?_ hi.upMetaIds
    intro e he
    rcases alInsert_mem he with rfl | he
    · exact hi.upIds _ (alLookup_mem hl)
    · exact hi.partIds e he

theorem uploadPart_refines (H : Hashes) (dl : Nat) {s : State} (hi : Inv s) {who : Who} {b k : Bytes}
    {u : UploadRef} {n : Int} {c : Bytes} : Refines H dl s (.uploadPart who b k u n c) := by
  by_cases hrange : n < 1 ∨ n > 10000
  · simp [Refines, step, StoreSpec.step, hrange, hi]
  cases u with
  | none => simp [Refines, step, StoreSpec.step, hrange, Store.upload, hi]
  | some id =>
  rcases upload_cases s who id b k with hu | ⟨ui, hu⟩ | ⟨ui, hu, hl, _⟩
  -- no such upload under this bucket and key; somebody else's upload; the requester's
  · simp [Refines, step, StoreSpec.step, hrange, hu, hi]
  · simp [Refines, step, StoreSpec.step, hrange, hu, hi]
  exact .of_eq (r := .part (some (etagOf H c))) (by simp [step, hrange, hu]) (by simp [StoreSpec.step, hrange, hu, withPart])
    (writePart_core hi hl n c)

theorem listParts_refines (H : Hashes) (dl : Nat) {s : State} (hi : Inv s) {who : Who} {b k : Bytes}
    {u : UploadRef} : Refines H dl s (.listParts who b k u) := by
  cases u with
  | none => simp [Refines, step, StoreSpec.step, Store.upload, hi]
  | some id =>
  have : (absParts s id).map (fun p => (p.1, p.2.length)) =
      s.parts.filterMap fun e => if e.1.1 = id then some (e.1.2, e.2.length) else none := by
    unfold absParts
    rw [List.map_filterMap]
    congr 1
    funext e
    by_cases h : e.1.1 = id <;> simp [h]
  -- whose upload it is does not matter: it exists under this bucket and key on both sides, or on neither
  cases hf : s.findUpload id b k <;> simp [Refines, step, StoreSpec.step, abs_upload, hf, uploadOf, this, hi]

/-- provided the keys of `parts` do not repeat: `ps` is `parts` with some part files of upload `id` removed (keys still
    distinct, nothing new, the part files of every other upload as they were). The premise stands inside so that
    `Erased.filter` and `eraseParts_erased` need no invariant; `eraseUpload_core` supplies it from `Inv` -/
def Erased (id : Nat) (parts ps : List ((Nat × Int) × Bytes)) : Prop :=
  keysNodup parts → (keysNodup ps ∧ (∀ e ∈ ps, e ∈ parts) ∧ ∀ id', id' ≠ id → ps.filterMap (fp id') = parts.filterMap (fp id'))

/-- the part files filtered by a test that keeps those of every other upload -/
theorem Erased.filter {id : Nat} {q : (Nat × Int) × Bytes → Bool} (hq : ∀ e, e.1.1 ≠ id → q e = true)
    (parts : List ((Nat × Int) × Bytes)) : Erased id parts (parts.filter q) :=
  fun hnd => ⟨(List.filter_sublist.map _).nodup hnd, fun _ he => (List.mem_filter.mp he).1,
    fun _ hne => filterMap_parts_filter (fun e he => hq e (by rw [he]; exact hne)) parts⟩

/-- abstraction and invariant after an upload is gone with its metadata file, the part files `ps` left: all of
    `abort_multipart_upload`, and what `complete_multipart_upload` does once the object is written -/
theorem eraseUpload_core {s : State} (hi : Inv s) (b k : Bytes) {id : Nat} {ps : List ((Nat × Int) × Bytes)}
    (her : Erased id s.parts ps) :
    let s' : State := { s with upMetas := alErase (b, k, id) s.upMetas, parts := ps, uploads := alErase id s.uploads }
    abs s' = { abs s with uploads := alErase id (abs s).uploads } ∧ Inv s' := by
  intro s'
  obtain ⟨e1, e2, e3⟩ := her hi.pnd
  constructor
  · refine store_ext rfl ?_ rfl
    rw [abs_uploads, alErase_map_congr (fun id ui => uploadOf s' id ui) (fun id ui => uploadOf s id ui) id s.uploads,
      ← abs_uploads]
    intro e _ hne
    unfold uploadOf
    rw [absParts_eq, e3 e.1 hne, alLookup_alErase_ne fun heq => hne (Prod.mk.inj (Prod.mk.inj heq).2).2]
    rfl
  · exact hi.of_uploads (keysNodup_alErase hi.und) e1 (fun e he => hi.upIds e (alErase_mem he))
      (fun e he => hi.partIds e (e2 e he)) fun e he => hi.upMetaIds e (alErase_mem he)

theorem abort_refines (H : Hashes) (dl : Nat) {s : State} (hi : Inv s) {who : Who} {b k : Bytes}
    {u : UploadRef} : Refines H dl s (.abortMultipartUpload who b k u) := by
  cases u with
  | none => simp [Refines, step, StoreSpec.step, Store.upload, hi]
  | some id =>
  rcases upload_cases s who id b k with hu | ⟨ui, hu⟩ | ⟨ui, hu, _⟩
  -- no such upload under this bucket and key; somebody else's upload; the requester's
  · simp [Refines, step, StoreSpec.step, hu, hi]
  · simp [Refines, step, StoreSpec.step, hu, hi]
  have her : Erased id s.parts (s.parts.filter fun e => e.1.1 ≠ id) := .filter (fun e he => by simp [he]) _
  exact .of_eq (r := .ok) (by simp [step, hu]) (by simp [StoreSpec.step, hu]) (eraseUpload_core hi b k her)

end S3V.FsStore
