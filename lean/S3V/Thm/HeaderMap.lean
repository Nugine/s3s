import S3V.Model.HttpSerHeaders
import S3V.Spec.HttpRespBinding
import S3V.Thm.BytesText
import S3V.Thm.ListLemmas
/-!
# Lemmas: `http::HeaderMap` as the model has it (`S3V.KeepAlive.Hdrs`)

A header map is used through `hGetAll` alone: what `get_all(name)` yields after `hSetAll` / `hExtend` / `hRemove`, after a
sequence of `insert`s (`applyWrites`) and after `merge_custom_headers` (`hGetAll_mergeCustomHeaders_eq`). The list behind
it shows in one invariant, `WFL` (one entry per name, names in lower case), kept by every operation, and in one fact that
ties the map to the field lines on the wire: `filter_wireLines`. The client-side readers of `Spec/HttpRespBinding` over
`wireLines` are look-ups by it (`fieldValues_wireLines`, `mem_readPrefix_wireLines`).
Facts about `hGetAll` / `hSetAll` / `hExtend` / `hRemove` alone are in the model's namespace `S3V.KeepAlive` (`srcLookup` and
`getObjectMerged`, which statements of `Props/C03KeepAlive` mention, with them); everything that mentions `WFL`, `applyWrites`
or `wireLines` is in `S3V.HttpSerThm`.
-/
namespace S3V.HttpSerThm
abbrev names (h : KeepAlive.Hdrs) : List KeepAlive.HName := h.map (·.1)
end S3V.HttpSerThm

namespace S3V.KeepAlive
open S3V.HttpSerThm (names)

theorem hGetAll_hSetAll (h : Hdrs) (n : HName) (vs : List HVal) (m : HName) :
    hGetAll (hSetAll h n vs) m = if m = n then vs else hGetAll h m := by
  induction h with
  | nil => simp [hSetAll, hGetAll, eq_comm]
  | cons kv rest ih =>
    obtain ⟨k, ws⟩ := kv
    by_cases hk : k = n
    · subst hk
      by_cases hm : m = k <;> simp [hSetAll, hGetAll, eq_comm, hm]
    · simp only [hSetAll, hk, if_false, hGetAll, ih]
      by_cases hkm : k = m
      · subst hkm; simp [hk]
      · simp [hkm]

/-- the values a header list carries for a name: those of its first entry of that name (`List.lookup` with `=` for `==`).
    `extend` lets the last entry win; every statement over `srcLookup` has the names of the list unique, where first and
    last are the same entry -/
def srcLookup (src : Hdrs) (m : HName) : Option (List HVal) :=
  match src with
  | [] => none
  | (k, vs) :: rest => if k = m then some vs else srcLookup rest m

theorem srcLookup_of_mem {src : Hdrs} (hn : (names src).Nodup) {n : HName} {vs : List HVal}
    (h : (n, vs) ∈ src) : srcLookup src n = some vs := by
  induction src with
  | nil => cases h
  | cons kv rest ih =>
    obtain ⟨k, ws⟩ := kv
    simp only [List.map_cons, List.nodup_cons] at hn
    rcases List.mem_cons.mp h with heq | hmem
    · cases heq; simp [srcLookup]
    · have hkn : k ≠ n := by
        intro e; subst e
        exact hn.1 (List.mem_map.mpr ⟨(k, vs), hmem, rfl⟩)
      simp [srcLookup, hkn, ih hn.2 hmem]

theorem srcLookup_none_of_not_mem {src : Hdrs} {m : HName} (h : m ∉ names src) : srcLookup src m = none := by
  induction src with
  | nil => rfl
  | cons kv rest ih =>
    obtain ⟨k, ws⟩ := kv
    simp only [List.map_cons, List.mem_cons, not_or] at h
    simp [srcLookup, Ne.symm h.1, ih h.2]

theorem hExtend_cons (h : Hdrs) (kv : HName × List HVal) (rest : Hdrs) :
    hExtend h (kv :: rest) = hExtend (hSetAll h kv.1 kv.2) rest := rfl

theorem hGetAll_hExtend (h src : Hdrs) (hn : (names src).Nodup) (m : HName) :
    hGetAll (hExtend h src) m = (srcLookup src m).getD (hGetAll h m) := by
  induction src generalizing h with
  | nil => simp [hExtend, srcLookup]
  | cons kv rest ih =>
    obtain ⟨k, ws⟩ := kv
    simp only [List.map_cons, List.nodup_cons] at hn
    rw [hExtend_cons, ih _ hn.2]
    by_cases hkm : k = m
    · subst hkm
      rw [srcLookup_none_of_not_mem hn.1]
      simp [srcLookup, hGetAll_hSetAll]
    · have : ¬ m = k := fun e => hkm e.symm
      simp [srcLookup, hkm, hGetAll_hSetAll, this]

theorem hGetAll_hExtend_of_not_mem {src : Hdrs} {m : HName} (hm : m ∉ names src) (h : Hdrs) :
    hGetAll (hExtend h src) m = hGetAll h m := by
  induction src generalizing h with
  | nil => rfl
  | cons kv rest ih =>
    simp only [List.map_cons, List.mem_cons, not_or] at hm
    rw [hExtend_cons, ih hm.2, hGetAll_hSetAll, if_neg hm.1]

theorem hGetAll_hExtend_of_mem {src : Hdrs} (hn : (names src).Nodup) {n : HName} {vs : List HVal}
    (hm : (n, vs) ∈ src) (h : Hdrs) : hGetAll (hExtend h src) n = vs := by
  rw [hGetAll_hExtend _ _ hn, srcLookup_of_mem hn hm]
  rfl

/-- the value GetObject's response carries for a name before the content-length rule:
    backend header, else overridden (`response-*`) header, else serialized header -/
def getObjectMerged (ser : Resp) (overridden s3hdrs : Hdrs) (m : HName) : List HVal :=
  (srcLookup s3hdrs m).getD ((srcLookup overridden m).getD (hGetAll ser.headers m))

theorem hGetAll_hExtend_hExtend (ser : Resp) {overridden s3hdrs : Hdrs} (ho : (names overridden).Nodup)
    (hn : (names s3hdrs).Nodup) (m : HName) :
    hGetAll (hExtend (hExtend ser.headers overridden) s3hdrs) m = getObjectMerged ser overridden s3hdrs m := by
  rw [hGetAll_hExtend _ _ hn, hGetAll_hExtend _ _ ho, getObjectMerged]

theorem hGetAll_eq_nil_of_not_mem {h : Hdrs} {m : HName} (hm : m ∉ names h) : hGetAll h m = [] := by
  induction h with
  | nil => rfl
  | cons kv rest ih =>
    obtain ⟨k, ws⟩ := kv
    simp only [List.map_cons, List.mem_cons, not_or] at hm
    simp [hGetAll, Ne.symm hm.1, ih hm.2]

/-- `remove` takes the first entry of the name: with one entry per name none is left -/
theorem hGetAll_hRemove {h : Hdrs} (hn : (names h).Nodup) (n m : HName) :
    hGetAll (hRemove h n) m = if m = n then [] else hGetAll h m := by
  induction h with
  | nil => simp [hRemove, hGetAll]
  | cons kv rest ih =>
    obtain ⟨k, ws⟩ := kv
    simp only [List.map_cons, List.nodup_cons] at hn
    by_cases hk : k = n
    · subst hk
      by_cases hm : m = k
      · simp [hRemove, hm, hGetAll_eq_nil_of_not_mem hn.1]
      · simp [hRemove, hGetAll, hm, Ne.symm hm]
    · simp only [hRemove, hk, if_false, hGetAll, ih hn.2]
      by_cases hkm : k = m
      · subst hkm; simp [hk]
      · simp [hkm]

theorem names_hSetAll (h : Hdrs) (n : HName) (vs : List HVal) :
    names (hSetAll h n vs) = if n ∈ names h then names h else names h ++ [n] := by
  induction h with
  | nil => simp [hSetAll]
  | cons kv rest ih =>
    obtain ⟨k, ws⟩ := kv
    by_cases hk : k = n
    · subst hk; simp [hSetAll]
    · have : ¬ n = k := fun e => hk e.symm
      simp only [hSetAll, hk, if_false, List.map_cons, ih, List.mem_cons, this, false_or]
      split <;> simp

theorem nodup_hSetAll {h : Hdrs} (hn : (names h).Nodup) (n : HName) (vs : List HVal) :
    (names (hSetAll h n vs)).Nodup := by
  rw [names_hSetAll]
  split
  · exact hn
  · rename_i hnot
    rw [List.nodup_append]
    refine ⟨hn, by simp, ?_⟩
    intro a ha b hb
    simp at hb
    subst hb
    intro e; subst e
    exact hnot ha

theorem nodup_hExtend {h : Hdrs} (hn : (names h).Nodup) (src : Hdrs) :
    (names (hExtend h src)).Nodup := by
  induction src generalizing h with
  | nil => simpa [hExtend] using hn
  | cons kv rest ih =>
    rw [hExtend_cons]
    exact ih (nodup_hSetAll hn _ _)

end S3V.KeepAlive

namespace S3V.HttpSerThm
open S3V S3V.KeepAlive S3V.HttpSerHeaders S3V.HttpRespBinding

/-- the `HeaderMap` invariant as far as it is needed: one entry per name, names in lower case -/
structure WFL (h : Hdrs) : Prop where
  nodup : (names h).Nodup
  lower : ∀ n ∈ names h, lowerName n = n

theorem WFL_nil : WFL [] := ⟨by simp, by simp⟩

def applyWrites (h : Hdrs) (ws : List (HName × HVal)) : Hdrs := ws.foldl (fun h w => hInsert h w.1 w.2) h

theorem applyWrites_nil (h : Hdrs) : applyWrites h [] = h := rfl

theorem applyWrites_cons (h : Hdrs) (w : HName × HVal) (ws : List (HName × HVal)) :
    applyWrites h (w :: ws) = applyWrites (hInsert h w.1 w.2) ws := rfl

theorem foldl_addOptHeader (nvs : List (HName × Option HVal)) (h : Hdrs) :
    nvs.foldl (fun h nv => addOptHeader h nv.1 nv.2) h
      = applyWrites h (nvs.filterMap fun nv => nv.2.map fun v => (nv.1, v)) := by
  induction nvs generalizing h with
  | nil => rfl
  | cons nv rest ih =>
    obtain ⟨n, _ | v⟩ := nv
    · exact ih h
    · exact ih _

theorem applyWrites_eq_hExtend (h : Hdrs) (ws : List (HName × HVal)) :
    applyWrites h ws = hExtend h (ws.map fun w => (w.1, [w.2])) := by
  rw [applyWrites, hExtend, List.foldl_map]
  rfl

theorem names_writes (ws : List (HName × HVal)) :
    names (ws.map fun w => (w.1, [w.2])) = ws.map (·.1) :=
  List.map_map

theorem hGetAll_applyWrites_of_not_mem {ws : List (HName × HVal)} {m : HName} (hm : m ∉ ws.map (·.1)) (h : Hdrs) :
    hGetAll (applyWrites h ws) m = hGetAll h m := by
  rw [applyWrites_eq_hExtend]
  exact hGetAll_hExtend_of_not_mem (by rwa [names_writes]) h

theorem mem_hGetAll_applyWrites {ws : List (HName × HVal)} {h : Hdrs} {m : HName} {v : HVal}
    (hv : v ∈ hGetAll (applyWrites h ws) m) : (m, v) ∈ ws ∨ v ∈ hGetAll h m := by
  induction ws generalizing h with
  | nil => exact Or.inr hv
  | cons w ws ih =>
    rw [applyWrites_cons] at hv
    rcases ih hv with hin | hold
    · exact Or.inl (List.mem_cons_of_mem _ hin)
    · rw [hInsert, hGetAll_hSetAll] at hold
      split at hold
      · next hm => exact Or.inl (by rw [hm, List.mem_singleton.mp hold]; exact List.mem_cons_self)
      · exact Or.inr hold

theorem hGetAll_applyWrites_of_mem {ws : List (HName × HVal)} {m : HName} {t : HVal} (hm : (m, t) ∈ ws)
    (hf : ∀ t', (m, t') ∈ ws → t' = t) (h : Hdrs) : hGetAll (applyWrites h ws) m = [t] := by
  induction ws generalizing h with
  | nil => cases hm
  | cons w ws ih =>
    rw [applyWrites_cons]
    by_cases hin : (m, t) ∈ ws
    · exact ih hin (fun t' h' => hf t' (List.mem_cons_of_mem _ h')) _
    · -- `(m, t)` is not written again, so the head is the last insert under `m`, and the last insert wins
      have hw : w = (m, t) := ((List.mem_cons.mp hm).resolve_right hin).symm
      have hnot : m ∉ ws.map (·.1) := by
        intro hmem
        obtain ⟨w', hw', rfl⟩ := List.mem_map.mp hmem
        exact hin (hf w'.2 (List.mem_cons_of_mem _ hw') ▸ hw')
      rw [hGetAll_applyWrites_of_not_mem hnot, hw, hInsert, hGetAll_hSetAll, if_pos rfl]

theorem hGetAll_foldl_addOptHeader_of_mem {nvs : List (HName × Option HVal)} (hn : (nvs.map (·.1)).Nodup) {n : HName}
    {v : HVal} (hm : (n, some v) ∈ nvs) (h : Hdrs) :
    hGetAll (nvs.foldl (fun h nv => addOptHeader h nv.1 nv.2) h) n = [v] := by
  rw [foldl_addOptHeader]
  -- the fold is a sequence of `insert`s, and with the names distinct the member's is the only one under `n`
  refine hGetAll_applyWrites_of_mem (List.mem_filterMap.mpr ⟨_, hm, rfl⟩) (fun t' ht' => ?_) _
  obtain ⟨⟨m, _ | w⟩, hnv, he⟩ := List.mem_filterMap.mp ht'
  · cases he
  · cases he
    injection inj_of_nodup_map hn hnv hm rfl with _ e
    injection e

theorem mem_names_hSetAll {h : Hdrs} {n m : HName} {vs : List HVal} (hm : m ∈ names (hSetAll h n vs)) :
    m = n ∨ m ∈ names h := by
  rw [names_hSetAll] at hm
  split at hm
  · exact Or.inr hm
  · rcases List.mem_append.mp hm with h1 | h1
    · exact Or.inr h1
    · exact Or.inl (by simpa using h1)

theorem WFL_hSetAll {h : Hdrs} (hw : WFL h) {n : HName} (hn : lowerName n = n) (vs : List HVal) :
    WFL (hSetAll h n vs) := by
  refine ⟨nodup_hSetAll hw.nodup n vs, ?_⟩
  intro m hm
  rcases mem_names_hSetAll hm with rfl | h1
  · exact hn
  · exact hw.lower m h1

theorem WFL_hExtend {h : Hdrs} (hw : WFL h) {src : Hdrs} (hl : ∀ n ∈ names src, lowerName n = n) :
    WFL (hExtend h src) := by
  induction src generalizing h with
  | nil => simpa [hExtend] using hw
  | cons kv rest ih =>
    rw [hExtend_cons]
    exact ih (WFL_hSetAll hw (hl kv.1 (by simp)) _) (fun n hn => hl n (by simp [List.mem_map] at hn ⊢; exact Or.inr hn))

theorem WFL_applyWrites {h : Hdrs} (hw : WFL h) {ws : List (HName × HVal)}
    (hl : ∀ n ∈ ws.map (·.1), lowerName n = n) : WFL (applyWrites h ws) := by
  rw [applyWrites_eq_hExtend]
  exact WFL_hExtend hw (by rwa [names_writes])

theorem names_hRemove_sublist (h : Hdrs) (n : HName) : (names (hRemove h n)).Sublist (names h) := by
  induction h with
  | nil => simp [hRemove]
  | cons kv rest ih =>
    obtain ⟨k, vs⟩ := kv
    by_cases hk : k = n
    · simp [hRemove, hk]
    · simp only [hRemove, hk, if_false, names, List.map_cons]
      exact List.Sublist.cons_cons _ ih

theorem WFL_hRemove {h : Hdrs} (hw : WFL h) (n : HName) : WFL (hRemove h n) :=
  ⟨hw.nodup.sublist (names_hRemove_sublist h n), fun m hm => hw.lower m ((names_hRemove_sublist h n).subset hm)⟩

theorem WFL_bodySetterHeaders (k : BodyKind) : WFL (bodySetterHeaders k) := by
  cases k
  · exact WFL_nil
  · exact WFL_hSetAll WFL_nil (by decide) _
  · exact WFL_nil
  · exact WFL_hSetAll WFL_nil (by decide) _
  · exact WFL_nil

theorem trimOws_of_no_ows {v : Bytes} (h : ∀ c ∈ v, isOws c = false) : trimOws v = v := trimBy_of_no_blank h

theorem mem_wireLines_name {hs : Hdrs} {n : HName} {v : HVal} (h : (n, v) ∈ wireLines hs) : n ∈ names hs := by
  simp only [wireLines, List.mem_flatMap, List.mem_map] at h
  obtain ⟨kv, hkv, v', _, he⟩ := h
  injection he with e1 _
  exact List.mem_map.mpr ⟨kv, hkv, e1⟩

theorem filter_wireLines {hs : Hdrs} (hn : (names hs).Nodup) (n : HName) :
    (wireLines hs).filter (fun l => l.1 == n) = (hGetAll hs n).map fun v => (n, v) := by
  induction hs with
  | nil => rfl
  | cons kv rest ih =>
    obtain ⟨k, vs⟩ := kv
    simp only [names, List.map_cons, List.nodup_cons] at hn
    have hc : wireLines ((k, vs) :: rest) = vs.map (fun v => (k, v)) ++ wireLines rest := by simp [wireLines]
    rw [hc, List.filter_append, ih hn.2]
    by_cases hk : k = n
    · subst hk
      rw [List.filter_eq_self.mpr (by simp), hGetAll_eq_nil_of_not_mem hn.1]
      simp [hGetAll]
    · rw [List.filter_eq_nil_iff.mpr (by simp [hk])]
      simp [hGetAll, hk]

theorem mem_wireLines {hs : Hdrs} (hn : (names hs).Nodup) (n : HName) (v : HVal) :
    (n, v) ∈ wireLines hs ↔ v ∈ hGetAll hs n := by
  have h := congrArg (fun l => (n, v) ∈ l) (filter_wireLines hn n)
  simpa using h

/-- on a header map (`WFL`: names in lower case) the client's case-insensitive comparison of names is equality -/
theorem fieldValues_wireLines {hs : Hdrs} (hw : WFL hs) {n : Bytes} (hl : lowerName n = n) :
    fieldValues (wireLines hs) n = (hGetAll hs n).map trimOws := by
  have hsame : ∀ l ∈ wireLines hs, sameName l.1 n = (l.1 == n) := fun l hl' => by
    rw [sameName, hw.lower l.1 (mem_wireLines_name (v := l.2) hl'), hl]
  rw [fieldValues, List.filter_congr hsame, filter_wireLines hw.nodup, List.map_map]
  rfl

theorem mem_readPrefix_wireLines {hs : Hdrs} (hw : WFL hs) {pfx : Bytes} (hp : lowerName pfx = pfx) (k v : Bytes) :
    (k, v) ∈ readPrefix (wireLines hs) pfx ↔ ∃ v0, v0 ∈ hGetAll hs (pfx ++ k) ∧ v = trimOws v0 := by
  simp only [readPrefix, List.mem_filterMap, hp]
  constructor
  · rintro ⟨⟨n, v'⟩, hmem, hite⟩
    have hnl : lowerName n = n := hw.lower n (mem_wireLines_name hmem)
    simp only [hnl] at hite
    split at hite
    · rename_i hpre
      obtain ⟨t, rfl⟩ := bytes_isPrefixOf_iff.mp hpre
      rw [List.drop_left] at hite
      injection hite with hite
      injection hite with e1 e2
      subst e1
      exact ⟨v', (mem_wireLines hw.nodup _ _).mp hmem, e2.symm⟩
    · cases hite
  · rintro ⟨v0, hv, rfl⟩
    have hmem := (mem_wireLines hw.nodup _ _).mpr hv
    have hnl : lowerName (pfx ++ k) = pfx ++ k := hw.lower _ (mem_wireLines_name hmem)
    refine ⟨(pfx ++ k, v0), hmem, ?_⟩
    simp only [hnl]
    have : pfx.isPrefixOf (pfx ++ k) = true := bytes_isPrefixOf_iff.mpr (List.prefix_append _ _)
    simp [this]

/-! ## `merge_custom_headers` (`ops/get_object.rs`) -/

theorem WFL_mergeCustomHeaders {h s3hdrs : Hdrs} (hw : WFL (hExtend h s3hdrs)) : WFL (mergeCustomHeaders h s3hdrs) := by
  simp only [mergeCustomHeaders]
  split
  · split
    · exact WFL_hRemove hw _
    · exact hw
  · exact hw

theorem hGetAll_mergeCustomHeaders_eq {h s3hdrs : Hdrs} (hn : (names (hExtend h s3hdrs)).Nodup) (m : HName) :
    hGetAll (mergeCustomHeaders h s3hdrs) m =
      if m = hContentLength ∧ hGet (hExtend h s3hdrs) hTransferEncoding = some vChunked then []
      else hGetAll (hExtend h s3hdrs) m := by
  simp only [mergeCustomHeaders]
  split
  · next v hv =>
    split
    · next hvc => simp [hGetAll_hRemove hn, hv, hvc]
    · next hvc => rw [if_neg fun hc => hvc (Option.some.inj (hv.symm.trans hc.2))]
  · next hv => rw [if_neg fun hc => by cases hv.symm.trans hc.2]

end S3V.HttpSerThm
