import S3V.Spec.EvStream
import S3V.Thm.EvStreamWidth
import S3V.Thm.ListLemmas
/-!
# Lemmas for C15: the event-stream encoder model against the independent decoder

* big-endian write/read round trips (`rdU32_be32`, `rdU16_be16`);
* `decodeFrame_frameOf`: the spec decoder inverts `frameOf`, for an arbitrary CRC function;
* stream level: `decodeAll` over concatenated frames; the S3 Select reading (`interpret`) of every item
  (`abstractEvent`, `kindOf`: what a client should read, and of which documented kind).
-/
namespace S3V.EvStreamThm
open S3V S3V.EvStream S3V.EvStreamSpec

theorem be16_val (n : Nat) : n / 256 % 256 * 256 + n % 256 = n % 65536 := by
  rw [show 65536 = 256 * 256 from rfl, Nat.mod_mul, Nat.add_comm, Nat.mul_comm]

theorem be32_val (n : Nat) :
    ((n / 16777216 % 256 * 256 + n / 65536 % 256) * 256 + n / 256 % 256) * 256 + n % 256 = n % 4294967296 := by
  rw [show 4294967296 = 65536 * 65536 from rfl, Nat.mod_mul, ← be16_val n, ← be16_val (n / 65536),
    Nat.div_div_eq_div_mul]
  generalize n / (65536 * 256) % 256 = a
  generalize n / 65536 % 256 = b
  generalize n / 256 % 256 = c
  generalize n % 256 = d
  omega

theorem rdU32_be32 (n : Nat) (r : Bytes) : rdU32 (be32 n ++ r) = some (n % 4294967296, r) := by
  simp only [be32, List.cons_append, List.nil_append, rdU32, UInt8.toNat_ofNat', Nat.reducePow, be32_val]

theorem rdU16_be16 (n : Nat) (r : Bytes) : rdU16 (be16 n ++ r) = some (n % 65536, r) := by
  simp only [be16, List.cons_append, List.nil_append, rdU16, UInt8.toNat_ofNat', Nat.reducePow, be16_val]

theorem takeN_append (a r : Bytes) : takeN a.length (a ++ r) = some (a, r) := by
  simp [takeN]

theorem encHeader_length (h : Header) : (encHeader h).length = 4 + h.name.length + h.value.length := by
  simp [encHeader, be16]; omega

theorem encHeaders_length (hs : List Header) : (encHeaders hs).length = hdrSize hs := by
  induction hs with
  | nil => rfl
  | cons h hs ih => simp [encHeaders, hdrSize, encHeader_length, ih]

def toDecoded (m : Message) : DecodedMessage :=
  ⟨m.headers.map fun h => (h.name, HVal.string h.value), payloadBytes m⟩

theorem decodeHeader_enc (h : Header) (hf : fits h = true) (r : Bytes) :
    decodeHeader (encHeader h ++ r) = some ((h.name, .string h.value), r) := by
  obtain ⟨h1, h2⟩ := (fits_iff h).mp hf
  have e1 : h.name.length % 256 = h.name.length := Nat.mod_eq_of_lt h1
  have e2 : h.value.length % 65536 = h.value.length := Nat.mod_eq_of_lt h2
  simp only [decodeHeader, encHeader, List.cons_append, List.append_assoc, rdU8, UInt8.toNat_ofNat',
    Nat.reducePow, e1, Option.bind_some, takeN_append, decodeValue, rdU16_be16, e2]
  simp

theorem decodeHeadersFuel_enc (hs : List Header) (hall : hs.all fits = true) :
    ∀ fuel, hs.length ≤ fuel →
      decodeHeadersFuel fuel (encHeaders hs) = some (hs.map fun h => (h.name, HVal.string h.value)) := by
  induction hs with
  | nil => intro fuel _; cases fuel <;> simp [encHeaders, decodeHeadersFuel]
  | cons h hs ih =>
    intro fuel hfuel
    simp only [List.all_cons, Bool.and_eq_true] at hall
    cases fuel with
    | zero => simp at hfuel
    | succ f =>
      -- the loop's equation is stated for a list that is visibly a `cons`: name the head, step, put it back
      obtain ⟨c, cs, hc⟩ : ∃ c cs, encHeader h ++ encHeaders hs = c :: cs := ⟨_, _, rfl⟩
      rw [encHeaders, hc, decodeHeadersFuel, ← hc, decodeHeader_enc h hall.1]
      simp [ih hall.2 f (by simpa using hfuel)]

theorem length_le_hdrSize (hs : List Header) : hs.length ≤ hdrSize hs := by
  induction hs with
  | nil => simp [hdrSize]
  | cons h hs ih => simp [hdrSize]; omega

theorem decodeHeaders_enc (hs : List Header) (hall : hs.all fits = true) :
    decodeHeaders (encHeaders hs) = some (hs.map fun h => (h.name, HVal.string h.value)) := by
  unfold decodeHeaders
  exact decodeHeadersFuel_enc hs hall _ (by rw [encHeaders_length]; exact length_le_hdrSize hs)

theorem be32_length (n : Nat) : (be32 n).length = 4 := rfl

/-- the decoder on a frame whose four 32-bit fields are given by what `rdU32` reads from them -/
theorem decodeFrame_fields (crc32 : Bytes → Nat) {tB hB cB mB enc p : Bytes} {T H : Nat}
    {hs : List (Bytes × HVal)} (rest : Bytes)
    (ht : ∀ r, rdU32 (tB ++ r) = some (T, r)) (hh : ∀ r, rdU32 (hB ++ r) = some (H, r))
    (hc : ∀ r, rdU32 (cB ++ r) = some (crc32 (tB ++ hB) % 4294967296, r))
    (hm : ∀ r, rdU32 (mB ++ r) = some (crc32 (tB ++ (hB ++ (cB ++ (enc ++ p)))) % 4294967296, r))
    (hl : (tB ++ hB).length = 8) (hcl : cB.length = 4) (hH : enc.length = H) (hT : T = 16 + H + p.length)
    (hdec : decodeHeaders enc = some hs) :
    decodeFrame crc32 (tB ++ (hB ++ (cB ++ (enc ++ (p ++ (mB ++ rest)))))) = some (⟨hs, p⟩, rest) := by
  have t8 : (tB ++ (hB ++ (cB ++ (enc ++ (p ++ (mB ++ rest)))))).take 8 = tB ++ hB := by
    rw [← List.append_assoc]
    exact List.take_left' hl
  have tT : (tB ++ (hB ++ (cB ++ (enc ++ (p ++ (mB ++ rest)))))).take (T - 4) =
      tB ++ (hB ++ (cB ++ (enc ++ p))) := by
    have : tB ++ (hB ++ (cB ++ (enc ++ (p ++ (mB ++ rest))))) =
        (tB ++ (hB ++ (cB ++ (enc ++ p)))) ++ (mB ++ rest) := by
      simp only [List.append_assoc]
    rw [this]
    apply List.take_left'
    simp only [List.length_append] at hl ⊢
    omega
  have n1 : ¬ T < H + 16 := by omega
  have e3 : T - H - 16 = p.length := by omega
  unfold decodeFrame
  simp only [ht, hh, hc, hm, Option.bind_some, t8, tT, ne_eq, not_true_eq_false, if_false, n1,
    hH ▸ takeN_append enc _, e3, takeN_append, hdec, Option.map_some]

/-- the frame with its concatenations nested to the right: total length, headers length, prelude CRC, headers,
    payload, message CRC -/
theorem frameOf_eq (crc32 : Bytes → Nat) (m : Message) :
    frameOf crc32 m =
      be32 (16 + hdrSize m.headers + (payloadBytes m).length) ++ (be32 (hdrSize m.headers) ++
        (be32 (crc32 (be32 (16 + hdrSize m.headers + (payloadBytes m).length) ++ be32 (hdrSize m.headers))) ++
          (encHeaders m.headers ++ (payloadBytes m ++ be32 (crc32
            (be32 (16 + hdrSize m.headers + (payloadBytes m).length) ++ (be32 (hdrSize m.headers) ++
              (be32 (crc32 (be32 (16 + hdrSize m.headers + (payloadBytes m).length) ++ be32 (hdrSize m.headers))) ++
                (encHeaders m.headers ++ payloadBytes m))))))))) := by
  simp only [frameOf, List.append_assoc]

theorem decodeFrame_frameOf (crc32 : Bytes → Nat) (m : Message) (hok : sizesOk m = true) (rest : Bytes) :
    decodeFrame crc32 (frameOf crc32 m ++ rest) = some (toDecoded m, rest) := by
  obtain ⟨hfit, hT⟩ := (sizesOk_iff m).mp hok
  have hall : m.headers.all fits = true := List.all_eq_true.mpr fun h hh => (fits_iff h).mpr (hfit h hh)
  rw [frameOf_eq]
  simp only [List.append_assoc]
  exact decodeFrame_fields crc32 rest
    (fun r => by rw [rdU32_be32, Nat.mod_eq_of_lt hT])
    (fun r => by rw [rdU32_be32, Nat.mod_eq_of_lt (by omega)])
    (fun r => rdU32_be32 _ r) (fun r => rdU32_be32 _ r) rfl rfl (encHeaders_length _) rfl
    (decodeHeaders_enc _ hall)

theorem frameOf_length (crc32 : Bytes → Nat) (m : Message) :
    (frameOf crc32 m).length = 16 + hdrSize m.headers + (payloadBytes m).length := by
  simp [frameOf, be32_length, encHeaders_length]; omega

/-! the field positions of a frame, for the field statements of `Props/C15` -/

theorem drop4_be32 (a : Nat) (x : Bytes) : (be32 a ++ x).drop 4 = x := rfl

theorem take8_be32 (a b : Nat) (x : Bytes) : (be32 a ++ (be32 b ++ x)).take 8 = be32 a ++ be32 b := rfl

theorem drop8_be32 (a b : Nat) (x : Bytes) : (be32 a ++ (be32 b ++ x)).drop 8 = x := rfl

theorem drop12_be32 (a b c : Nat) (x : Bytes) : (be32 a ++ (be32 b ++ (be32 c ++ x))).drop 12 = x := rfl

theorem decodeAllFuel_frames (crc32 : Bytes → Nat) (ms : List Message) (hok : ∀ m ∈ ms, sizesOk m = true) :
    ∀ fuel, ms.length ≤ fuel →
      decodeAllFuel crc32 fuel (ms.map (frameOf crc32)).flatten = some (ms.map toDecoded) := by
  induction ms with
  | nil => intro fuel _; cases fuel <;> simp [decodeAllFuel]
  | cons m ms ih =>
    intro fuel hfuel
    cases fuel with
    | zero => simp at hfuel
    | succ f =>
      -- as in `decodeHeadersFuel_enc`: the input is a `cons` by computation
      obtain ⟨c, cs, hc⟩ : ∃ c cs, frameOf crc32 m ++ (ms.map (frameOf crc32)).flatten = c :: cs := ⟨_, _, rfl⟩
      rw [List.map_cons, List.flatten_cons, hc, decodeAllFuel, ← hc, decodeFrame_frameOf crc32 m (hok m (by simp))]
      simp [ih (fun m' hm' => hok m' (by simp [hm'])) f (by simpa using hfuel)]

theorem decodeAll_frames (crc32 : Bytes → Nat) (ms : List Message) (hok : ∀ m ∈ ms, sizesOk m = true) :
    decodeAll crc32 (ms.map (frameOf crc32)).flatten = some (ms.map toDecoded) := by
  unfold decodeAll
  apply decodeAllFuel_frames crc32 ms hok
  induction ms with
  | nil => simp
  | cons m ms ih =>
    have := frameOf_length crc32 m
    simp only [List.map_cons, List.flatten_cons, List.length_append, List.length_cons]
    have := ih (fun m' hm' => hok m' (by simp [hm']))
    omega

theorem wrapper_ok_iff (crc32 : Bytes → Nat) (items : List Item) (frames : List Bytes) :
    wrapper crc32 items = frames.map .ok ↔
      (∀ it ∈ items, sizesOk (itemMessage it) = true) ∧ frames = items.map fun it => frameOf crc32 (itemMessage it) := by
  induction items generalizing frames with
  | nil => cases frames <;> simp [wrapper]
  | cons it items ih =>
    cases frames with
    | nil => simp [wrapper]
    | cons f fs =>
      have ih' := ih fs
      simp only [wrapper] at ih' ⊢
      simp only [List.map_cons, List.cons.injEq, eventIntoBytes, serialize_ok_iff, ih', List.mem_cons,
        forall_eq_or_imp]
      constructor
      · rintro ⟨⟨h1, h2⟩, h3, h4⟩; exact ⟨⟨h1, h3⟩, h2, h4⟩
      · rintro ⟨⟨h1, h3⟩, h2, h4⟩; exact ⟨⟨h1, h2⟩, h3, h4⟩

/-- what a client should read out of the frame of a backend item -/
def abstractEvent : Item → SelEvent
  | .ok .cont => .cont
  | .ok .endEv => .endEv
  | .ok (.records p) => .records (p.getD [])
  | .ok (.progress d) => .progress ((d.map (xmlPayload vProgress)).getD [])
  | .ok (.stats d) => .stats ((d.map (xmlPayload vStats)).getD [])
  | .error e => .error (truncateHeaderValue e.code) ((e.message.map truncateHeaderValue).getD [])

theorem interpret_item (it : Item) : interpret (toDecoded (itemMessage it)) = some (abstractEvent it) := by
  cases it with
  | error e => rfl
  | ok ev => cases ev <;> rfl

theorem interpret_items (items : List Item) :
    (items.map fun it => toDecoded (itemMessage it)).mapM interpret = some (items.map abstractEvent) :=
  mapM_map interpret _ abstractEvent items fun it _ => interpret_item it

/-- the documented kind of an event -/
def kindOf : Event → Kind
  | .cont => .cont | .endEv => .endEv | .progress _ => .progress | .records _ => .records | .stats _ => .stats

theorem allStringTyped_toDecoded (m : Message) : allStringTyped (toDecoded m).headers := by
  intro h hm
  obtain ⟨x, _, rfl⟩ := List.mem_map.mp hm
  exact ⟨x.value, rfl⟩

/-- the fixed header block of every event fits its length fields; the largest is that of Records: three headers
    of 4 bytes of framing each, names of 11, 13 and 13 bytes, values of 7, 24 and 5 bytes, 85 in all -/
theorem intoMessage_headers_fit (ev : Event) :
    (intoMessage ev).headers.all fits = true ∧ hdrSize (intoMessage ev).headers ≤ 85 := by
  cases ev <;> exact ⟨rfl, Nat.le_of_ble_eq_true rfl⟩

/-- an error message is encodable exactly when code and text fit a string header. The rest of its header block
    is 55 bytes: 4 bytes of framing per header, the names `:error-code`, `:error-message`, `:message-type` of
    11, 14 and 13 bytes, and the value `error` of 5 -/
theorem sizesOk_errorMessage (c m : Bytes) :
    sizesOk ⟨[hdr hErrorCode c, hdr hErrorMessage m, hdr hMessageType vError], none⟩ = true ↔
      c.length < 65536 ∧ m.length < 65536 := by
  have hsize : hdrSize [hdr hErrorCode c, hdr hErrorMessage m, hdr hMessageType vError] =
      55 + c.length + m.length := by
    show 4 + 11 + c.length + (4 + 14 + m.length + (4 + 13 + 5 + 0)) = _
    omega
  rw [sizesOk_iff, hsize]
  simp only [List.mem_cons, List.not_mem_nil, or_false, forall_eq_or_imp, forall_eq]
  show ((11 < 256 ∧ c.length < 65536) ∧ (14 < 256 ∧ m.length < 65536) ∧ (13 < 256 ∧ 5 < 65536)) ∧
    16 + (55 + c.length + m.length) + 0 < 4294967296 ↔ _
  omega

end S3V.EvStreamThm
