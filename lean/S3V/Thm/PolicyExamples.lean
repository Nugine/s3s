import S3V.Model.Policy
/-!
# Concrete documents and values (for the non-vacuity `example`s and the counterexamples)

Strings are spelled as byte lists because string literals do not reduce in the kernel.
-/
namespace S3V.Policy.Ex
open S3V S3V.Policy

/-- `"s3:ListBucket"` -/
def sListBucket : Bytes := [115, 51, 58, 76, 105, 115, 116, 66, 117, 99, 107, 101, 116]
/-- `"s3:GetObject"` -/
def sGetObject : Bytes := [115, 51, 58, 71, 101, 116, 79, 98, 106, 101, 99, 116]
/-- `"arn:aws:s3:::example_bucket"` -/
def sArn : Bytes := [97, 114, 110, 58, 97, 119, 115, 58, 115, 51, 58, 58, 58, 101, 120, 97, 109, 112, 108, 101, 95, 98,
  117, 99, 107, 101, 116]
/-- `"AWS"` -/
def sAWS : Bytes := [65, 87, 83]
/-- `"arn:aws:iam::123456789012:root"` -/
def sRoot : Bytes := [97, 114, 110, 58, 97, 119, 115, 58, 105, 97, 109, 58, 58, 49, 50, 51, 52, 53, 54, 55, 56, 57, 48,
  49, 50, 58, 114, 111, 111, 116]
/-- `"Bool"` -/
def sBool : Bytes := [66, 111, 111, 108]
/-- `"aws:MultiFactorAuthPresent"` -/
def sMfa : Bytes := [97, 119, 115, 58, 77, 117, 108, 116, 105, 70, 97, 99, 116, 111, 114, 65, 117, 116, 104, 80, 114,
  101, 115, 101, 110, 116]
/-- `"true"` -/
def sTrue : Bytes := [116, 114, 117, 101]
/-- `"Permit"` -/
def sPermit : Bytes := [80, 101, 114, 109, 105, 116]
/-- `"2020-01-01"` -/
def s2020 : Bytes := [50, 48, 50, 48, 45, 48, 49, 45, 48, 49]

/-- a value using every optional part: principal map, one and many, a condition -/
def policyA : Policy :=
  { version := some .v2012_10_17, id := none,
    statement := .more [
      { sid := some sTrue, principal := some (.principal (.map [(sAWS, .more [sRoot])])), effect := .allow,
        action := .action (.one sGetObject), resource := .resource (.more [sArn]),
        condition := some [(sBool, [(sMfa, .one sTrue)])] },
      { sid := none, principal := some (.notPrincipal .wildcard), effect := .deny,
        action := .notAction .wildcard, resource := .notResource (.more []), condition := none }] }

/-- the smallest value that does not survive: `Action: One("*")` -/
def policyOneStar : Policy :=
  { version := none, id := none,
    statement := .one { sid := none, principal := none, effect := .allow, action := .action (.one nStar),
                        resource := .resource .wildcard, condition := none } }

/-- what it comes back as -/
def policyOneStarBack : Policy :=
  { version := none, id := none,
    statement := .one { sid := none, principal := none, effect := .allow, action := .action .wildcard,
                        resource := .resource .wildcard, condition := none } }

/-- `{"Effect":"Allow","Action":"s3:ListBucket","Resource":"arn:aws:s3:::example_bucket"}` plus `extra` -/
def stmtWith (effect : Json) (extra : List (Bytes × Json)) : Json :=
  .obj ([(kEffect, effect), (kAction, .str sListBucket), (kResource, .str sArn)] ++ extra)

/-- `example2_json` of `s3s-policy/src/tests.rs` -/
def doc2 : Json := .obj [(kVersion, .str n2012), (kStatement, stmtWith (.str nAllow) [])]

/-- the same with the action as a one-element list, members in another order and a foreign member -/
def doc2List : Json :=
  .obj [(kStatement, .arr [.obj [(kResource, .str sArn), (sAWS, .num [49]), (kAction, .arr [.str sListBucket]),
                                 (kEffect, .str nAllow)]]),
        (kVersion, .str n2012)]

/-! documents outside the grammar that are refused -/
def docUnknownEffect : Json := .obj [(kStatement, stmtWith (.str sPermit) [])]
def docUnknownVersion : Json := .obj [(kVersion, .str s2020), (kStatement, stmtWith (.str nAllow) [])]
def docNumberAction : Json :=
  .obj [(kStatement, .obj [(kEffect, .str nAllow), (kAction, .num [53]), (kResource, .str sArn)])]
def docObjectEffect : Json := .obj [(kStatement, stmtWith (.obj [(nAllow, .bool true)]) [])]
def docNoAction : Json := .obj [(kStatement, .obj [(kEffect, .str nAllow), (kResource, .str sArn)])]
def docTwoSids : Json := .obj [(kStatement, stmtWith (.str nAllow) [(kSid, .str sTrue), (kSid, .str sTrue)])]

/-! documents outside the grammar that were accepted before the repair of `Statement`'s reader (two
    action blocks; a malformed principal value) and are refused now -/
def docBothActions : Json := .obj [(kStatement, stmtWith (.str nAllow) [(kNotAction, .str sGetObject)])]
def docNumberPrincipal : Json := .obj [(kStatement, stmtWith (.str nAllow) [(kPrincipal, .num [53])])]
/-! `NotAction` first, then `Action`; `Resource` twice; `Principal` next to `NotPrincipal`; a principal
    that is a string other than `"*"`; `"Principal": null` -/
def docNotActionThenAction : Json :=
  .obj [(kStatement, .obj [(kEffect, .str nAllow), (kNotAction, .str sGetObject), (kAction, .str nStar),
                           (kResource, .str sArn)])]
def docResourceTwice : Json := .obj [(kStatement, stmtWith (.str nAllow) [(kResource, .str sArn)])]
def docBothPrincipals : Json :=
  .obj [(kStatement, stmtWith (.str nAllow) [(kPrincipal, .str nStar), (kNotPrincipal, .obj [(sAWS, .str sRoot)])])]
def docStringPrincipal : Json := .obj [(kStatement, stmtWith (.str nAllow) [(kPrincipal, .str sRoot)])]
def docNullPrincipal : Json := .obj [(kStatement, stmtWith (.str nAllow) [(kNotPrincipal, .null)])]

/-! `Effect` / `Version` written `{"<name>": null}`: accepted before the repair of their readers
    (`docEffectObjectForm` read like `doc2` without its version), refused now; `Deny` in the second
    statement of a list; both at once -/
def docEffectObjectForm : Json := .obj [(kStatement, stmtWith (.obj [(nAllow, .null)]) [])]
def docVersionObjectForm : Json := .obj [(kVersion, .obj [(n2012, .null)]), (kStatement, stmtWith (.str nAllow) [])]
def docEffectObjectFormInList : Json :=
  .obj [(kStatement, .arr [stmtWith (.str nAllow) [], stmtWith (.obj [(nDeny, .null)]) []])]
def docBothObjectForms : Json :=
  .obj [(kVersion, .obj [(n2008, .null)]), (kStatement, stmtWith (.obj [(nAllow, .null)]) [])]

/-! the policy written as an array `[version, id, statement]`: accepted before the repair of `Policy`'s
    reader (read like `doc2`), refused now; with a statement list, and with fewer / more elements -/
def docArrayForm : Json := .arr [.str n2012, .null, stmtWith (.str nAllow) []]
def docArrayFormList : Json := .arr [.null, .str sTrue, .arr [stmtWith (.str nAllow) []]]
def docArrayFormShort : Json := .arr [.str n2012, .null]
def docArrayFormLong : Json := .arr [.str n2012, .null, stmtWith (.str nAllow) [], .null]

/-- the value `doc2` denotes, with or without its version (what the object-form and array-form documents above were read as
    before the repairs) -/
def policy2 (v : Option Version) : Policy :=
  { version := v, id := none,
    statement := .one { sid := none, principal := none, effect := .allow, action := .action (.one sListBucket),
                        resource := .resource (.one sArn), condition := none } }

end S3V.Policy.Ex
