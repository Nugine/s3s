import S3V.Thm.PolicyGrammar
/-!
# Lemmas: the values the reader produces, and the JSON the encoder writes

* every value the reader produces satisfies the `IndexMap` invariant and never contains `One("*")`,
  so it is in the domain of the round-trip theorem (`fromJson?_wf`);
* the encoder meets the value-side "one versus many" shape specification: per statement (`stmtShape_statementJson`),
  for the whole document (`valueShape_toJson`).
-/
namespace S3V.Policy
open S3V S3V.PolicySpec

theorem imInsert_keys {β : Type} (m : IMap β) (k : Bytes) (v : β) :
    (imInsert m k v).map (·.1) = if k ∈ m.map (·.1) then m.map (·.1) else m.map (·.1) ++ [k] := by
  induction m with
  | nil => simp [imInsert]
  | cons e m ih =>
    obtain ⟨k', v'⟩ := e
    by_cases h : k' = k
    · simp [imInsert, h]
    · have h' : ¬ k = k' := fun hh => h hh.symm
      simp only [imInsert, h, if_false, List.map_cons, ih, List.mem_cons, h', false_or]
      split <;> simp

theorem imInsert_unique {β : Type} (m : IMap β) (k : Bytes) (v : β) (h : keysUnique m) :
    keysUnique (imInsert m k v) := by
  unfold keysUnique at h ⊢
  rw [imInsert_keys]
  split
  · exact h
  · rename_i hk
    rw [List.nodup_append]
    exact ⟨h, by simp, by intro a ha b hb; simp at hb; subst hb; intro hab; subst hab; exact hk ha⟩

theorem imInsert_mem {β : Type} (m : IMap β) (k : Bytes) (v : β) (e : Bytes × β)
    (h : e ∈ imInsert m k v) : e ∈ m ∨ e.2 = v := by
  induction m with
  | nil => simp [imInsert] at h; right; rw [h]
  | cons e' m ih =>
    simp only [imInsert] at h
    split at h
    · rcases List.mem_cons.mp h with rfl | h
      · exact .inr rfl
      · exact .inl (List.mem_cons_of_mem _ h)
    · rcases List.mem_cons.mp h with rfl | h
      · exact .inl List.mem_cons_self
      · exact (ih h).imp (List.mem_cons_of_mem _) id

/-- what the insert loop builds has pairwise different names, and every value in it was read by `f`: the
    invariant holds of the empty map and every `insert` keeps it -/
theorem imOfMembers_inv {β : Type} (f : Json → Option β) (P : β → Prop) (hP : ∀ v b, f v = some b → P b)
    (ms : List (Bytes × Json)) (m : IMap β) (h : imOfMembers f ms = some m) :
    keysUnique m ∧ ∀ e ∈ m, P e.2 := by
  have hu : keysUnique ([] : IMap β) := by simp [keysUnique]
  have hp : ∀ e ∈ ([] : IMap β), P e.2 := by simp
  unfold imOfMembers at h
  generalize ([] : IMap β) = acc at h hu hp
  induction ms generalizing acc with
  | nil => simp at h; subst h; exact ⟨hu, hp⟩
  | cons kv ms ih =>
    rw [List.foldlM_cons] at h
    cases hf : f kv.2 with
    | none => simp [hf] at h
    | some b =>
      simp only [hf, Option.map_some, Option.bind_eq_bind, Option.bind_some] at h
      refine ih _ h (imInsert_unique _ _ _ hu) fun e he => ?_
      rcases imInsert_mem _ _ _ _ he with h1 | h1
      · exact hp e h1
      · rw [h1]; exact hP _ _ hf

theorem principalOfJson_wf (v : Json) (p : Principal) (h : principalOfJson v = some p) : p.wf := by
  cases v with
  | str s => by_cases hs : s = nStar <;> simp [principalOfJson, hs] at h; subst h; trivial
  | obj kvs =>
    simp only [principalOfJson, Option.map_eq_some_iff] at h
    obtain ⟨m, hm, rfl⟩ := h
    exact (imOfMembers_inv oomOfJson (fun _ => True) (fun _ _ _ => trivial) kvs m hm).1
  | _ => simp [principalOfJson] at h

theorem principalMemberOf_wf (kv : Bytes × Json) (r : PrincipalRule) (h : principalMemberOf kv = some r) : r.wf := by
  simp only [principalMemberOf, Option.map_eq_some_iff] at h
  obtain ⟨p, hp, rfl⟩ := h
  have := principalOfJson_wf kv.2 p hp
  split <;> exact this

theorem condKeyValuesOfJson_wf (v : Json) (c : CondKeyValues) (h : condKeyValuesOfJson v = some c) :
    keysUnique c := by
  cases v with
  | obj kvs => exact (imOfMembers_inv oomOfJson (fun _ => True) (fun _ _ _ => trivial) kvs c h).1
  | _ => simp [condKeyValuesOfJson] at h

theorem optCondition_wf (v : Json) (c : Option ConditionRule) (h : optCondition v = some c) :
    ∀ c', c = some c' → conditionWf c' := by
  intro c' hc; subst hc
  cases v with
  | null => simp [optCondition] at h
  | obj ops =>
    simp only [optCondition, conditionOfJson, Option.map_eq_some_iff] at h
    obtain ⟨m, hm, hmc⟩ := h
    cases hmc
    exact imOfMembers_inv condKeyValuesOfJson keysUnique condKeyValuesOfJson_wf ops _ hm
  | _ => simp [optCondition, conditionOfJson] at h

theorem slot_some_of {α β : Type} (f : β → Option α) (P : α → Prop) (hP : ∀ v x, f v = some x → P x)
    (vs : List β) (r : Option α) (h : slot f none vs = some r) : ∀ x, r = some x → P x := by
  rintro x rfl
  rcases (slot_none_some_iff f vs _).mp h with ⟨_, hh⟩ | ⟨v, y, _, hy, hh⟩
  · cases hh
  · cases hh
    exact hP v x hy

theorem statementOfMembers_wf (ms : List (Bytes × Json)) (s : Statement) (h : statementOfMembers ms = some s) :
    s.mapsWf ∧ s.hasOneStar = false := by
  obtain ⟨sid, co, _, hpr, _, hac, hre, hco, _, hc⟩ := (statementOfMembers_eq_some_iff ms s).mp h
  refine ⟨⟨slot_some_of _ _ principalMemberOf_wf _ _ hpr, ?_⟩, ?_⟩
  · rw [hc]
    rcases (slot_none_some_iff optCondition _ _).mp hco with ⟨_, rfl⟩ | ⟨v, x, _, hx, rfl⟩
    · exact fun _ hh => nomatch hh
    · exact optCondition_wf v x hx
  · obtain ⟨ka, hLa, hka⟩ := singleton_of_slot_filled _ _ _ hac
    obtain ⟨kr, hLr, hkr⟩ := singleton_of_slot_filled _ _ _ hre
    rw [hasOneStar_eq, (actionMemberOf_eq_some ka _ hka (mem_membersOf2 _ _ ms ka (by simp [hLa]))).2,
      (resourceMemberOf_eq_some kr _ hkr (mem_membersOf2 _ _ ms kr (by simp [hLr]))).2]
    rfl

theorem statementOfJson_wf (x : Json) (s : Statement) (h : statementOfJson x = some s) :
    s.mapsWf ∧ s.hasOneStar = false := by
  cases x with
  | obj ms => exact statementOfMembers_wf ms s h
  | _ => simp [statementOfJson] at h

/-- every value the reader produces is in the domain of the round-trip theorem -/
theorem fromJson?_wf (j : Json) (p : Policy) (h : fromJson? j = some p) : p.mapsWf ∧ p.hasOneStar = false := by
  cases j with
  | obj ms =>
    obtain ⟨_, _, _, _, hs, _, _⟩ := (policyOfMembers_eq_some_iff ms p).mp h
    obtain ⟨w, _, hx⟩ := singleton_of_slot_filled _ _ _ hs
    -- every statement read comes from a JSON value standing where a statement belongs
    have : ∀ s ∈ p.statement.toList, s.mapsWf ∧ s.hasOneStar = false := fun s hs =>
      (statementsOfJson_items w _ hx s hs).elim fun x hx' => statementOfJson_wf x s hx'
    refine ⟨fun s hs => (this s hs).1, ?_⟩
    simp only [Policy.hasOneStar, List.any_eq_false]
    exact fun s hs => by simp [(this s hs).2]
  | _ => simp [fromJson?] at h

theorem oomShape_oomJson (o : OneOrMore Bytes) : oomShape o (oomJson o) = true := by
  cases o <;> simp [oomShape, oomJson]

theorem woomShape_woomJson (w : WildcardOneOrMore Bytes) : woomShape w (woomJson w) = true := by
  cases w <;> simp [woomShape, woomJson]

theorem zip_map_all {α β : Type} (f : α → β) (P : α × β → Bool) (l : List α) (h : ∀ a ∈ l, P (a, f a) = true) :
    (l.zip (l.map f)).all P = true := by
  induction l with
  | nil => rfl
  | cons a l ih =>
    simp only [List.map_cons, List.zip_cons_cons, List.all_cons, Bool.and_eq_true]
    exact ⟨h a (by simp), ih fun b hb => h b (List.mem_cons_of_mem _ hb)⟩

theorem kvsShape_kvsJson (m : IMap (OneOrMore Bytes)) : kvsShape m (kvsJson m) = true := by
  simp only [kvsShape, kvsJson, List.length_map, beq_self_eq_true, Bool.true_and]
  exact zip_map_all _ _ m fun e _ => oomShape_oomJson e.2

theorem condShape_written (co : Option ConditionRule) : condShape co (optConditionJson co) = true := by
  cases co with
  | none => rfl
  | some c =>
    simp only [condShape, optConditionJson, conditionJson, List.length_map, beq_self_eq_true, Bool.true_and]
    exact zip_map_all _ _ c fun e _ => kvsShape_kvsJson e.2

theorem valuesOf_membersOf2 (a b k : Bytes) (hk : k = a ∨ k = b) (ms : List (Bytes × Json)) :
    valuesOf k (membersOf2 a b ms) = valuesOf k ms := by
  unfold valuesOf membersOf2
  rw [List.filter_filter]
  congr 2
  funext kv
  rcases hk with rfl | rfl <;> by_cases h : kv.1 = k <;> simp [h]

/-- Each block written holds one member; under the name the variant selects stands the written value,
    under the other name nothing. -/
theorem stmtShape_statementJson (s : Statement) : stmtShape s (statementJson s) = true := by
  obtain ⟨_, hP, _, hA, hR, hC⟩ := statementMembers_blocks s
  have vP := fun k hk => valuesOf_membersOf2 kPrincipal kNotPrincipal k hk (statementMembers s)
  have vA := fun k hk => valuesOf_membersOf2 kAction kNotAction k hk (statementMembers s)
  have vR := fun k hk => valuesOf_membersOf2 kResource kNotResource k hk (statementMembers s)
  rw [hP] at vP
  rw [hA] at vA
  rw [hR] at vR
  simp only [statementJson_eq, stmtShape, pick, Bool.and_eq_true]
  refine ⟨⟨⟨?_, ?_⟩, ?_⟩, ?_⟩
  · rw [← vA kAction (.inl rfl), ← vA kNotAction (.inr rfl)]
    cases s.action <;> simp (config := { decide := true }) [actionMember, valuesOf, woomShape_woomJson]
  · rw [← vR kResource (.inl rfl), ← vR kNotResource (.inr rfl)]
    cases s.resource <;> simp (config := { decide := true }) [resourceMember, valuesOf, woomShape_woomJson]
  · rw [← vP kPrincipal (.inl rfl), ← vP kNotPrincipal (.inr rfl)]
    rcases s.principal with _ | ⟨_ | m⟩ | ⟨_ | m⟩ <;>
      simp (config := { decide := true }) [principalMembers, principalJson, valuesOf, kvsShape_kvsJson]
  · rw [hC]
    exact condShape_written _

/-- `toJson` writes `Statement` once, after `Version` and `Id`: `pick kStatement` finds what was written for the statements -/
theorem valueShape_toJson (p : Policy) : valueShape p (toJson p) = true := by
  obtain ⟨v, i, st⟩ := p
  have hp : pick kStatement [(kVersion, optVersionJson v), (kId, optStrJson i), (kStatement, statementsJson st)] =
      statementsJson st := by
    simp (config := { decide := true }) [pick, valuesOf]
  simp only [valueShape, toJson, hp]
  cases st with
  | one s => exact stmtShape_statementJson s
  | more ss =>
    simp only [statementsJson, List.length_map, beq_self_eq_true, Bool.true_and]
    exact zip_map_all statementJson (fun sj => stmtShape sj.1 sj.2) ss fun s _ => stmtShape_statementJson s

end S3V.Policy
