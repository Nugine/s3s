import S3V.Model.KeepAlive
import S3V.Spec.KeepAlive
import S3V.Thm.ListLemmas
import S3V.Thm.BytesText
/-!
# Lemmas about the keep-alive state machine (C03, hand-written half)

`run` of a `KeepAliveBody` in two forms: phase by phase (`KA.waiting`, `KA.draining r`) for a schedule given as the polls of each
phase, which also gives the final state (`run_new`, `run_ready`, `run_draining_to_end`), and as a closed form of the
outputs on any list of poll inputs (`transcript`, `run_waiting_all`; the statement for `KA.new initial` is
`C03_keepalive_all_schedules`). Then the bytes and trailers of a transcript, and the
executable white-space judge of the correspondence check against its declarative clause (`wsThenDocB_iff`).
The header-map helpers of the same model file are in `Thm/HeaderMap`.
-/
namespace S3V.KeepAlive
open S3V.KeepAliveSpec

/-- initial frame already sent, future not yet completed -/
def KA.waiting : KA := ⟨none, none, false⟩

/-- the future completed with `Ok r`; the response's body is being forwarded -/
def KA.draining (r : Resp) : KA := ⟨none, some r, false⟩

/-- what a poll returns while the future is pending: a space when the tick fired, else `Pending` -/
def waitOut (i : PollInput) : PollOutput := if i.tick then .data space else .pending

/-- a non-final poll of the response body is handed through unchanged -/
def passOut : BodyPoll → PollOutput
  | .pending => .pending
  | .data d => .data d
  | .trailers t => .trailers t
  | .err => .error
  | .eos => .eos

def bodyData : List BodyPoll → Bytes
  | [] => []
  | .data d :: rest => d ++ bodyData rest
  | _ :: rest => bodyData rest

def bodyTrailers : List BodyPoll → List Hdrs
  | [] => []
  | .trailers t :: rest => t :: bodyTrailers rest
  | _ :: rest => bodyTrailers rest

def spaces (k : Nat) : Bytes := List.replicate k 32

theorem run_nil (s : KA) : run s [] = (s, []) := rfl

theorem run_cons (s : KA) (i : PollInput) (rest : List PollInput) :
    run s (i :: rest) = ((run (step s i).1 rest).1, (step s i).2 :: (run (step s i).1 rest).2) := rfl

theorem run_append (s : KA) (a b : List PollInput) :
    run s (a ++ b) = ((run (run s a).1 b).1, (run s a).2 ++ (run (run s a).1 b).2) := by
  induction a generalizing s with
  | nil => simp [run_nil]
  | cons i rest ih => simp [run_cons, ih]

theorem run_loop {s : KA} {f : PollInput → PollOutput} (l : List PollInput) (h : ∀ i ∈ l, step s i = (s, f i)) :
    run s l = (s, l.map f) := by
  induction l with
  | nil => rfl
  | cons i rest ih =>
    rw [run_cons, h i List.mem_cons_self, ih fun j hj => h j (List.mem_cons_of_mem _ hj)]
    rfl

theorem run_done {s : KA} (h : s.done = true) (ins : List PollInput) :
    run s ins = (s, ins.map fun _ => .eos) :=
  run_loop ins fun _ _ => by simp [step, h]

theorem step_waiting (i : PollInput) : step .waiting i =
    match i.inner with
    | .pending => (.waiting, waitOut i)
    | .readyErr => ({ KA.waiting with done := true }, .error)
    | .readyOk r => step (.draining r) i := by
  obtain ⟨inner, tick, body⟩ := i
  cases inner <;> cases tick <;> rfl

theorem step_draining (r : Resp) (i : PollInput) : step (.draining r) i = drain (.draining r) r i.body := rfl

theorem drain_not_eos (s : KA) (r : Resp) {b : BodyPoll} (hb : b ≠ .eos) :
    drain s r b = (s, passOut b) := by
  cases b <;> simp_all [drain, passOut]

theorem drain_eos (s : KA) (r : Resp) :
    drain s r .eos = ({ s with response := some { r with headers := [] }, done := true }, .trailers r.headers) := rfl

theorem run_waiting (pre : List PollInput) (hp : ∀ i ∈ pre, i.inner = .pending) :
    run .waiting pre = (.waiting, pre.map waitOut) :=
  run_loop pre fun i hi => by rw [step_waiting, hp i hi]

/-- the polls before the future is ready — the one that delivers the initial frame (there iff there is a frame), then
    those at which the future is pending — return the frame and a space per fired tick and leave a waiting body -/
theorem run_new (initial : Option Bytes) (first pre : List PollInput)
    (hfirst : first.length = initial.toList.length) (hpre : ∀ i ∈ pre, i.inner = .pending) :
    run (KA.new initial) (first ++ pre) = (.waiting, initial.toList.map .data ++ pre.map waitOut) := by
  cases initial with
  | none =>
    cases List.eq_nil_of_length_eq_zero hfirst
    exact run_waiting pre hpre
  | some b =>
    obtain ⟨i0, rfl⟩ := List.length_eq_one_iff.mp hfirst
    rw [List.singleton_append, run_cons, show step (KA.new (some b)) i0 = (.waiting, .data b) from rfl, run_waiting pre hpre]
    rfl

/-- the poll at which the future is `Ready(Ok r)` is answered as by the draining body -/
theorem run_ready {r : Resp} {i : PollInput} (hi : i.inner = .readyOk r) (rest : List PollInput) :
    run .waiting (i :: rest) = run (.draining r) (i :: rest) := by
  rw [run_cons, run_cons, step_waiting, hi]

theorem run_waiting_err {i : PollInput} (hi : i.inner = .readyErr) (post : List PollInput) :
    run .waiting (i :: post) = ({ KA.waiting with done := true }, .error :: post.map fun _ => .eos) := by
  rw [run_cons, step_waiting, hi, run_done (by rfl)]

theorem run_draining (r : Resp) (bs : List PollInput) (hb : ∀ i ∈ bs, i.body ≠ .eos) :
    run (.draining r) bs = (.draining r, bs.map fun i => passOut i.body) :=
  run_loop bs fun i hi => drain_not_eos _ r (hb i hi)

theorem run_draining_to_end (r : Resp) (dr : List PollInput) (fin : PollInput)
    (post : List PollInput) (hd : ∀ i ∈ dr, i.body ≠ .eos) (hf : fin.body = .eos) :
    run (.draining r) (dr ++ [fin] ++ post) =
      ({ KA.draining r with response := some { r with headers := [] }, done := true },
        (dr.map fun i => passOut i.body) ++ [.trailers r.headers] ++ post.map fun _ => .eos) := by
  rw [List.append_assoc, run_append, run_draining r dr hd, List.singleton_append, run_cons, step_draining, hf,
    drain_eos, run_done (by rfl)]
  simp

def innerPending (i : PollInput) : Bool :=
  match i.inner with
  | .pending => true
  | _ => false

def bodyNotEos (i : PollInput) : Bool :=
  match i.body with
  | .eos => false
  | _ => true

/-- from the poll at which the future is ready with `Ok r` on: body polls are handed through up to
    the body's end, which becomes `trailers r.headers`; every later poll returns `Ready(None)` -/
def transcriptDrain (r : Resp) (ins : List PollInput) : List PollOutput :=
  ((ins.takeWhile bodyNotEos).map fun i => passOut i.body) ++
    match ins.dropWhile bodyNotEos with
    | [] => []
    | _ :: post => .trailers r.headers :: post.map fun _ => .eos

/-- after the initial frame: a space per fired tick while the future is pending, then the branch the
    future's result selects -/
def transcriptWaiting (ins : List PollInput) : List PollOutput :=
  (ins.takeWhile innerPending).map waitOut ++
    match ins.dropWhile innerPending with
    | [] => []
    | i :: more =>
      match i.inner with
      | .readyOk r => transcriptDrain r (i :: more)
      | .readyErr => .error :: more.map fun _ => .eos
      | .pending => []

/-- what a `KeepAliveBody::new(_, _, initial)` returns, poll by poll, on any list of poll inputs -/
def transcript (initial : Option Bytes) (ins : List PollInput) : List PollOutput :=
  match initial, ins with
  | some _, [] => []
  | some b, _ :: rest => .data b :: transcriptWaiting rest
  | none, ins => transcriptWaiting ins

theorem innerPending_iff (i : PollInput) : innerPending i = true ↔ i.inner = .pending := by
  cases hi : i.inner <;> simp [innerPending, hi]

theorem bodyNotEos_iff (i : PollInput) : bodyNotEos i = true ↔ i.body ≠ .eos := by
  cases hb : i.body <;> simp [bodyNotEos, hb]

/-- the input is cut at the first poll that leaves the phase: `run_draining` up to it, one step at it -/
theorem run_draining_all (r : Resp) (ins : List PollInput) :
    (run (.draining r) ins).2 = transcriptDrain r ins := by
  have hcut := run_append (.draining r) (ins.takeWhile bodyNotEos) (ins.dropWhile bodyNotEos)
  rw [List.takeWhile_append_dropWhile, run_draining r _ fun i hi =>
    (bodyNotEos_iff i).mp (List.all_eq_true.mp List.all_takeWhile i hi)] at hcut
  rw [hcut, transcriptDrain]
  cases hd : ins.dropWhile bodyNotEos with
  | nil => rfl
  | cons fin post =>
    have hf : fin.body = .eos := Decidable.not_not.mp fun hne =>
      Bool.false_ne_true ((dropWhile_head_false hd).symm.trans ((bodyNotEos_iff fin).mpr hne))
    rw [run_cons, step_draining, hf, drain_eos, run_done (by rfl)]

theorem run_waiting_all (ins : List PollInput) : (run .waiting ins).2 = transcriptWaiting ins := by
  have hcut := run_append .waiting (ins.takeWhile innerPending) (ins.dropWhile innerPending)
  rw [List.takeWhile_append_dropWhile, run_waiting _ fun i hi =>
    (innerPending_iff i).mp (List.all_eq_true.mp List.all_takeWhile i hi)] at hcut
  rw [hcut, transcriptWaiting]
  cases hd : ins.dropWhile innerPending with
  | nil => rfl
  | cons i more =>
    have hi := dropWhile_head_false hd
    cases hin : i.inner with
    | pending => simp [innerPending, hin] at hi
    | readyOk r => simp only [run_ready hin, run_draining_all, hin]
    | readyErr => simp only [run_waiting_err hin, hin]

theorem dataOf_append (a b : List PollOutput) : dataOf (a ++ b) = dataOf a ++ dataOf b := by
  induction a with
  | nil => rfl
  | cons o rest ih => cases o <;> simp [dataOf, ih]

theorem trailersOf_append (a b : List PollOutput) : trailersOf (a ++ b) = trailersOf a ++ trailersOf b := by
  induction a with
  | nil => rfl
  | cons o rest ih => cases o <;> simp [trailersOf, ih]

theorem dataOf_wait (pre : List PollInput) :
    dataOf (pre.map waitOut) = spaces (pre.countP (·.tick)) := by
  induction pre with
  | nil => rfl
  | cons i rest ih =>
    by_cases ht : i.tick = true
    · simp [waitOut, ht, dataOf, ih, spaces, space, List.replicate_succ]
    · simp [waitOut, ht, dataOf, ih]

theorem trailersOf_wait (pre : List PollInput) : trailersOf (pre.map waitOut) = [] := by
  induction pre with
  | nil => rfl
  | cons i rest ih =>
    by_cases ht : i.tick = true <;> simp [waitOut, ht, trailersOf, ih]

theorem dataOf_waiting (initial : Option Bytes) (pre : List PollInput) (outs : List PollOutput) :
    dataOf (initial.toList.map .data ++ pre.map waitOut ++ outs) =
      initial.getD [] ++ spaces (pre.countP (·.tick)) ++ dataOf outs := by
  rw [dataOf_append, dataOf_append, dataOf_wait]
  cases initial <;> simp [dataOf]

theorem trailersOf_waiting (initial : Option Bytes) (pre : List PollInput) (outs : List PollOutput) :
    trailersOf (initial.toList.map .data ++ pre.map waitOut ++ outs) = trailersOf outs := by
  rw [trailersOf_append, trailersOf_append, trailersOf_wait]
  cases initial <;> rfl

theorem dataOf_pass (bs : List PollInput) :
    dataOf (bs.map fun i => passOut i.body) = bodyData (bs.map (·.body)) := by
  induction bs with
  | nil => rfl
  | cons i rest ih =>
    rw [List.map_cons, List.map_cons]
    cases i.body with
    | data d => exact congrArg (d ++ ·) ih
    | _ => exact ih

theorem trailersOf_pass (bs : List PollInput) :
    trailersOf (bs.map fun i => passOut i.body) = bodyTrailers (bs.map (·.body)) := by
  induction bs with
  | nil => rfl
  | cons i rest ih =>
    rw [List.map_cons, List.map_cons]
    cases i.body with
    | trailers t => exact congrArg (t :: ·) ih
    | _ => exact ih

theorem dataOf_eos (post : List PollInput) : dataOf (post.map fun _ => PollOutput.eos) = [] := by
  induction post with
  | nil => rfl
  | cons i rest ih => simp [dataOf, ih]

theorem trailersOf_eos (post : List PollInput) : trailersOf (post.map fun _ => PollOutput.eos) = [] := by
  induction post with
  | nil => rfl
  | cons i rest ih => simp [trailersOf, ih]

theorem spaces_all_ws (k : Nat) : ∀ c ∈ spaces k, isXmlWs c = true := by
  intro c hc
  simp [spaces] at hc
  rw [hc.2]; decide

theorem stripWs_ws_append {ws doc : Bytes} (hws : ∀ c ∈ ws, isXmlWs c = true)
    (hdoc : ∀ c, doc.head? = some c → isXmlWs c = false) : stripWs (ws ++ doc) = doc :=
  (span_eq hws hdoc).2

/-! ## the executable white-space judge is the declarative clause -/

theorem stripPrefix?_strips : StripsPrefix stripPrefix? := ⟨fun _ => rfl, fun _ _ => rfl, fun _ _ _ _ => rfl⟩

theorem wsThenDocB_append {ws : Bytes} (hws : ∀ c ∈ ws, isXmlWs c = true) (doc : Bytes) :
    wsThenDocB (ws ++ doc) doc = true := by
  induction ws with
  | nil => cases doc <;> simp [wsThenDocB]
  | cons c cs ih =>
    simp [wsThenDocB, hws c List.mem_cons_self, ih fun x hx => hws x (List.mem_cons_of_mem _ hx)]

theorem wsThenDocB_iff (rest doc : Bytes) :
    wsThenDocB rest doc = true ↔ ∃ ws : Bytes, (∀ c ∈ ws, isXmlWs c = true) ∧ rest = ws ++ doc := by
  refine ⟨fun h => ?_, fun ⟨ws, hws, e⟩ => e ▸ wsThenDocB_append hws doc⟩
  induction rest with
  | nil => exact ⟨[], nofun, (eq_of_beq (show (doc == []) = true from h)).symm⟩
  | cons c cs ih =>
    simp only [wsThenDocB, Bool.or_eq_true, beq_iff_eq, Bool.and_eq_true] at h
    rcases h with h | ⟨hc, h⟩
    · exact ⟨[], nofun, h⟩
    · obtain ⟨ws, hws, rfl⟩ := ih h
      exact ⟨c :: ws, List.forall_mem_cons.mpr ⟨hc, hws⟩, rfl⟩

theorem judgeBody_iff (pre emitted doc : Bytes) : judgeBody pre emitted doc = true ↔ WsThenDoc pre emitted doc := by
  unfold judgeBody WsThenDoc
  cases hs : stripPrefix? pre emitted with
  | none =>
    refine iff_of_false (by simp) fun ⟨ws, _, he⟩ => ?_
    rw [stripPrefix?_strips.iff.mpr (he.trans (List.append_assoc ..))] at hs
    cases hs
  | some rest =>
    rw [stripPrefix?_strips.iff.mp hs]
    simp only [wsThenDocB_iff, List.append_assoc, List.append_cancel_left_eq]

end S3V.KeepAlive
