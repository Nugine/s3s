import S3V.Model.Body
import S3V.Spec.Multipart
/-! # Lemmas: buffered and plain bodies against `MultipartSpec.specPlain` / `specBuffered` (C09 a, b) -/
namespace S3V.Body
open S3V S3V.MultipartSpec

/-- what framing independence rests on, for every reader of a body: one that is a function of the data before the first
    error and of whether there is one agrees on two framings that agree on those -/
theorem independent_of_refines {α : Type} {f : List (Option Bytes) → α} {g : Bytes → Bool → α}
    (h : ∀ fr, f fr = g (dataBeforeError fr) (hasError fr)) {fr₁ fr₂ : List (Option Bytes)}
    (hd : dataBeforeError fr₁ = dataBeforeError fr₂) (he : hasError fr₁ = hasError fr₂) : f fr₁ = f fr₂ := by
  rw [h, h, hd, he]

def Full.toSpec : Full → Buffered
  | .ok b => .ok b
  | .internalError => .internalError
  | .missingContentLength => .missingContentLength
  | .incompleteBody => .incompleteBody

theorem Full.toSpec_injective {a b : Full} (h : a.toSpec = b.toSpec) : a = b := by
  cases a <;> cases b <;> cases h
  all_goals rfl

theorem streamBody_spec (frames : List (Option Bytes)) :
    ((streamBody frames).1.flatten, (streamBody frames).2) = specPlain frames := by
  induction frames with
  | nil => rfl
  | cons f fs ih =>
    cases f with
    | none => rfl
    | some f =>
      simp only [specPlain, Prod.mk.injEq] at ih
      simp [streamBody, specPlain, dataBeforeError, hasError, ih.1, ih.2]

theorem storeAll_eq (frames : List (Option Bytes)) :
    storeAll frames = if hasError frames then none else some (dataBeforeError frames) := by
  induction frames with
  | nil => rfl
  | cons f fs ih =>
    cases f with
    | none => rfl
    | some f =>
      simp only [storeAll, ih, hasError, dataBeforeError]
      by_cases h : hasError fs = true <;> simp [h]

theorem extractFullBody_spec (declared : Option Nat) (frames : List (Option Bytes)) :
    (extractFullBody declared frames).toSpec
      = specBuffered declared (dataBeforeError frames) (hasError frames) := by
  -- leaf by leaf of `extract_full_body`, `store_all_unlimited` read through `storeAll_eq`
  unfold specBuffered
  fun_cases extractFullBody declared frames <;> simp_all [storeAll_eq, Full.toSpec]

end S3V.Body
