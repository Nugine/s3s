import S3V.Thm.SigV4Canon
/-!
# Lemmas: the verdict logic of `v4_check_header_auth` / `v4_check_presigned_url` / `v4_check_post_signature`

Each verifier accepts iff there is a provider, its checks (`HeaderChecks`, `PresignedChecks`, `PostChecks`) pass and the
signature it recomputes is the presented one (`*_accept_iff_provider`). On contexts inside
`wfHeaderAuth` / `wfPresignedCtx` the recomputed signature is the specification's (`headerSignature_eq_spec`,
`presignedSignature_eq_spec`), and the payload line that is signed is the declared one (`payloadLine_declared`).
-/
namespace S3V.SigV4
open S3V

/-- everything besides the signature comparison that `v4_check_header_auth` demands before it accepts -/
structure HeaderChecks (look : Bytes → Option Bytes) (c : Ctx) (a : Authorization) (secret : Bytes) (d : AmzDate)
    (payload : Payload) : Prop where
  parsed : (getUnique c.hs b!"authorization").bind parseAuthorization = some a
  algorithm : a.algorithm = b!"AWS4-HMAC-SHA256"
  service : a.credential.service = b!"s3" ∨ a.credential.service = b!"sts"
  mode : ∃ sha, extractContentSha c.hs = .ok sha ∧ (a.credential.service = b!"s3" → sha ≠ none) ∧
    headerPayload c sha = .ok payload ∧ (sha = some .multipleChunks → c.decodedContentLength ≠ none)
  key : look a.credential.accessKey = some secret
  /-- `x-amz-date` is a unique header whose value, edge blanks (SP / HTAB) removed, is a timestamp (d453cd3) -/
  date : ∃ dv, getUnique c.hs b!"x-amz-date" = some dv ∧ parseAmzDate (trimOws dv) = some d
  /-- the credential scope names the day of `x-amz-date` (4011296) -/
  scopeDate : a.credential.date = d.fmtDate
  /-- every listed header is in the request (10af2bf) -/
  present : signedHeaderMissing c a = false

theorem extractAmzDate_ok_some_iff (hs : List (Bytes × Bytes)) (d : AmzDate) :
    extractAmzDate hs = .ok (some d) ↔
      ∃ dv, getUnique hs b!"x-amz-date" = some dv ∧ parseAmzDate (trimOws dv) = some d := by
  unfold extractAmzDate
  cases hg : getUnique hs b!"x-amz-date" with
  | none => simp
  | some dv =>
    cases hp : parseAmzDate (trimOws dv) with
    | none => simp [hp]
    | some x =>
      simp only [Option.some.injEq, exists_eq_left', hp]
      constructor
      · intro h; injection h with h; injection h with h
      · intro h; rw [h]

/-- `auth = none` is "no authentication provider": the `∃ look` makes "nothing is accepted without one" part of the
    characterisation (likewise for the presigned and the POST verifier) -/
theorem header_accept_iff_provider (sha256hex : Bytes → Bytes) (hmac : Bytes → Bytes → Bytes)
    (auth : Option (Bytes → Option Bytes)) (c : Ctx) (ak region service : Bytes) :
    v4CheckHeaderAuth sha256hex hmac auth c = .accept ak region service ↔
      ∃ look, auth = some look ∧ ∃ a secret d payload, HeaderChecks look c a secret d payload ∧
        a.credential.accessKey = ak ∧ a.credential.region = region ∧ a.credential.service = service ∧
        headerSignature sha256hex hmac c a secret d payload = a.signature := by
  constructor
  · -- along the control flow of the verifier (Lean's case principle for the definition): every leaf but one answers
    -- `.err _`, which is no `.accept …`; the remaining leaf hands over the conditions on its path, named in the order of the
    -- tests in the definition (so in the two proofs below)
    fun_cases v4CheckHeaderAuth sha256hex hmac auth c
    all_goals try exact Verdict.noConfusion
    next a ha _ _ halg hsvc look sha hsha hs3 secret hkey d hd hscope hmiss payload hpl hsig hstream =>
      intro h
      injection h with h1 h2 h3
      exact ⟨look, rfl, a, secret, d, payload,
        ⟨ha, Decidable.of_not_not halg, by simpa [Decidable.or_iff_not_imp_left] using hsvc,
          ⟨sha, hsha, by simpa using hs3, hpl, by simpa using hstream⟩, hkey,
          (extractAmzDate_ok_some_iff c.hs d).mp hd, Decidable.of_not_not hscope, eq_false_of_ne_true hmiss⟩,
        h1, h2, h3, Decidable.of_not_not hsig⟩
  · rintro ⟨look, rfl, a, secret, d, payload,
      ⟨ha, halg, hsvc, ⟨sha, hsha, hs3, hpl, hstream⟩, hkey, hdate, hscope, hmiss⟩, rfl, rfl, rfl, hsig⟩
    have hd := (extractAmzDate_ok_some_iff c.hs d).mpr hdate
    have e1 : (!(a.credential.service = b!"s3" || a.credential.service = b!"sts")) = false := by
      simpa [Decidable.or_iff_not_imp_left] using hsvc
    have e2 : (decide (a.credential.service = b!"s3") && decide (sha = none)) = false := by
      simpa using hs3
    have e3 : (decide (sha = some ContentSha.multipleChunks) && decide (c.decodedContentLength = none)) = false := by
      simpa using hstream
    simp only [v4CheckHeaderAuth, ha, halg, e1, hsha, e2, hkey, hd, hscope, hmiss, hpl, hsig, e3, ne_eq, not_true_eq_false,
      Bool.false_eq_true, if_false]

/-! ## string to sign, signing key: model = specification -/

theorem hexLower_eq (b : Bytes) : hexLower b = SigV4Spec.hex b := rfl

theorem stringToSign_eq (sha256hex : Bytes → Bytes) (cr : Bytes) (d : AmzDate) (region service : Bytes) :
    createStringToSign sha256hex cr d region service =
      SigV4Spec.stringToSign sha256hex d.fmtIso8601 ⟨d.fmtDate, region, service⟩ cr := by
  have halg : (b!"AWS4-HMAC-SHA256\n" : Bytes) = SigV4Spec.algorithm ++ [10] := rfl
  have hreq : (b!"/aws4_request\n" : Bytes) = [47] ++ SigV4Spec.aws4Request ++ [10] := rfl
  unfold createStringToSign SigV4Spec.stringToSign SigV4Spec.scopeText
  rw [halg, hreq]
  simp only [List.append_assoc]

theorem calculateSignature_eq (hmac : Bytes → Bytes → Bytes) (sts secret : Bytes) (d : AmzDate)
    (region service : Bytes) :
    calculateSignature hmac sts secret d region service =
      SigV4Spec.sign hmac secret ⟨d.fmtDate, region, service⟩ sts := rfl

/-- the request `v4_check_header_auth` canonicalises, given the header lines `raw` the sorted list came from;
    on HTTP/2 without a `host` line the authority of the request URI stands in (`effectiveRaw`) -/
def Ctx.req (c : Ctx) (raw : List (Bytes × Bytes)) (signed : List Bytes) (payload : Payload) : Req :=
  { method := c.method, path := c.path, qs := c.qs, headers := effectiveRaw c.http2 c.authority raw, signed, payload }

theorem hs_of_orderedHeaders {hs raw : List (Bytes × Bytes)} (h : orderedHeaders raw = some hs) : hs = hsOf raw := by
  unfold orderedHeaders at h
  split at h
  · injection h with h; exact h.symm
  · cases h

/-- the selection of the code (with its `on_missing` closure) is the fallback-free selection from the effective lines -/
theorem select_eq {hs raw : List (Bytes × Bytes)} (h : orderedHeaders raw = some hs) (http2 : Bool)
    (authority : Option Bytes) (names : List Bytes) :
    findMultiple hs names (hostFallback http2 authority) =
      findMultiple (hsOf (effectiveRaw http2 authority raw)) names (fun _ => none) := by
  rw [hs_of_orderedHeaders h, findMultiple_fallback]

theorem wf_payload (r : Req) (p : Payload) : wf { r with payload := p } = wf r := rfl

/-- on well-formed requests the recomputed signature is the specification's signature
    (scope date = the date of `x-amz-date`, which is what the code uses) -/
theorem headerSignature_eq_spec (sha256hex : Bytes → Bytes) (hmac : Bytes → Bytes → Bytes) (c : Ctx)
    (raw : List (Bytes × Bytes)) (a : Authorization) (secret : Bytes) (d : AmzDate) (payload : Payload)
    (hraw : orderedHeaders raw = some c.hs) (hwf : wf (c.req raw a.signedHeaders payload) = true) :
    headerSignature sha256hex hmac c a secret d payload =
      SigV4Spec.signature sha256hex hmac secret d.fmtIso8601 ⟨d.fmtDate, a.credential.region, a.credential.service⟩
        ((c.req raw a.signedHeaders payload).toSpec sha256hex) := by
  have hcanon := canon_impl_eq_spec sha256hex (fun _ => none) _ hwf
  simp only [canonImpl, canonSpec] at hcanon
  simp only [headerSignature, headerSelection, SigV4Spec.signature, stringToSign_eq, calculateSignature_eq,
    select_eq hraw c.http2 c.authority]
  -- rewritten right to left, so that the model's text is never unfolded
  rw [← hcanon]
  rfl

/-- a name whose `get_all` on the code's selection is non-empty is carried by a header line of the request -/
theorem present_of_selection {c : Ctx} {raw : List (Bytes × Bytes)} (hraw : orderedHeaders raw = some c.hs)
    (names : List Bytes) {n : Bytes}
    (hne : getAllPairs (findMultiple c.hs names (hostFallback c.http2 c.authority)) n ≠ []) :
    valsOf (effectiveRaw c.http2 c.authority raw) n ≠ [] := by
  obtain ⟨p, hp, hpn⟩ := exists_mem_of_getAllPairs_ne_nil hne
  rw [select_eq hraw, findMultiple_eq _ _ _ fun _ _ _ => rfl, List.mem_flatMap] at hp
  obtain ⟨m, _, hpm⟩ := hp
  obtain ⟨v, hv, rfl⟩ := List.mem_map.mp hpm
  exact hpn ▸ List.ne_nil_of_mem hv

/-- the "every signed header is in the request" check of the code, in terms of the request's header lines -/
theorem present_of_not_missing {c : Ctx} {raw : List (Bytes × Bytes)} {a : Authorization}
    (hraw : orderedHeaders raw = some c.hs) (h : signedHeaderMissing c a = false) :
    ∀ n ∈ a.signedHeaders, valsOf (effectiveRaw c.http2 c.authority raw) n ≠ [] := by
  intro n hn
  unfold signedHeaderMissing headerSelection at h
  rw [List.any_eq_false] at h
  apply present_of_selection hraw (sortBytes a.signedHeaders)
  intro e
  apply h n ((sortBytes_perm _).mem_iff.mpr hn)
  rw [e]
  rfl

/-- WF of a header-authenticated context after the repairs: the listed names are distinct and do not include
    `authorization`, and duplicate query names carry ascending values (open class `sigv4-dup-query-unsorted`).
    Algorithm, scope date and presence of the listed headers are now checked by the code itself. -/
def wfHeaderAuth (c : Ctx) : Bool :=
  match (getUnique c.hs b!"authorization").bind parseAuthorization with
  | none => true
  | some a =>
    decide a.signedHeaders.Nodup && a.signedHeaders.all (fun n => n ≠ b!"authorization") &&
    dupOrdered (c.qs.map encPair)

/-- the code's own check that every listed header is in the request supplies the `headerOK` half of `wf` -/
theorem wf_of_present {c : Ctx} {raw : List (Bytes × Bytes)} {a : Authorization} (hraw : orderedHeaders raw = some c.hs)
    (hnd : a.signedHeaders.Nodup) (hna : ∀ n ∈ a.signedHeaders, n ≠ b!"authorization")
    (hq : dupOrdered (c.qs.map encPair) = true) (hmiss : signedHeaderMissing c a = false) (payload : Payload) :
    wf (c.req raw a.signedHeaders payload) = true := by
  simp only [wf, Bool.and_eq_true, List.all_eq_true, decide_eq_true_eq]
  exact ⟨⟨fun n hn => headerOK_iff.mpr ⟨hna n hn, present_of_not_missing hraw hmiss n hn⟩, hnd⟩, hq⟩

theorem wf_of_checks {look : Bytes → Option Bytes} {c : Ctx} {raw : List (Bytes × Bytes)} {a : Authorization}
    {secret : Bytes} {d : AmzDate} {payload : Payload} (hraw : orderedHeaders raw = some c.hs)
    (hwf : wfHeaderAuth c = true) (hc : HeaderChecks look c a secret d payload) :
    wf (c.req raw a.signedHeaders payload) = true := by
  unfold wfHeaderAuth at hwf
  rw [hc.parsed] at hwf
  simp only [Bool.and_eq_true, decide_eq_true_eq, List.all_eq_true] at hwf
  exact wf_of_present hraw hwf.1.1 hwf.1.2 hwf.2 hc.present payload

/-! ## the payload line: what the code signs is what the request declares, whatever the method -/

/-- the payload line the AWS documents prescribe for a header-authenticated request: the value of the (unique)
    `x-amz-content-sha256` header, edge blanks removed, which is one of the two keywords or the digest of the body
    (`SigV4Spec.verifyHeaderAuth` refuses a digest that is not the body's). No condition on the method. -/
def SpecPayloadLine (sha256hex : Bytes → Bytes) (c : Ctx) (pl : Bytes) : Prop :=
  ∃ v, getUnique c.hs b!"x-amz-content-sha256" = some v ∧ pl = trimOws v ∧
    (pl = b!"UNSIGNED-PAYLOAD" ∨ pl = b!"STREAMING-AWS4-HMAC-SHA256-PAYLOAD" ∨ pl = sha256hex c.body)

theorem extractFullBody_ok {c : Ctx} {bytes : Bytes} : extractFullBody c = .ok bytes → bytes = c.body := by
  fun_cases extractFullBody c
  -- every leaf answers `.ok c.body` or an error
  all_goals (intro h; cases h)
  all_goals rfl

/-- a declared digest makes `v4_check_header_auth` sign the body it reads, the empty body as the constant -/
theorem headerPayload_singleChunk {c : Ctx} {x : Bytes} {payload : Payload}
    (h : headerPayload c (some (.singleChunk x)) = .ok payload) :
    payload = if c.body = [] then .empty else .singleChunk c.body := by
  unfold headerPayload at h
  rw [if_neg (by simp), if_neg (by simp)] at h
  cases hb : extractFullBody c with
  | error e => rw [hb] at h; cases h
  | ok bytes =>
    rw [hb, extractFullBody_ok hb] at h
    injection h with h
    exact h.symm

/-- the payload line `v4_check_header_auth` puts into the canonical request is the declared one, for every method
    (before the repair of `sigv4-get-head-body`: false for GET / HEAD with a body and a digest).
    `hempty`: the constant `EMPTY_STRING_SHA256_HASH` is the digest of the empty string. -/
theorem payloadLine_declared (sha256hex : Bytes → Bytes) (hempty : sha256hex [] = emptySha256) (c : Ctx)
    (sha : Option ContentSha) (payload : Payload) (hsha : extractContentSha c.hs = .ok sha)
    (hpl : headerPayload c sha = .ok payload) (pl : Bytes) (hspec : SpecPayloadLine sha256hex c pl) :
    payloadLine sha256hex payload = pl := by
  obtain ⟨v, hv, hplv, hcases⟩ := hspec
  simp only [extractContentSha, hv, ← hplv] at hsha
  revert hsha
  -- the keywords are tested first: a digest that spells one of them is read as the keyword
  fun_cases parseContentSha pl
  next hu =>
    intro hsha
    cases hsha
    cases hpl
    exact hu.symm
  next _ hs =>
    intro hsha
    cases hsha
    cases hpl
    exact hs.symm
  next hu hs _ =>
    intro hsha
    cases hsha
    rw [headerPayload_singleChunk hpl, (hcases.resolve_left hu).resolve_left hs]
    by_cases he : c.body = []
    · rw [if_pos he, he, hempty]
      rfl
    · rw [if_neg he]
      rfl
  next => exact nofun

/-- the specification's view of the request `v4_check_header_auth` authenticates, with the DECLARED payload line -/
def Ctx.specRequest (c : Ctx) (raw : List (Bytes × Bytes)) (signed : List Bytes) (pl : Bytes) : SigV4Spec.Request :=
  { method := c.method, path := c.path, query := c.qs, headers := effectiveRaw c.http2 c.authority raw,
    signedHeaders := signed, payload := pl }

theorem Ctx.toSpec_req (sha256hex : Bytes → Bytes) (c : Ctx) (raw : List (Bytes × Bytes)) (signed : List Bytes)
    (payload : Payload) :
    (c.req raw signed payload).toSpec sha256hex = c.specRequest raw signed (payloadLine sha256hex payload) := rfl

/-- everything besides window and signature that `v4_check_presigned_url` demands -/
structure PresignedChecks (look : Bytes → Option Bytes) (c : Ctx) (p : Presigned) (secret : Bytes) (date : Int) :
    Prop where
  parsed : parsePresigned c.qs = some p
  algorithm : p.algorithm = b!"AWS4-HMAC-SHA256"
  /-- the credential scope names the day of `X-Amz-Date` (4011296) -/
  scopeDate : p.credential.date = p.amzDate.fmtDate
  sha : ∃ s, extractContentSha c.hs = .ok s
  time : p.amzDate.toTime = some date
  key : look p.credential.accessKey = some secret
  /-- every name of `X-Amz-SignedHeaders` is in the request (d4ba65c) -/
  present : presignedHeaderMissing c p = false

/-- the code's two comparisons are exactly the window `date − 900 s ≤ now ≤ date + expires`; 900 s is `max_skew_time` of
    `v4_check_presigned_url` (`Gen.Consts.maxSkewSeconds`, read from the source: `C06_skew_constant_from_source`) -/
theorem window_iff (nowNs date : Int) (expires : Nat) :
    (¬ ((nowNs - date * 1000000000 < 0 && -(nowNs - date * 1000000000) > 900 * 1000000000) = true) ∧
     ¬ (nowNs - date * 1000000000 > (expires : Int) * 1000000000)) ↔ SigV4Spec.inWindow nowNs date expires := by
  simp only [SigV4Spec.inWindow, Bool.and_eq_true, decide_eq_true_eq]
  omega

theorem presigned_accept_iff_provider (sha256hex : Bytes → Bytes) (hmac : Bytes → Bytes → Bytes)
    (auth : Option (Bytes → Option Bytes)) (nowNs : Int) (c : Ctx) (ak region service : Bytes) :
    v4CheckPresignedUrl sha256hex hmac auth nowNs c = .accept ak region service ↔
      ∃ look, auth = some look ∧ ∃ p secret date, PresignedChecks look c p secret date ∧
        p.credential.accessKey = ak ∧ p.credential.region = region ∧ p.credential.service = service ∧
        SigV4Spec.inWindow nowNs date p.expires ∧
        presignedSignature sha256hex hmac c p secret = p.signature := by
  constructor
  · fun_cases v4CheckPresignedUrl sha256hex hmac auth nowNs c
    all_goals try exact Verdict.noConfusion
    next p hp halg hscope s hs date hdate _ hskew hexp look secret hkey hmiss hsig =>
      intro h
      injection h with h1 h2 h3
      exact ⟨look, rfl, p, secret, date,
        ⟨hp, Decidable.of_not_not halg, Decidable.of_not_not hscope, ⟨s, hs⟩, hdate, hkey, eq_false_of_ne_true hmiss⟩,
        h1, h2, h3, (window_iff nowNs date p.expires).mp ⟨hskew, hexp⟩, Decidable.of_not_not hsig⟩
  · rintro ⟨look, rfl, p, secret, date, ⟨hp, halg, hscope, ⟨s, hs⟩, hdate, hkey, hmiss⟩, rfl, rfl, rfl, hwin, hsig⟩
    obtain ⟨hskew, hexp⟩ := (window_iff nowNs date p.expires).mpr hwin
    simp only [v4CheckPresignedUrl, hp, halg, hscope, hs, hdate, hskew, hexp, hkey, hmiss, hsig, ne_eq, not_true_eq_false,
      Bool.false_eq_true, if_false]

/-- a presigned URL read as a header-authenticated request: its `X-Amz-*` parameters stand for the `Authorization` header -/
def Presigned.auth (p : Presigned) : Authorization := ⟨p.algorithm, p.credential, p.signedHeaders, p.signature⟩

/-- the context without the signature parameter, the one parameter that is not signed -/
def Ctx.signedQs (c : Ctx) : Ctx := { c with qs := c.qs.filter fun q => q.1 ≠ b!"X-Amz-Signature" }

/-- `v4_check_presigned_url` signs what `v4_check_header_auth` would sign for the request without `X-Amz-Signature`, with the
    payload line `UNSIGNED-PAYLOAD` — provided the list of `X-Amz-SignedHeaders` is sorted, since only the header path sorts
    it. Everything about the canonical request of a presigned URL is taken from the header path through this equation. -/
theorem presignedSignature_eq_header (sha256hex : Bytes → Bytes) (hmac : Bytes → Bytes → Bytes) (c : Ctx) (p : Presigned)
    (secret : Bytes) (hsorted : sortBytes p.signedHeaders = p.signedHeaders) :
    presignedSignature sha256hex hmac c p secret =
      headerSignature sha256hex hmac c.signedQs p.auth secret p.amzDate .unsigned := by
  unfold presignedSignature headerSignature presignedSelection headerSelection Presigned.auth
  rw [hsorted]
  rfl

theorem presignedHeaderMissing_eq_header (c : Ctx) (p : Presigned) (hsorted : sortBytes p.signedHeaders = p.signedHeaders) :
    presignedHeaderMissing c p = signedHeaderMissing c.signedQs p.auth := by
  unfold presignedHeaderMissing signedHeaderMissing presignedSelection headerSelection Presigned.auth
  rw [hsorted]
  rfl

/-- WF of a presigned context after the repairs: the names of `X-Amz-SignedHeaders` are sorted (as the documents
    require; the code uses the list as given), distinct and do not include `authorization`; duplicate parameter names
    carry ascending values (open class `sigv4-dup-query-unsorted`). Presence of the listed headers is the code's own
    check since d4ba65c. -/
def wfPresignedCtx (c : Ctx) : Bool :=
  match parsePresigned c.qs with
  | none => true
  | some p =>
    decide p.signedHeaders.Nodup && p.signedHeaders.all (fun n => n ≠ b!"authorization") &&
    (sortBytes p.signedHeaders = p.signedHeaders) &&
    dupOrdered ((c.qs.filter fun q => q.1 ≠ b!"X-Amz-Signature").map encPair)

theorem wf_of_presignedChecks {look : Bytes → Option Bytes} {c : Ctx} {raw : List (Bytes × Bytes)} {p : Presigned}
    {secret : Bytes} {date : Int} (hraw : orderedHeaders raw = some c.hs) (hwf : wfPresignedCtx c = true)
    (hc : PresignedChecks look c p secret date) :
    sortBytes p.signedHeaders = p.signedHeaders ∧ wf (c.signedQs.req raw p.signedHeaders .unsigned) = true := by
  unfold wfPresignedCtx at hwf
  rw [hc.parsed] at hwf
  simp only [Bool.and_eq_true, decide_eq_true_eq, List.all_eq_true] at hwf
  obtain ⟨⟨⟨hnd, hna⟩, hsorted⟩, hq⟩ := hwf
  exact ⟨hsorted, wf_of_present (c := c.signedQs) (a := p.auth) hraw hnd hna hq
    (presignedHeaderMissing_eq_header c p hsorted ▸ hc.present) .unsigned⟩

/-- on contexts inside `wfPresignedCtx` the recomputed signature is the specification's, over the request without
    `X-Amz-Signature` -/
theorem presignedSignature_eq_spec (sha256hex : Bytes → Bytes) (hmac : Bytes → Bytes → Bytes) {look : Bytes → Option Bytes}
    {c : Ctx} {raw : List (Bytes × Bytes)} {p : Presigned} {secret : Bytes} {date : Int}
    (hraw : orderedHeaders raw = some c.hs) (hwf : wfPresignedCtx c = true) (hc : PresignedChecks look c p secret date) :
    presignedSignature sha256hex hmac c p secret =
      SigV4Spec.signature sha256hex hmac secret p.amzDate.fmtIso8601
        ⟨p.credential.date, p.credential.region, p.credential.service⟩
        (SigV4Spec.presignedRequest c.method c.path c.qs (effectiveRaw c.http2 c.authority raw) p.signedHeaders) := by
  obtain ⟨hsorted, hwf'⟩ := wf_of_presignedChecks hraw hwf hc
  rw [presignedSignature_eq_header sha256hex hmac c p secret hsorted, hc.scopeDate]
  exact headerSignature_eq_spec sha256hex hmac c.signedQs raw p.auth secret p.amzDate .unsigned hraw hwf'

/-- the five form fields `PostSignatureInfo::extract` reads and what they parse to -/
structure PostChecks (look : Bytes → Option Bytes) (fields : List (Bytes × Bytes)) (policy sig : Bytes)
    (c : Credential) (d : AmzDate) (secret : Bytes) : Prop where
  hasPolicy : findFieldValue fields b!"policy" = some policy
  isB64 : isBase64 policy = true
  hasAlgorithm : findFieldValue fields b!"x-amz-algorithm" = some b!"AWS4-HMAC-SHA256"
  hasCredential : ∃ cv, findFieldValue fields b!"x-amz-credential" = some cv ∧ parseCredential cv = some c
  hasDate : ∃ dv, findFieldValue fields b!"x-amz-date" = some dv ∧ parseAmzDate dv = some d
  hasSignature : findFieldValue fields b!"x-amz-signature" = some sig
  /-- the credential scope names the day of `x-amz-date` (4011296) -/
  scopeDate : c.date = d.fmtDate
  knownKey : look c.accessKey = some secret

theorem post_accept_iff_provider (hmac : Bytes → Bytes → Bytes) (auth : Option (Bytes → Option Bytes))
    (fields : List (Bytes × Bytes)) (ak region service : Bytes) :
    v4CheckPostSignature hmac auth fields = .accept ak region service ↔
      ∃ look, auth = some look ∧ ∃ policy sig c d secret, PostChecks look fields policy sig c d secret ∧
        c.accessKey = ak ∧ c.region = region ∧ c.service = service ∧
        sig = SigV4Spec.postSignature hmac secret ⟨d.fmtDate, region, service⟩ policy := by
  constructor
  · fun_cases v4CheckPostSignature hmac auth fields
    all_goals try exact Verdict.noConfusion
    next look policy alg cred date sig hsig hdate hcred halg hpol hb64 halg' c hc d hd hscope secret hkey hcmp =>
      intro h
      injection h with h1 h2 h3
      refine ⟨look, rfl, policy, sig, c, d, secret,
        ⟨hpol, by simpa using hb64, by rw [halg, Decidable.of_not_not halg'], ⟨cred, hcred, hc⟩, ⟨date, hdate, hd⟩, hsig,
          Decidable.of_not_not hscope, hkey⟩, h1, h2, h3, ?_⟩
      rw [← Decidable.of_not_not hcmp, h2, h3]
      rfl
  · rintro ⟨look, rfl, policy, sig, c, d, secret,
      ⟨hpol, hb64, halg, ⟨cred, hcred, hc⟩, ⟨date, hdate, hd⟩, hsig, hscope, hkey⟩, rfl, rfl, rfl, rfl⟩
    have hcmp : calculateSignature hmac policy secret d c.region c.service =
        SigV4Spec.postSignature hmac secret ⟨d.fmtDate, c.region, c.service⟩ policy := rfl
    simp only [v4CheckPostSignature, hpol, halg, hcred, hdate, hsig, hb64, hc, hd, hscope, hkey, hcmp, Bool.not_true,
      Bool.false_eq_true,
      ne_eq, not_true_eq_false, if_false]

end S3V.SigV4
