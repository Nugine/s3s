import S3V.Thm.FsStoreNames
import S3V.Thm.StoreListing
import S3V.Thm.BytesText
/-!
# C18: listings refine the store: the backend's loop over the sorted keys of a bucket directory answers what the store's
listing (`StoreListing`) answers on the bucket's objects
-/
namespace S3V.FsStore
open S3V.StoreSpec

/-- listings may be compared with the store: the name agrees; the prefix does not start with `/` [else fs:list-prefix-as-path:
    `list_objects_v2` drops leading slashes of the prefix — no key starts with one —, the existing integration test
    `test_list_objects_v2` demands it]. Nothing else: any delimiter (also the empty one), any marker, any `max-keys`. -/
def ListOk (b : Bytes) (pfx : Option Bytes) : Prop :=
  NameOk b ∧
  match pfx with
  | none => True
  | some p => p.head? ≠ some slash

instance (b : Bytes) (p : Option Bytes) : Decidable (ListOk b p) := by
  unfold ListOk; decide_pred

theorem trimSlashes_eq {p : Bytes} (h : p.head? ≠ some slash) : trimSlashes p = p := by
  cases p with
  | nil => rfl
  | cons c cs =>
    have : c ≠ slash := by simpa using h
    simp [trimSlashes, this]

theorem listKeys_eq (s : State) (b : Bytes) (t : Tree) (pfx after : Option Bytes) :
    listKeys t (pfx.getD []) after = specAfter (absTree s b t) pfx after := by
  have hunder : sortByKey ((t.files.filter fun e => (pfx.getD []).isPrefixOf (joinWith [slash] e.1)).map fun e =>
      (joinWith [slash] e.1, e.2.length)) = specUnder (absTree s b t) pfx := by
    unfold specUnder
    rw [absTree_eq_files, List.filter_map, List.map_map]
    rfl
  cases after with
  | none => exact hunder
  | some m =>
    simp only [listKeys, specAfter, ← hunder]
    exact dropWhile_le_eq_filter_lt m _ (sortByKey_sorted _)

/-- an entry of the backend's listing as the store's entry -/
def toEntry : Listed → Entry
  | .object k sz => .key k sz
  | .commonPrefix g => .cp g

/-- `str::find` is the store's `findSub` (for the non-empty patterns the code passes) -/
theorem strFind_eq_findSub {d : Bytes} (hd : d ≠ []) : ∀ s : Bytes, strFind d s = findSub d s := by
  intro s
  induction s with
  | nil => simp [strFind, findSub, hd]
  | cons c cs ih => simp only [strFind, findSub, ih]

theorem take_findSub {d : Bytes} {s : Bytes} {i : Nat} (h : findSub d s = some i) :
    s.take (i + d.length) = s.take i ++ d := by
  fun_induction findSub d s generalizing i
  next hd => cases h; simp [hd]
  next => cases h
  next c cs hp =>
    cases h
    have := List.prefix_iff_eq_take.mp (bytes_isPrefixOf_iff.mp hp)
    simpa using this.symm
  next c cs hp ih =>
    obtain ⟨j, hj, rfl⟩ := Option.map_eq_some_iff.mp h
    rw [show j + 1 + d.length = (j + d.length) + 1 by omega, List.take_succ_cons, List.take_succ_cons, ih hj]
    rfl

theorem entryOf_eq (p : Bytes) (delim : Option Bytes) (k : Bytes) (sz : Nat) (hp : p.isPrefixOf k = true) :
    entryOf p delim k sz =
      match (delim.filter fun d => d ≠ []).bind fun d => commonPrefix p d k with
      | none => .key k sz
      | some g => .cp g := by
  cases delim with
  | none => rfl
  | some d =>
    by_cases hd : d = []
    · subst hd; rfl
    · have hf : (Option.some d).filter (fun d => decide (d ≠ [])) = some d := by simp [Option.filter, hd]
      simp only [hf, Option.bind_some, entryOf, hd, if_false, commonPrefix, hp, if_true]
      rw [strFind_eq_findSub hd]
      cases hfs : findSub d (k.drop p.length) with
      | none => rfl
      | some i => simp only [take_findSub hfs, List.append_assoc]

/-- the loop, against the store's "map every key to its entry, then count consecutive equal common prefixes once": with the
    common prefix pushed last put in front of both -/
theorem rollUp_eq (p : Bytes) (d : Option Bytes) (ent : Bytes × Nat → Entry) :
    ∀ L : List (Bytes × Nat),
      (∀ e ∈ L, ent e = match d.bind fun d => commonPrefix p d e.1 with
        | none => .key e.1 e.2
        | some g => .cp g) →
      (rollUp p d none L).map toEntry = dedupCps (L.map ent) ∧
        ∀ g, .cp g :: (rollUp p d (some g) L).map toEntry = dedupCps (.cp g :: L.map ent)
  | [], _ => ⟨rfl, fun _ => rfl⟩
  | (k, sz) :: rest, h => by
    obtain ⟨hx, hrest⟩ := List.forall_mem_cons.mp h
    obtain ⟨ih0, ih1⟩ := rollUp_eq p d ent rest hrest
    simp only [List.map_cons, rollUp]
    cases hc : d.bind fun d => commonPrefix p d k with
    | none =>
      rw [hc] at hx
      simp only [hx, List.map_cons, toEntry, dedupCps_key, dedupCps_cp, reduceCtorEq, if_false, ih0, true_and, implies_true]
    | some c =>
      rw [hc] at hx
      simp only [hx, dedupCps_cp, Entry.cp.injEq, Option.some.injEq]
      refine ⟨by simp only [reduceCtorEq, if_false, List.map_cons, toEntry, ih1], fun g => ?_⟩
      by_cases hg : g = c
      · simp only [hg, if_true, ih1]
      · simp only [hg, Ne.symm hg, if_false, List.map_cons, toEntry, ih1]

theorem listed_map (E : List Listed) (lim : Nat) :
    Resp.listed ((E.take lim).filterMap Listed.object?) (E.take lim).length (decide (E.length > lim))
        ((E.take lim).filterMap Listed.commonPrefix?) = answerOf (E.map toEntry) lim := by
  have h1 : entryKey? ∘ toEntry = Listed.object? := by
    funext e; cases e <;> rfl
  have h2 : entryCp? ∘ toEntry = Listed.commonPrefix? := by
    funext e; cases e <;> rfl
  rw [answerOf, ← List.map_take, List.filterMap_map, List.filterMap_map, List.length_map, List.length_map, h1, h2]

/-- `list_objects_v2` on a bucket directory answers, for every prefix, delimiter, marker and `max-keys`, what the store answers
    on the bucket's objects for that prefix without its leading slashes (fs:list-prefix-as-path is this and no more) -/
theorem listAnswer_trim (s : State) (b : Bytes) (t : Tree) (pfx delim after : Option Bytes) (maxKeys : Option Int) :
    listAnswer t pfx delim after maxKeys =
      listing (absTree s b t) (some (trimSlashes (pfx.getD []))) delim after maxKeys := by
  have hlim : (maxKeys.getD 1000).toNat = listLimit maxKeys := by
    cases maxKeys <;> rfl
  have hroll := rollUp_eq (trimSlashes (pfx.getD [])) (delim.filter fun d => d ≠ [])
    (fun e => entryOf (trimSlashes (pfx.getD [])) delim e.1 e.2)
    (specAfter (absTree s b t) (some (trimSlashes (pfx.getD []))) after)
    (fun e he => entryOf_eq _ delim e.1 e.2 (specAfter_prefix _ (some (trimSlashes (pfx.getD []))) after e he))
  have hkeys := listKeys_eq s b t (some (trimSlashes (pfx.getD []))) after
  rw [Option.getD_some] at hkeys
  rw [← hkeys] at hroll
  rw [listing_eq, Option.getD_some, ← hkeys, ← hroll.1, ← listed_map, ← hlim]
  rfl

theorem listAnswer_eq (s : State) (b : Bytes) (t : Tree) (pfx delim after : Option Bytes) (maxKeys : Option Int)
    (hp : trimSlashes (pfx.getD []) = pfx.getD []) :
    listAnswer t pfx delim after maxKeys = listing (absTree s b t) pfx delim after maxKeys := by
  rw [listAnswer_trim s b, hp]
  cases pfx <;> rfl

theorem listV2_refines (H : Hashes) (dl : Nat) {s : State} (hi : Inv s) {b : Bytes}
    {pfx delim after : Option Bytes} {maxKeys : Option Int} (hg : ListOk b pfx) :
    Refines H dl s (.listObjectsV2 b pfx delim after maxKeys) := by
  rcases hg.1.cases with hb | hb
  case inr => simp [Refines, step, StoreSpec.step, hb, hi]
  rcases tree_cases s b with ht | ⟨t, ht⟩
  · simp [Refines, step, StoreSpec.step, hb, ht, hi]
  · have hp : trimSlashes (pfx.getD []) = pfx.getD [] := by
      cases pfx with
      | none => rfl
      | some p => exact trimSlashes_eq hg.2
    simp [Refines, step, StoreSpec.step, hb, ht, hi, listAnswer_eq s b t pfx delim after maxKeys hp]

/-- `list_objects` is `list_objects_v2` on both sides, the marker being `start-after` -/
theorem listV1_refines (H : Hashes) (dl : Nat) {s : State} (hi : Inv s) {b : Bytes}
    {pfx delim marker : Option Bytes} {maxKeys : Option Int} (hg : ListOk b pfx) :
    Refines H dl s (.listObjects b pfx delim marker maxKeys) :=
  listV2_refines H dl hi (after := marker) hg

end S3V.FsStore
