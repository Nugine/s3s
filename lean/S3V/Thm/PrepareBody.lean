import S3V.Model.PrepareBody
import S3V.Thm.Body
import S3V.Thm.Prepare
/-!
# Lemmas for `S3V/Props/C02Length.lean`: the two models of `extract_full_body` agree, and `take_bytes()` finds what it returned
-/
namespace S3V.PrepareBody
open S3V S3V.Gen S3V.Route S3V.Prepare S3V.MultipartSpec

theorem extractFullBody_obs (cl : Option Nat) (body : ReqBody) :
    Prepare.extractFullBody cl body.obs = (extractFull cl body).map fun _ => () := by
  cases body with
  | once b => rfl
  | stream fs =>
    -- the two models take the same leaf of `extract_full_body`
    simp only [ReqBody.obs, extractFull]
    fun_cases Body.extractFullBody cl fs <;> simp_all [Prepare.extractFullBody, Except.map]

theorem extractFull_stream (cl : Option Nat) (fs : List Body.Frame) :
    extractFull cl (.stream fs) =
      match specBuffered cl (dataBeforeError fs) (hasError fs) with
      | .ok b => .ok b
      | .internalError => .error .internalError
      | .missingContentLength => .error .missingContentLength
      | .incompleteBody => .error .incompleteBody := by
  rw [← Body.extractFullBody_spec cl fs, extractFull]
  cases Body.extractFullBody cl fs <;> rfl

/-- after a `prepare` that collected the body, `take_bytes()` finds what `extract_full_body` returned; its `expect`
    can only strike where `prepare` has already answered with an error -/
theorem takeBytes_true (cl : Option Nat) (body : ReqBody) :
    takeBytes true cl body = (extractFull cl body).toOption := by
  cases body with
  | once b => rfl
  | stream fs =>
    simp only [takeBytes, if_true]
    cases extractFull cl (.stream fs) <;> rfl

/-- past the `events` refusal and the access check, an operation that needs its body in memory is handed on exactly
    when `extract_full_body` returns the bytes -/
theorem afterResolve_obs {I E : Type} {ctx : Ctx I E} {cred : Option I} {path : Path.S3Path}
    {qs : Option (List (Bytes × Bytes))} {cl : Option Nat} {op : Op} (hev : eventsHack op qs = false)
    (hacc : accessCheck ctx cred path op = .ok ()) (body : ReqBody) :
    afterResolve ctx cred path qs cl body.obs op true =
      match extractFull cl body with
      | .ok _ => .s3 op true
      | .error c => .error (.code c) := by
  simp only [afterResolve, hev, hacc, extractFullBody_obs, Bool.false_eq_true, if_false, if_true]
  cases extractFull cl body <;> rfl

end S3V.PrepareBody
