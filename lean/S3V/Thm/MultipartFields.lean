import S3V.Model.Multipart
import S3V.Spec.Multipart
import S3V.Model.PostForm
import S3V.Thm.BytesOrder
import S3V.Thm.SortedPairs
/-!
# Lemmas: `find_field_value` on the lower-cased, stably sorted field list = the last field of that name (C10)

`bytesLe` is `≤` on `List UInt8` (`bytesLe_iff_le`), so its order laws are core's. The stable insertion sort keeps the
last field of every name (`lastField_sortFields`) and sorts (`sortFields_sorted`); on a sorted list the partition-point
search returns that last field (`findFieldValue_sorted`). At the end, what `upsert` of the metadata map
(`Model/PostForm.lean`) can add.
-/
namespace S3V.Multipart
open S3V S3V.MultipartSpec S3V.SortedPairs

theorem bytesLe_iff_le {a b : Bytes} : bytesLe a b = true ↔ a ≤ b :=
  lexLe_iff_le (fun _ => rfl) (fun _ _ => rfl) (fun _ _ _ _ => rfl)

theorem bytesLe_eq_false_iff {a b : Bytes} : bytesLe a b = false ↔ b < a := by
  rw [← Bool.not_eq_true, bytesLe_iff_le, List.not_le]

abbrev Fields := List (Bytes × Bytes)

theorem insertField_eq : ∀ (f : Bytes × Bytes) (l : Fields), insertField f l = insBy (fun g f => bytesLe g.1 f.1) f l :=
  insBy_of (fun _ => rfl) fun _ _ _ => rfl

theorem mem_insertField {f x : Bytes × Bytes} {l : Fields} : x ∈ insertField f l ↔ x = f ∨ x ∈ l := by
  rw [insertField_eq]; exact mem_insBy

theorem insertField_sorted (f : Bytes × Bytes) {l : Fields} (h : Sorted l) : Sorted (insertField f l) :=
  insertField_eq f l ▸ sorted_insBy_le bytesLe_iff_le h

theorem lastField_eq_none_iff {name : Bytes} {l : Fields} : lastField name l = none ↔ ∀ x ∈ l, x.1 ≠ name := by
  induction l with
  | nil => simp [lastField]
  | cons f l ih =>
    rw [lastField, List.forall_mem_cons, ← ih]
    cases lastField name l <;> simp

theorem lastField_none_of_sorted_gt {name : Bytes} {g : Bytes × Bytes} {gs : Fields}
    (h : Sorted (g :: gs)) (hg : bytesLe g.1 name = false) : lastField name (g :: gs) = none := by
  rw [lastField_eq_none_iff]
  intro x hx hn
  have hgx : g.1 ≤ x.1 := (List.mem_cons.mp hx).elim (· ▸ List.le_refl _) ((List.pairwise_cons.mp h).1 x)
  exact List.not_le.mpr (bytesLe_eq_false_iff.mp hg) (hn ▸ hgx)

/-- the field goes behind every field whose name is `≤` its own, so behind every field of its own name; where it stops, a
    greater name follows and no later field has the name (`lastField_none_of_sorted_gt`) -/
theorem lastField_insertField {name : Bytes} (f : Bytes × Bytes) {l : Fields} (h : Sorted l) :
    lastField name (insertField f l) = if f.1 = name then some f.2 else lastField name l := by
  induction l with
  | nil => rfl
  | cons g gs ih =>
    rw [insertField]
    by_cases hle : bytesLe g.1 f.1 = true
    · rw [if_pos hle, lastField, ih (List.pairwise_cons.mp h).2]
      by_cases hf : f.1 = name
      · rw [if_pos hf, if_pos hf]
      · rw [if_neg hf, if_neg hf]
        rfl
    · rw [if_neg hle, lastField]
      by_cases hf : f.1 = name
      · rw [if_pos hf, if_pos hf, lastField_none_of_sorted_gt h (hf ▸ Bool.eq_false_iff.mpr hle)]
      · rw [if_neg hf, if_neg hf]
        cases lastField name (g :: gs) <;> rfl

theorem sortFields_sorted (l : Fields) : Sorted (sortFields l) := by
  rw [sortFields, sortBy_of_foldl insertField_eq]
  exact sorted_sortBy_le bytesLe_iff_le _

/-- a fold whose steps set what is observed exactly when the field is named `name` observes the last field of that name,
    or what it started from: the stable sort of the fields and the metadata map of the POST form are such folds -/
theorem lastField_foldl {σ : Type} (name : Bytes) (obs : σ → Option Bytes) (step : σ → Bytes × Bytes → σ) (P : σ → Prop)
    (hP : ∀ a f, P a → P (step a f))
    (hstep : ∀ a f, P a → obs (step a f) = if f.1 = name then some f.2 else obs a) :
    ∀ (l : Fields) (a : σ), P a → obs (l.foldl step a) = (lastField name l).or (obs a) := by
  intro l
  induction l with
  | nil => exact fun _ _ => rfl
  | cons f l ih =>
    intro a ha
    rw [List.foldl_cons, ih _ (hP a f ha), hstep a f ha, lastField]
    cases lastField name l with
    | some v => rfl
    | none =>
      by_cases hf : f.1 = name
      · rw [if_pos hf, if_pos hf]
        rfl
      · rw [if_neg hf, if_neg hf]

theorem lastField_sortFields (name : Bytes) (l : Fields) : lastField name (sortFields l) = lastField name l := by
  rw [sortFields, lastField_foldl name (lastField name) (fun a f => insertField f a) Sorted
    (fun _ f h => insertField_sorted f h) (fun _ f h => lastField_insertField f h) l [] List.Pairwise.nil]
  exact Option.or_none

theorem findFieldValue_nil (name : Bytes) : findFieldValue [] name = none := rfl

/-- `find_field_value` looks at the last field of the run with names `≤ name` (`partition_point`) and compares its name -/
theorem findFieldValue_cons (g : Bytes × Bytes) (gs : Fields) (name : Bytes) :
    findFieldValue (g :: gs) name =
      if bytesLe g.1 name = true then
        (if (gs.takeWhile fun x => bytesLe x.1 name).length = 0 then (if g.1 = name then some g.2 else none)
         else findFieldValue gs name)
      else none := by
  unfold findFieldValue
  rw [List.takeWhile_cons]
  by_cases hg : bytesLe g.1 name = true
  · rw [if_pos hg, if_pos hg, List.length_cons]
    generalize (gs.takeWhile fun x => bytesLe x.1 name).length = k
    cases k with
    | zero => exact ite_not ..
    | succ k => rfl
  · rw [if_neg hg, if_neg hg]
    rfl

theorem findFieldValue_sorted (name : Bytes) {l : Fields} (h : Sorted l) : findFieldValue l name = lastField name l := by
  induction l with
  | nil => rfl
  | cons g gs ih =>
    have hp := List.pairwise_cons.mp h
    rw [findFieldValue_cons]
    by_cases hg : bytesLe g.1 name = true
    · rw [if_pos hg, lastField]
      cases gs with
      | nil => rfl
      | cons h0 hs =>
        rw [List.takeWhile_cons]
        by_cases hb : bytesLe h0.1 name = true
        · rw [if_pos hb, List.length_cons, if_neg (Nat.succ_ne_zero _), ih hp.2]
          cases hl : lastField name (h0 :: hs) with
          | some v => rfl
          | none =>
            -- `g` is not named `name`: else `name ≤ h0.1 ≤ name`, and `h0` would be a field of that name
            have hne : g.1 ≠ name := fun hn => lastField_eq_none_iff.mp hl h0 List.mem_cons_self
              (List.le_antisymm (bytesLe_iff_le.mp hb) (hn ▸ hp.1 h0 List.mem_cons_self))
            rw [if_neg hne]
        · rw [if_neg hb, List.length_nil, if_pos rfl, lastField_none_of_sorted_gt hp.2 (Bool.eq_false_iff.mpr hb)]
    · rw [if_neg hg, lastField_none_of_sorted_gt h (Bool.eq_false_iff.mpr hg)]

theorem findFieldValue_finishFields (raw : Fields) (name : Bytes) :
    findFieldValue (finishFields raw) name = lastField name (raw.map fun f => (asciiLower f.1, f.2)) := by
  unfold finishFields
  rw [findFieldValue_sorted name (sortFields_sorted _), lastField_sortFields]

end S3V.Multipart

namespace S3V.PostForm

theorem mem_upsert {e : Bytes × Bytes} {k v : Bytes} {m : List (Bytes × Bytes)} (h : e ∈ upsert m k v) :
    e = (k, v) ∨ e ∈ m := by
  induction m with
  | nil => exact Or.inl (List.mem_singleton.mp h)
  | cons x xs ih =>
    unfold upsert at h
    split at h
    · exact (List.mem_cons.mp h).imp_right (List.mem_cons_of_mem x)
    · rcases List.mem_cons.mp h with rfl | h
      · exact Or.inr List.mem_cons_self
      · exact (ih h).imp_right (List.mem_cons_of_mem x)

end S3V.PostForm
