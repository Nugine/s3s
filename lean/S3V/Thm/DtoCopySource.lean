import S3V.Model.DtoCopySource
import S3V.Spec.Dto
import S3V.Thm.Utf8Prefix
import S3V.Thm.DtoText
import S3V.Thm.BytesText
/-!
# `CopySource`: parsing undoes formatting, and reads every spelling of a key

`urlDecode` is percent-decoding on UTF-8 results; a spelling of a key (`DtoSpec.Spells`) decodes to the key and holds no `?`
(`spells_decode`), and `pctEncode` writes one (`spells_pctEncode`); `CopySource.parse_path` follows `CopySource::parse` on
`bucket/<text that decodes to the key>[?versionId=…]`, with `CopySource.parse_format` and `CopySource.parse_spelling` as its two uses.
-/
namespace S3V.Dto

/-- `Dto.pctDecode` is one of the models' copies of lenient percent-decoding -/
theorem pctDecode_lenient : LenientDecode fromHexDigit pctDecode :=
  ⟨by simp [pctDecode],
    fun t h => by
      match t with
      | [] => simp [pctDecode]
      | [a] => simp [pctDecode, pct, h]
      | a :: b :: r => simp [pctDecode, pct, h],
    fun t ha hb => by simp [pctDecode, pct, ha, hb]⟩

/-- `urlencoding::decode` is percent-decoding whenever the result is UTF-8 -/
theorem urlDecode_eq (s : Bytes) (h : utf8Valid (pctDecode s) = true) : urlDecode s = some (pctDecode s) := by
  unfold urlDecode
  split
  · rename_i hall
    rw [pctDecode_lenient.noPct fun hm => of_decide_eq_true (List.all_eq_true.mp hall _ hm) rfl]
  · simp [h]

theorem bucketChar_facts (c : UInt8) (h : isBucketChar c = true) :
    c ≠ qmark ∧ c ≠ slash ∧ c ≠ pct ∧ c.toNat < 128 := by
  refine ⟨?_, ?_, ?_, ?_⟩
  · rintro rfl; revert h; decide
  · rintro rfl; revert h; decide
  · rintro rfl; revert h; decide
  · simp only [isBucketChar, isLowerOrDigit, Bool.or_eq_true, Bool.and_eq_true, decide_eq_true_eq] at h; omega

/-- a copy source the property quantifies over: bucket accepted by `check_bucket_name`, key any UTF-8
    text of at most 1024 bytes, version id any UTF-8 text -/
structure Legal (c : CopySource) : Prop where
  bucket : checkBucketName c.bucket = true
  keyUtf8 : utf8Valid c.key = true
  keyLen : c.key.length ≤ 1024
  version : ∀ v, c.versionId = some v → utf8Valid v = true

theorem bucket_facts {b : Bytes} (h : checkBucketName b = true) :
    (∀ c ∈ b, isBucketChar c = true) ∧ ∃ c0 b', b = c0 :: b' := by
  simp only [checkBucketName, Bool.and_eq_true, decide_eq_true_eq, List.all_eq_true] at h
  obtain ⟨⟨⟨⟨⟨⟨hlen, hall⟩, -⟩, -⟩, -⟩, -⟩, -⟩ := h
  refine ⟨hall, ?_⟩
  cases b with
  | nil => simp at hlen
  | cons c0 b' => exact ⟨c0, b', rfl⟩

open S3V.DtoSpec

theorem hexv_eq (c : UInt8) : fromHexDigit c = hexv c := by
  unfold fromHexDigit hexv
  simp only [Bool.and_eq_true, decide_eq_true_eq]
  split
  · rfl
  · split
    · congr 1; omega
    · split
      · congr 1; omega
      · rfl

theorem hexv_ne_qmark {a : UInt8} {x : Nat} (h : hexv a = some x) : a ≠ qmark := by
  rintro rfl
  have : hexv qmark = none := by decide
  rw [this] at h; cases h

theorem hexv_toHexDigit : ∀ d : Fin 16, hexv (toHexDigit d.val) = some d.val := by decide

/-- `urlencoding::encode` writes a spelling: an unreserved byte stands for itself, any other as `%XY` -/
theorem spells_pctEncode : ∀ k : Bytes, Spells (pctEncode k) k
  | [] => .nil
  | c :: cs => by
    rw [pctEncode]
    split
    · rename_i hu
      exact .lit (by rintro rfl; revert hu; decide) (by rintro rfl; revert hu; decide) (spells_pctEncode cs)
    · have h := Spells.esc (hexv_toHexDigit ⟨c.toNat / 16, by have := c.toNat_lt; omega⟩)
        (hexv_toHexDigit ⟨c.toNat % 16, by omega⟩) (spells_pctEncode cs)
      rwa [Nat.div_add_mod', UInt8.ofNat_toNat] at h

theorem spells_decode {t k : Bytes} (h : Spells t k) : pctDecode t = k ∧ ∀ c ∈ t, c ≠ qmark := by
  induction h with
  | nil => exact ⟨by simp [pctDecode], by simp⟩
  | lit h1 h2 _ ih =>
    refine ⟨by rw [pctDecode_lenient.lit _ h1, ih.1], ?_⟩
    intro c hc
    rcases List.mem_cons.mp hc with rfl | hc
    · exact h2
    · exact ih.2 c hc
  | @esc a b x y t' k' ha hb _ ih =>
    refine ⟨?_, ?_⟩
    · rw [pctDecode_lenient.esc _ ((hexv_eq _).trans ha) ((hexv_eq _).trans hb), ih.1]
    · intro c hc
      simp only [List.mem_cons] at hc
      rcases hc with rfl | rfl | rfl | hc
      · decide
      · exact hexv_ne_qmark ha
      · exact hexv_ne_qmark hb
      · exact ih.2 c hc

theorem pctDecode_pctEncode (b : Bytes) : pctDecode (pctEncode b) = b := (spells_decode (spells_pctEncode b)).1

/-- the path part `bucket/t` decodes to `bucket/k` when `t` decodes to `k`: bucket bytes are ASCII and not `%` -/
theorem urlDecode_path {b t k : Bytes} (hall : ∀ c ∈ b, isBucketChar c = true) (hdec : pctDecode t = k)
    (hk : utf8Valid k = true) : urlDecode (b ++ slash :: t) = some (b ++ slash :: k) := by
  have hd : pctDecode (b ++ slash :: t) = b ++ slash :: k := by
    rw [pctDecode_lenient.append_noPct (fun hm => (bucketChar_facts _ (hall _ hm)).2.2.1 rfl),
      pctDecode_lenient.lit _ (by decide), hdec]
  have hu : utf8Valid (b ++ slash :: k) = true := by
    rw [utf8Valid_append_ascii (fun c hc => (bucketChar_facts c (hall c hc)).2.2.2),
      utf8Valid_cons_ascii (by decide), hk]
  rw [urlDecode_eq _ (by rw [hd]; exact hu), hd]

theorem CopySource.parse_path (b t k : Bytes) (ver : Option Bytes) (hb : checkBucketName b = true)
    (hdec : pctDecode t = k) (hnoq : ∀ x ∈ t, x ≠ qmark) (hk : utf8Valid k = true) (hlen : k.length ≤ 1024)
    (hver : ∀ v, ver = some v → utf8Valid v = true) :
    CopySource.parse (b ++ slash :: t ++ (match (generalizing := false) ver with
      | none => []
      | some v => versionIdQuery ++ pctEncode v)) =
      .ok ⟨b, k, ver⟩ := by
  obtain ⟨hall, c0, b', hbe⟩ := bucket_facts hb
  have hc0 : c0 ≠ slash := (bucketChar_facts c0 (hall c0 (by rw [hbe]; exact List.mem_cons_self ..))).2.1
  have hsl : splitOnce slash (b ++ slash :: k) = some (b, k) :=
    splitOnce_append slash b k (fun x hx => (bucketChar_facts x (hall x hx)).2.1)
  have hkey : checkKey k = true := by simp [checkKey, hlen]
  have hpath : ∀ x ∈ b ++ slash :: t, x ≠ qmark := by
    intro x hx
    simp only [List.mem_append, List.mem_cons] at hx
    rcases hx with hx | rfl | hx
    · exact (bucketChar_facts x (hall x hx)).1
    · decide
    · exact hnoq x hx
  have hud := urlDecode_path hall hdec hk
  cases ver
  case' none =>
    simp only [List.append_nil, CopySource.parse, splitOnce_none _ _ hpath, hud]
  case' some v =>
    have hsp : splitOnce qmark (b ++ slash :: t ++ (versionIdQuery ++ pctEncode v)) =
        some (b ++ slash :: t, versionIdName ++ eqSign :: pctEncode v) := by
      have : versionIdQuery ++ pctEncode v = qmark :: (versionIdName ++ eqSign :: pctEncode v) := by
        simp [versionIdQuery]
      rw [this]
      exact splitOnce_append qmark _ _ hpath
    have hsp2 : splitOnce eqSign (versionIdName ++ eqSign :: pctEncode v) = some (versionIdName, pctEncode v) :=
      splitOnce_append eqSign _ _ (by decide)
    have hdv : urlDecode (pctEncode v) = some v := by
      rw [urlDecode_eq _ (by rw [pctDecode_pctEncode]; exact hver v rfl), pctDecode_pctEncode]
    simp only [CopySource.parse, hsp, hsp2, Option.bind_some, if_true, hud, hdv]
  -- in both cases what is left is the decoded path `b ++ slash :: k`: no leading slash, split at its first slash
  all_goals
    subst hbe
    simp only [List.cons_append, hc0, if_false]
    rw [← List.cons_append, hsl]
    simp [hb, hkey]

theorem CopySource.parse_format (c : CopySource) (h : Legal c) : CopySource.parse c.format = .ok c := by
  have ⟨hdec, hnoq⟩ := spells_decode (spells_pctEncode c.key)
  have := CopySource.parse_path c.bucket (pctEncode c.key) c.key c.versionId h.bucket hdec hnoq h.keyUtf8 h.keyLen h.version
  obtain ⟨b, key, ver⟩ := c
  cases ver <;> simpa only [CopySource.format, List.append_assoc, List.singleton_append] using this

theorem CopySource.parse_spelling (b t k : Bytes) (hb : checkBucketName b = true) (hs : Spells t k)
    (hk : utf8Valid k = true) (hlen : k.length ≤ 1024) :
    CopySource.parse (b ++ slash :: t) = .ok ⟨b, k, none⟩ := by
  obtain ⟨hdec, hnoq⟩ := spells_decode hs
  have := CopySource.parse_path b t k none hb hdec hnoq hk hlen (fun v h => by cases h)
  simpa only [List.append_nil] using this

end S3V.Dto
