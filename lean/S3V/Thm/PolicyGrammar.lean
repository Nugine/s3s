import S3V.Thm.PolicySlots
import S3V.Thm.PolicySpec
/-!
# Lemmas: the policy reader against the IAM grammar

At each level of the reader two facts: it accepts exactly the grammar's values (`…_some_iff`), and writing the value
read gives the JSON back (`…Json_of_…`, `…_eq_some`); a slot of the loops is the grammar's "at most one" / "exactly
one" (`slot_some_iff`, `slot_filled_iff`). On top `fromJson?_some_iff` and `toJson_of_fromJson?`.
-/
namespace S3V.Policy
open S3V S3V.PolicySpec

theorem strList_some_iff (items : List Json) : (∃ ss, strList items = some ss) ↔ items.all isStr = true := by
  rw [strList, mapM_some_iff, List.all_eq_true]
  refine forall₂_congr fun x _ => ?_
  cases x <;> simp [strOf, isStr]

theorem map_str_of_strList (items : List Json) (ss : List Bytes) (h : strList items = some ss) :
    ss.map Json.str = items := by
  rw [map_of_mapM_eq_some Json.str id h, List.map_id]
  intro x _ s hs
  cases x <;> simp [strOf] at hs
  rw [hs]
  rfl

theorem oomOfJson_some_iff (v : Json) : (∃ o, oomOfJson v = some o) ↔ strOrStrs v = true := by
  cases v with
  | str s => simp [oomOfJson, strOrStrs]
  | arr items => rw [oomOfJson, exists_map_eq_some, strList_some_iff, strOrStrs]
  | _ => simp [oomOfJson, strOrStrs]

theorem oomJson_of_oomOfJson (v : Json) (o : OneOrMore Bytes) (h : oomOfJson v = some o) : oomJson o = v := by
  cases v with
  | str s => simp [oomOfJson] at h; subst h; rfl
  | arr items =>
    simp only [oomOfJson, Option.map_eq_some_iff] at h
    obtain ⟨ss, hs, rfl⟩ := h
    rw [oomJson, map_str_of_strList items ss hs]
  | _ => simp [oomOfJson] at h

theorem woomOfJson_some_iff (v : Json) : (∃ o, woomOfJson v = some o) ↔ strOrStrs v = true := by
  cases v with
  | str s => by_cases h : s = nStar <;> simp [woomOfJson, strOrStrs, h]
  | arr items => rw [woomOfJson, exists_map_eq_some, strList_some_iff, strOrStrs]
  | _ => simp [woomOfJson, strOrStrs]

theorem woomOfJson_eq_some (v : Json) (w : WildcardOneOrMore Bytes) (h : woomOfJson v = some w) :
    woomJson w = v ∧ w.isOneStar = false := by
  cases v with
  | str s =>
    by_cases hs : s = nStar
    · simp [woomOfJson, hs] at h; subst h; simp [woomJson, hs, WildcardOneOrMore.isOneStar]
    · simp [woomOfJson, hs] at h; subst h; simp [woomJson, hs, WildcardOneOrMore.isOneStar]
  | arr items =>
    simp only [woomOfJson, Option.map_eq_some_iff] at h
    obtain ⟨ss, hs, rfl⟩ := h
    exact ⟨by rw [woomJson, map_str_of_strList items ss hs], rfl⟩
  | _ => simp [woomOfJson] at h

theorem imOfMembers_some_iff {β : Type} (f : Json → Option β) (ms : List (Bytes × Json)) :
    (∃ m, imOfMembers f ms = some m) ↔ ∀ kv ∈ ms, ∃ b, f kv.2 = some b := by
  unfold imOfMembers
  -- the loop reads every member, whatever it has collected so far
  generalize ([] : IMap β) = acc
  induction ms generalizing acc with
  | nil => simp
  | cons e ms ih =>
    rw [List.foldlM_cons]
    cases hf : f e.2 with
    | none =>
      simp only [Option.map_none, Option.bind_eq_bind, Option.bind_none, List.mem_cons, forall_eq_or_imp, hf]
      simp
    | some b =>
      simp only [Option.map_some, Option.bind_eq_bind, Option.bind_some, List.mem_cons, forall_eq_or_imp, hf, ih]
      simp

theorem imOfMembers_unique {β : Type} (f : Json → Option β) (g : β → Json) (ms : List (Bytes × Json))
    (hg : ∀ kv ∈ ms, ∀ b, f kv.2 = some b → g b = kv.2) (m : IMap β) (h : imOfMembers f ms = some m)
    (hnd : namesNodup ms = true) : m.map (fun kv => (kv.1, g kv.2)) = ms := by
  rw [imOfMembers_fresh f ms (by simpa [namesNodup] using hnd)] at h
  rw [map_of_mapM_eq_some (fun kv => (kv.1, g kv.2)) id h, List.map_id]
  intro kv hkv e he
  simp only [Option.map_eq_some_iff] at he
  obtain ⟨b, hb, rfl⟩ := he
  simp only [hg kv hkv b hb, id]

theorem principalOfJson_some_iff (v : Json) : (∃ p, principalOfJson v = some p) ↔ principalValueOk v = true := by
  cases v with
  | str s => by_cases h : s = nStar <;> simp [principalOfJson, principalValueOk, h]
  | obj kvs =>
    rw [principalOfJson, exists_map_eq_some, imOfMembers_some_iff, principalValueOk, List.all_eq_true]
    simp only [oomOfJson_some_iff]
  | _ => simp [principalOfJson, principalValueOk]

theorem principalJson_of_principalOfJson (v : Json) (p : Principal) (h : principalOfJson v = some p)
    (hu : objNamesUnique v = true) : principalJson p = v := by
  cases v with
  | str s =>
    by_cases hs : s = nStar
    · simp [principalOfJson, hs] at h; subst h; simp [principalJson, hs]
    · simp [principalOfJson, hs] at h
  | obj kvs =>
    simp only [principalOfJson, Option.map_eq_some_iff] at h
    obtain ⟨m, hm, rfl⟩ := h
    rw [principalJson, kvsJson,
      imOfMembers_unique oomOfJson oomJson kvs (fun kv _ b hb => oomJson_of_oomOfJson _ _ hb) m hm hu]
  | _ => simp [principalOfJson] at h

theorem condScalarOk_false (v : Json) : condScalarOk false v = isStr v := by
  cases v <;> rfl

theorem condValueOk_false (v : Json) : condValueOk false v = strOrStrs v := by
  cases v with
  | arr items =>
    simp only [condValueOk, strOrStrs]
    congr 1; funext x; exact condScalarOk_false x
  | _ => rfl

theorem condKeyValues_some_iff (v : Json) : (∃ c, condKeyValuesOfJson v = some c) ↔ condKeysOk false v = true := by
  cases v with
  | obj kvs =>
    simp only [condKeyValuesOfJson, condKeysOk, List.all_eq_true, condValueOk_false, imOfMembers_some_iff,
      oomOfJson_some_iff]
  | _ => simp [condKeyValuesOfJson, condKeysOk]

theorem kvsJson_of_condKeyValues (v : Json) (c : CondKeyValues) (h : condKeyValuesOfJson v = some c)
    (hu : objNamesUnique v = true) : kvsJson c = v := by
  cases v with
  | obj kvs =>
    simp only [condKeyValuesOfJson] at h
    simp only [kvsJson]
    rw [imOfMembers_unique oomOfJson oomJson kvs (fun kv _ b hb => oomJson_of_oomOfJson _ _ hb) c h hu]
  | _ => simp [condKeyValuesOfJson] at h

theorem optCondition_some_iff (v : Json) : (∃ c, optCondition v = some c) ↔ conditionValueViol false v = none := by
  cases v with
  | null => simp [optCondition, conditionValueViol]
  | obj ops =>
    simp only [optCondition, conditionOfJson, conditionValueViol]
    rw [exists_map_eq_some, imOfMembers_some_iff]
    simp only [condKeyValues_some_iff, ← List.all_eq_true]
    cases ops.all fun op => condKeysOk false op.2 <;> simp
  | _ => simp [optCondition, conditionOfJson, conditionValueViol]

theorem optConditionJson_of_optCondition (v : Json) (c : Option ConditionRule) (h : optCondition v = some c)
    (hu : conditionNamesUnique v = true) : optConditionJson c = v := by
  cases v with
  | null => simp [optCondition] at h; subst h; rfl
  | obj ops =>
    simp only [optCondition, conditionOfJson, Option.map_eq_some_iff] at h
    obtain ⟨m, hm, rfl⟩ := h
    simp only [conditionNamesUnique, Bool.and_eq_true, List.all_eq_true] at hu
    rw [optConditionJson, conditionJson, imOfMembers_unique condKeyValuesOfJson kvsJson ops
      (fun kv hkv b hb => kvsJson_of_condKeyValues _ _ hb (hu.2 kv hkv)) m hm hu.1]
  | _ => simp [optCondition, conditionOfJson] at h

theorem optString_some_iff (shape : Viol) (v : Json) : (∃ x, optString v = some x) ↔ optStringValueViol shape v = none := by
  cases v <;> simp [optString, optStringValueViol]

theorem optStrJson_of_optString (v : Json) (x : Option Bytes) (h : optString v = some x) : optStrJson x = v := by
  cases v <;> simp [optString] at h <;> subst h <;> rfl

/-- `versionOfName` and `effectOfName` look a name up among two variants: what they find is named so -/
theorem name_of_lookup {α : Type} (name : α → Bytes) (a b : α) (s : Bytes) (x : α)
    (h : (if s = name a then some a else if s = name b then some b else none) = some x) : name x = s := by
  by_cases h1 : s = name a
  · rw [if_pos h1] at h; cases h; exact h1.symm
  · rw [if_neg h1] at h
    by_cases h2 : s = name b
    · rw [if_pos h2] at h; cases h; exact h2.symm
    · rw [if_neg h2] at h; cases h

theorem lookup_some_iff {α : Type} (na nb s : Bytes) (a b : α) (viol : Viol) :
    (∃ x, (if s = na then some a else if s = nb then some b else none) = some x) ↔
      (if s = na ∨ s = nb then none else some viol) = none := by
  by_cases h1 : s = na
  · simp [h1]
  · by_cases h2 : s = nb
    · subst h2; simp [h1]
    · simp [h1, h2]

theorem optVersion_some_iff (v : Json) : (∃ x, optVersion v = some x) ↔ versionValueViol v = none := by
  cases v with
  | null => simp [optVersion, versionValueViol]
  | str s =>
    simp only [optVersion, nameEnum, exists_map_eq_some, versionOfName, versionValueViol]
    exact lookup_some_iff n2012 n2008 s _ _ _
  | obj ms =>
    rcases ms with _ | ⟨⟨k, x⟩, _ | _⟩
    · simp [optVersion, nameEnum, versionValueViol]
    · cases x <;> simp [optVersion, nameEnum, versionValueViol]
    · simp [optVersion, nameEnum, versionValueViol]
  | _ => simp [optVersion, nameEnum, versionValueViol]

theorem optVersionJson_of_optVersion (v : Json) (x : Option Version) (h : optVersion v = some x) :
    optVersionJson x = v := by
  cases v with
  | null => simp [optVersion] at h; subst h; rfl
  | str s =>
    simp only [optVersion, nameEnum, Option.map_eq_some_iff] at h
    obtain ⟨y, hy, rfl⟩ := h
    rw [optVersionJson, name_of_lookup versionName .v2012_10_17 .v2008_10_17 s y hy]
  | _ => simp [optVersion, nameEnum] at h

theorem effect_some_iff (v : Json) : (∃ e, nameEnum effectOfName v = some e) ↔ effectValueViol v = none := by
  cases v with
  | str s =>
    simp only [nameEnum, effectOfName, effectValueViol]
    exact lookup_some_iff nAllow nDeny s _ _ _
  | obj ms =>
    rcases ms with _ | ⟨⟨k, x⟩, _ | _⟩
    · simp [nameEnum, effectValueViol]
    · cases x <;> simp [nameEnum, effectValueViol]
    · simp [nameEnum, effectValueViol]
  | _ => simp [nameEnum, effectValueViol]

theorem effectName_of_effect (v : Json) (e : Effect) (h : nameEnum effectOfName v = some e) :
    Json.str (effectName e) = v := by
  cases v with
  | str s => rw [name_of_lookup effectName .allow .deny s e h]
  | _ => simp [nameEnum] at h

theorem mem_membersOf2 (a b : Bytes) (ms : List (Bytes × Json)) (kv : Bytes × Json)
    (h : kv ∈ membersOf2 a b ms) : kv.1 = a ∨ kv.1 = b := by
  simpa [membersOf2] using (List.mem_filter.mp h).2

theorem principalMemberOf_some_iff (kv : Bytes × Json) :
    (∃ r, principalMemberOf kv = some r) ↔ principalMemberViol kv = none := by
  rw [principalMemberOf, exists_map_eq_some, principalOfJson_some_iff, principalMemberViol]
  cases principalValueOk kv.2 <;> simp

theorem actionMemberOf_some_iff (kv : Bytes × Json) :
    (∃ a, actionMemberOf kv = some a) ↔ ruleMemberViol .actionShape kv = none := by
  rw [actionMemberOf, exists_map_eq_some, woomOfJson_some_iff, ruleMemberViol]
  cases strOrStrs kv.2 <;> simp

theorem resourceMemberOf_some_iff (kv : Bytes × Json) :
    (∃ r, resourceMemberOf kv = some r) ↔ ruleMemberViol .resourceShape kv = none := by
  rw [resourceMemberOf, exists_map_eq_some, woomOfJson_some_iff, ruleMemberViol]
  cases strOrStrs kv.2 <;> simp

theorem principalMembers_of_principalMemberOf (kv : Bytes × Json) (r : PrincipalRule)
    (h : principalMemberOf kv = some r) (hk : kv.1 = kPrincipal ∨ kv.1 = kNotPrincipal)
    (hu : objNamesUnique kv.2 = true) : principalMembers (some r) = [kv] := by
  simp only [principalMemberOf, Option.map_eq_some_iff] at h
  obtain ⟨p, hp, rfl⟩ := h
  have hj := principalJson_of_principalOfJson _ _ hp hu
  obtain ⟨k, v⟩ := kv
  rcases hk with rfl | rfl
  · simp [principalMembers, hj]
  · simp (config := { decide := true }) [principalMembers, hj]

theorem actionMemberOf_eq_some (kv : Bytes × Json) (a : ActionRule) (h : actionMemberOf kv = some a)
    (hk : kv.1 = kAction ∨ kv.1 = kNotAction) : actionMember a = kv ∧ a.isOneStar = false := by
  simp only [actionMemberOf, Option.map_eq_some_iff] at h
  obtain ⟨w, hw, rfl⟩ := h
  obtain ⟨hj, hn⟩ := woomOfJson_eq_some _ _ hw
  obtain ⟨k, v⟩ := kv
  rcases hk with rfl | rfl
  · simp [actionMember, hj, ActionRule.isOneStar, hn]
  · simp (config := { decide := true }) [actionMember, hj, ActionRule.isOneStar, hn]

theorem resourceMemberOf_eq_some (kv : Bytes × Json) (r : ResourceRule) (h : resourceMemberOf kv = some r)
    (hk : kv.1 = kResource ∨ kv.1 = kNotResource) : resourceMember r = kv ∧ r.isOneStar = false := by
  simp only [resourceMemberOf, Option.map_eq_some_iff] at h
  obtain ⟨w, hw, rfl⟩ := h
  obtain ⟨hj, hn⟩ := woomOfJson_eq_some _ _ hw
  obtain ⟨k, v⟩ := kv
  rcases hk with rfl | rfl
  · simp [resourceMember, hj, ResourceRule.isOneStar, hn]
  · simp (config := { decide := true }) [resourceMember, hj, ResourceRule.isOneStar, hn]

theorem slot_some_iff {α β : Type} (f : β → Option α) (g : β → Option Viol) (many : Viol)
    (hfg : ∀ v, (∃ x, f v = some x) ↔ g v = none) (vs : List β) :
    (∃ r, slot f none vs = some r) ↔ atMostOne g many vs = none := by
  match vs with
  | [] => simp [slot, atMostOne]
  | [v] => rw [slot_none_singleton, exists_map_eq_some, hfg, atMostOne]
  | v :: w :: rest => cases h : f v <;> simp [slot, atMostOne, h]

theorem slot_filled_iff {α β : Type} (f : β → Option α) (g : β → Option Viol) (missing many : Viol)
    (hfg : ∀ v, (∃ x, f v = some x) ↔ g v = none) (vs : List β) :
    (∃ x, slot f none vs = some (some x)) ↔ exactlyOne missing g many vs = none := by
  match vs with
  | [] => simp [slot, exactlyOne]
  | [v] => simp [slot_none_singleton, exactlyOne, ← hfg]
  | v :: w :: rest => cases h : f v <;> simp [slot, exactlyOne, h]

/-- the content of an optional scalar slot is written back as the block's value stood (`null` for none) -/
theorem pick_of_slot {α : Type} (f : Json → Option (Option α)) (w : Option α → Json) (U : Json → Prop)
    (hw : ∀ v x, f v = some x → U v → w x = v) (hnull : w none = .null) (vs : List Json)
    (r : Option (Option α)) (h : slot f none vs = some r) (hu : ∀ v ∈ vs, U v) :
    w (r.getD none) = (vs.head?).getD .null := by
  rcases (slot_none_some_iff f vs r).mp h with ⟨rfl, rfl⟩ | ⟨v, x, rfl, hx, rfl⟩
  · exact hnull
  · exact hw v x hx (hu v (by simp))

theorem statementOfMembers_some_iff (ms : List (Bytes × Json)) :
    (∃ s, statementOfMembers ms = some s) ↔ stmtViol false (.obj ms) = none := by
  have e1 := slot_some_iff optString _ .dupMember (optString_some_iff .sidShape) (valuesOf kSid ms)
  have e2 := slot_some_iff principalMemberOf _ .conflictingMembers principalMemberOf_some_iff
    (membersOf2 kPrincipal kNotPrincipal ms)
  have e3 := slot_filled_iff (nameEnum effectOfName) _ .effectMissing .dupMember effect_some_iff (valuesOf kEffect ms)
  have e4 := slot_filled_iff actionMemberOf _ .actionMissing .conflictingMembers actionMemberOf_some_iff
    (membersOf2 kAction kNotAction ms)
  have e5 := slot_filled_iff resourceMemberOf _ .resourceMissing .conflictingMembers resourceMemberOf_some_iff
    (membersOf2 kResource kNotResource ms)
  have e6 := slot_some_iff optCondition _ .dupMember optCondition_some_iff (valuesOf kCondition ms)
  simp only [stmtViol, Option.or_eq_none_iff, ← e1, ← e2, ← e3, ← e4, ← e5, ← e6, statementOfMembers_eq_some_iff]
  constructor
  · rintro ⟨s, sid, co, h1, h2, h3, h4, h5, h6, _, _⟩
    exact ⟨⟨_, h1⟩, ⟨_, h2⟩, ⟨_, h3⟩, ⟨_, h4⟩, ⟨_, h5⟩, ⟨_, h6⟩⟩
  · rintro ⟨⟨sid, h1⟩, ⟨pr, h2⟩, ⟨ef, h3⟩, ⟨ac, h4⟩, ⟨re, h5⟩, ⟨co, h6⟩⟩
    exact ⟨⟨sid.getD none, pr, ef, ac, re, co.getD none⟩, sid, co, h1, h2, h3, h4, h5, h6, rfl, rfl⟩

theorem statementJson_of_statementOfMembers (ms : List (Bytes × Json)) (s : Statement)
    (h : statementOfMembers ms = some s) (hu : stmtNamesUnique (.obj ms) = true) :
    statementJson s = canonStmt (.obj ms) := by
  obtain ⟨sid, co, h1, h2, h3, h4, h5, h6, hs, hc⟩ := (statementOfMembers_eq_some_iff ms s).mp h
  simp only [stmtNamesUnique, Bool.and_eq_true, List.all_eq_true] at hu
  -- block by block, what the slot holds is written back as the member stood (`w1` … `w6`); the final `simp` puts the six
  -- into the order of `canonStmt`
  have w1 := pick_of_slot optString optStrJson (fun _ => True) (fun v x hx _ => optStrJson_of_optString v x hx) rfl
    _ _ h1 (fun _ _ => trivial)
  have w2 : principalMembers s.principal = membersOf2 kPrincipal kNotPrincipal ms := by
    rcases (slot_none_some_iff _ _ _).mp h2 with ⟨hL, hr⟩ | ⟨kv, r, hL, hkv, hr⟩
    · rw [hL, hr]
      rfl
    · have hm : kv ∈ membersOf2 kPrincipal kNotPrincipal ms := by simp [hL]
      rw [hL, hr, principalMembers_of_principalMemberOf kv r hkv (mem_membersOf2 _ _ ms kv hm) (hu.1 kv hm)]
  obtain ⟨v, hL3, hv⟩ := singleton_of_slot_filled _ _ _ h3
  obtain ⟨ka, hL4, hka⟩ := singleton_of_slot_filled _ _ _ h4
  obtain ⟨kr, hL5, hkr⟩ := singleton_of_slot_filled _ _ _ h5
  have w4 := (actionMemberOf_eq_some ka _ hka (mem_membersOf2 _ _ ms ka (by simp [hL4]))).1
  have w5 := (resourceMemberOf_eq_some kr _ hkr (mem_membersOf2 _ _ ms kr (by simp [hL5]))).1
  have w6 := pick_of_slot optCondition optConditionJson (fun v => conditionNamesUnique v = true)
    optConditionJson_of_optCondition rfl _ _ h6 hu.2
  simp only [statementJson, canonStmt, pick, hs, hc, w1, w2, hL3, effectName_of_effect v _ hv, hL4, w4, hL5, w5, w6,
    List.head?_cons, Option.getD_some, List.cons_append, List.nil_append, List.append_assoc]

theorem statementOfJson_some_iff (x : Json) : (∃ s, statementOfJson x = some s) ↔ stmtViol false x = none := by
  cases x with
  | obj ms => exact statementOfMembers_some_iff ms
  | _ => simp [statementOfJson, stmtViol]

theorem statementJson_of_statementOfJson (x : Json) (s : Statement) (h : statementOfJson x = some s)
    (hu : stmtNamesUnique x = true) : statementJson s = canonStmt x := by
  cases x with
  | obj ms => exact statementJson_of_statementOfMembers ms s h hu
  | _ => simp [statementOfJson] at h

theorem statementsOfJson_some_iff (v : Json) :
    (∃ st, statementsOfJson v = some st) ↔ statementsValueViol false v = none := by
  cases v with
  | obj ms =>
    rw [statementsOfJson, exists_map_eq_some]
    exact statementOfMembers_some_iff ms
  | arr items =>
    rw [statementsOfJson, exists_map_eq_some, mapM_some_iff]
    simp only [statementsValueViol, List.findSome?_eq_none_iff, statementOfJson_some_iff]
  | _ => simp [statementsOfJson, statementsValueViol]

theorem statementsOfJson_items (v : Json) (st : OneOrMore Statement) (h : statementsOfJson v = some st) :
    ∀ s ∈ st.toList, ∃ x, statementOfJson x = some s := by
  cases v with
  | obj ms =>
    simp only [statementsOfJson, Option.map_eq_some_iff] at h
    obtain ⟨s, hs, rfl⟩ := h
    simp only [OneOrMore.toList, List.mem_singleton, forall_eq]
    exact ⟨.obj ms, hs⟩
  | arr items =>
    simp only [statementsOfJson, Option.map_eq_some_iff] at h
    obtain ⟨ss, hss, rfl⟩ := h
    exact mem_of_mapM_eq_some hss
  | _ => simp [statementsOfJson] at h

theorem statementsJson_of_statementsOfJson (v : Json) (st : OneOrMore Statement) (h : statementsOfJson v = some st)
    (hu : stmtsNamesUnique v = true) : statementsJson st = canonStmts v := by
  cases v with
  | obj ms =>
    simp only [statementsOfJson, Option.map_eq_some_iff] at h
    obtain ⟨s, hs, rfl⟩ := h
    exact statementJson_of_statementOfMembers ms s hs hu
  | arr items =>
    simp only [statementsOfJson, Option.map_eq_some_iff] at h
    obtain ⟨ss, hss, rfl⟩ := h
    simp only [stmtsNamesUnique, List.all_eq_true] at hu
    simp only [statementsJson, canonStmts, Json.arr.injEq]
    exact map_of_mapM_eq_some statementJson canonStmt hss fun x hx s hs =>
      statementJson_of_statementOfJson x s hs (hu x hx)
  | _ => simp [statementsOfJson] at h

theorem fromJson?_some_iff (j : Json) : (∃ p, fromJson? j = some p) ↔ violation false j = none := by
  cases j with
  | obj ms =>
    have e1 := slot_some_iff optVersion _ .dupMember optVersion_some_iff (valuesOf kVersion ms)
    have e2 := slot_some_iff optString _ .dupMember (optString_some_iff .idShape) (valuesOf kId ms)
    have e3 := slot_filled_iff statementsOfJson _ .statementMissing .dupMember statementsOfJson_some_iff
      (valuesOf kStatement ms)
    simp only [fromJson?, violation, Option.or_eq_none_iff, ← e1, ← e2, ← e3, policyOfMembers_eq_some_iff]
    constructor
    · rintro ⟨p, v, i, h1, h2, h3, _, _⟩
      exact ⟨⟨_, h1⟩, ⟨_, h2⟩, ⟨_, h3⟩⟩
    · rintro ⟨⟨v, h1⟩, ⟨i, h2⟩, ⟨st, h3⟩⟩
      exact ⟨⟨v.getD none, i.getD none, st⟩, v, i, h1, h2, h3, rfl, rfl⟩
  | _ => simp [fromJson?, violation]

theorem fromJson_ok_iff_grammar (j : Json) : (∃ p, fromJson j = .ok p) ↔ inStringGrammar j = true := by
  simp only [fromJson_ok_iff, fromJson?_some_iff, inStringGrammar_iff]

theorem toJson_of_fromJson? (j : Json) (p : Policy) (h : fromJson? j = some p) (hu : mapNamesUnique j = true) :
    toJson p = canon j := by
  cases j with
  | obj ms =>
    obtain ⟨v, i, h1, h2, h3, hv, hi⟩ := (policyOfMembers_eq_some_iff ms p).mp h
    obtain ⟨x, hL, hx⟩ := singleton_of_slot_filled _ _ _ h3
    simp only [mapNamesUnique, hL, List.all_cons, List.all_nil, Bool.and_true] at hu
    have w1 := pick_of_slot optVersion optVersionJson (fun _ => True) (fun v x hx _ => optVersionJson_of_optVersion v x hx)
      rfl _ _ h1 (fun _ _ => trivial)
    have w2 := pick_of_slot optString optStrJson (fun _ => True) (fun v x hx _ => optStrJson_of_optString v x hx) rfl
      _ _ h2 (fun _ _ => trivial)
    simp only [toJson, canon, pick, hv, hi, w1, w2, hL, statementsJson_of_statementsOfJson x _ hx hu, List.head?_cons,
      Option.getD_some]
  | _ => simp [fromJson?] at h

end S3V.Policy
