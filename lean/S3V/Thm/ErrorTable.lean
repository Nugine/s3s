import S3V.Model.ErrorDoc
import S3V.Spec.ErrorDoc
/-!
# Lemmas for C04: the generated tables of `error/generated.rs`

`Code.all` enumerates the variants in the order of their declaration, the tag of a variant is its index, and the two
name tables are in alphabetical order, so that a look-up finds each name at its own entry. The statements are in terms of
`Code.all.length`; the proof of `ctorIdx_lt` names the count once (a regenerated table of another size needs that numeral
changed: without it the length is evaluated once per variant). A table obligation over all codes is one evaluation along
`Code.all` (`Code.forall_of_all`); `statusAcceptable_of_mem` is the step from the status table to the specification's status
rule. The reader half of C04 is `Thm/ErrorDoc.lean` (same namespace).
-/
namespace S3V.ErrorDocThm
open S3V S3V.Gen.Errors S3V.ErrorDoc S3V.ErrorDocSpec

/-! ## the generated tables follow the order in which the variants are declared -/

theorem codeAll_eq : Code.all = (List.range Code.all.length).map Code.ofNat := by decide +kernel

theorem ctorIdx_lt (c : Code) : c.ctorIdx < Code.all.length := by
  -- the length is evaluated once, not once per variant
  rw [show Code.all.length = 237 by decide +kernel]
  cases c <;> decide

theorem all_getElem? (c : Code) : Code.all[c.ctorIdx]? = some c := by
  rw [codeAll_eq, List.getElem?_map, List.getElem?_range (ctorIdx_lt c), Option.map_some, Code.ofNat_ctorIdx]

theorem Code.mem_all (c : Code) : c ∈ Code.all := List.mem_of_getElem? (all_getElem? c)

/-- a table obligation over all codes is one evaluation along `Code.all` (as `Op.forall_of_all` for the operations) -/
theorem Code.forall_of_all {p : Code → Prop} [DecidablePred p] (h : (Code.all.all fun c => decide (p c)) = true)
    (c : Code) : p c :=
  of_decide_eq_true (List.all_eq_true.mp h c (Code.mem_all c))

theorem enumTag_eq (c : Code) : enumTag c = c.ctorIdx := by
  have h : ∀ i < Code.all.length, enumTag (Code.ofNat i) = i := by decide +kernel
  have hc := h c.ctorIdx (ctorIdx_lt c)
  rwa [Code.ofNat_ctorIdx] at hc

/-- `Custom` has the tag `usize::MAX`, beyond the static list: its name is its own string -/
theorem asStr_custom (s : Bytes) : asStr (.custom s) = some s := by
  have h : asStaticStr (.custom s) = none :=
    List.getElem?_eq_none (by decide +kernel : staticCodeList.length ≤ usizeMax)
  simp [asStr, h]

/-! ## tables in alphabetical order

Distinct keys would do for the look-up. Ascending neighbours are asked instead because that check is linear in the table, a
duplicate check quadratic. -/

theorem pairwise_lt_of_adjacent : ∀ (l : List Bytes),
    (l.zip l.tail).all (fun p => decide (p.1 < p.2)) = true → l.Pairwise (· < ·)
  | [], _ => .nil
  | [_], _ => List.pairwise_singleton _ _
  | a :: b :: r, h => by
    simp only [List.tail_cons, List.zip_cons_cons, List.all_cons, Bool.and_eq_true, decide_eq_true_eq] at h
    have ih := pairwise_lt_of_adjacent (b :: r) h.2
    refine List.pairwise_cons.mpr ⟨fun x hx => ?_, ih⟩
    rcases List.mem_cons.mp hx with rfl | hx
    · exact h.1
    · exact List.lt_trans h.1 ((List.pairwise_cons.mp ih).1 x hx)

/-- in a table whose keys ascend, every entry is the one `lookup` finds under its key -/
theorem lookup_map_of_pairwise_lt {α : Type} (f : α → Bytes) : ∀ (l : List α), (l.map f).Pairwise (· < ·) →
    ∀ c ∈ l, (l.map fun c => (f c, c)).lookup (f c) = some c
  | a :: r, h, c, hc => by
    rw [List.map_cons, List.pairwise_cons] at h
    rw [List.map_cons, List.lookup_cons]
    rcases List.mem_cons.mp hc with rfl | hc
    · simp
    · have hne : f c ≠ f a := fun heq => List.lt_irrefl (f a) (heq ▸ h.1 (f c) (List.mem_map_of_mem hc))
      rw [beq_false_of_ne hne]
      exact lookup_map_of_pairwise_lt f r h.2 c hc

/-- without an override, the table's entry — or 500 where the entry is `None` — is acceptable as soon as the entry is
    among the documented ones -/
theorem statusAcceptable_of_mem {docs : List (Option Nat)} {i : Option Nat} (h : i ∈ docs) :
    statusAcceptable none docs (i.getD 500) = true := by
  cases i <;> simp [statusAcceptable, h]

end S3V.ErrorDocThm
