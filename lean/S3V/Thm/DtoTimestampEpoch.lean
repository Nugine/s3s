import S3V.Thm.DtoTimestamp
import S3V.Thm.DtoText
import S3V.Thm.ListLemmas
/-! # Timestamps: `EpochSeconds` — exact decimal text (after repair 4f99c94)

`parseEpochSeconds` hands every text of the grammar `[-] 1*DIGIT [ "." 1*9DIGIT ]` (`DtoSpec.EpochText`) to
`from_unix_timestamp_nanos` with the nanosecond count the text denotes (`parseEpoch_eq`; no range: where the seconds
overflow `i64` both refuse). `formatEpochSeconds`
writes `[-]<secs>[.<fraction without trailing zeros>]`, a text of that grammar, so it is read back to the same
instant at nanosecond resolution, before and after 1970; and the text denotes (as a decimal number,
`DtoSpec.readDecimal`) exactly `unix + nanos / 10^9`. `parseEpochSeconds_range`, and with the other two forms `Ts.parse_range`:
whatever `Timestamp::parse` accepts lies within `time`'s range.
-/
namespace S3V.Dto
open S3V.DtoSpec

/-- `uN::from_str` on a non-empty all-digit text is its decimal value, refused when it does not fit (a single digit is
    returned unchecked: `9 ≤ max`) -/
theorem parseUnsignedStr_digits (max : Nat) (hmax : 9 ≤ max) {l : Bytes} {v : Nat} (hl : Digits l v) :
    parseUnsignedStr max l = if v ≤ max then some v else none := by
  obtain ⟨c, r, rfl, hc⟩ := digits_cons hl
  have hv := hl.2
  cases r with
  | nil =>
    simp only [digitsVal, hc, if_true, Nat.zero_mul, Nat.zero_add, Option.some.injEq] at hv
    have := digit_le_nine c hc
    rw [if_pos (by omega)]
    simp [parseUnsignedStr, hc, hv]
  | cons c2 r =>
    have h43 : c ≠ 43 := digit_ne c hc 43 (by decide)
    simp [parseUnsignedStr, h43, hv]

/-- `trim_end_matches('0')` is the library's `dropWhile`, taken from the end -/
theorem trimEndZeros_eq (ds : Bytes) : trimEndZeros ds = (ds.reverse.dropWhile (· == 48)).reverse := by
  induction ds with
  | nil => rfl
  | cons c r ih =>
    rw [trimEndZeros, ih, List.reverse_cons, List.dropWhile_append]
    cases h : r.reverse.dropWhile (· == 48) with
    | nil => cases hc : c == 48 <;> simp [hc]
    | cons x xs => simp

theorem trimEndZeros_spec (ds : Bytes) : ∃ j, ds = trimEndZeros ds ++ List.replicate j 48 := by
  -- what is removed is `ds.reverse.takeWhile (· == 48)`, a block of `0`s
  have h : ds.reverse.takeWhile (· == 48) = List.replicate (ds.reverse.takeWhile (· == 48)).length 48 :=
    List.eq_replicate_iff.mpr ⟨rfl, fun b hb => by simpa using List.all_eq_true.mp List.all_takeWhile b hb⟩
  refine ⟨(ds.reverse.takeWhile (· == 48)).length, ?_⟩
  rw [trimEndZeros_eq, ← List.reverse_replicate, ← h, ← List.reverse_append, List.takeWhile_append_dropWhile,
    List.reverse_reverse]

theorem trimEndZeros_last (ds : Bytes) : ∀ c, (trimEndZeros ds).getLast? = some c → c ≠ 48 := by
  intro c h
  rw [trimEndZeros_eq, List.getLast?_reverse] at h
  have := List.head?_dropWhile_not (· == 48) ds.reverse
  rw [h] at this
  simpa using this

theorem trim_pad9 (ns : Nat) (h0 : 0 < ns) (h1 : ns < 1000000000) :
    ∃ (j v : Nat), (trimEndZeros (pad9 ns)).length + j = 9 ∧ Digits (trimEndZeros (pad9 ns)) v ∧ v * 10 ^ j = ns := by
  obtain ⟨j, hj⟩ := trimEndZeros_spec (pad9 ns)
  have hval := (nDigits_pad9 h1).2
  have hlen : (pad9 ns).length = 9 := rfl
  generalize trimEndZeros (pad9 ns) = d at hj ⊢
  rw [hj] at hval hlen
  rw [digitsVal_append] at hval
  cases hd : digitsVal d 0 with
  | none => rw [hd] at hval; cases hval
  | some v =>
    rw [hd, Option.bind_some, digitsVal_zeros] at hval
    have hv : v * 10 ^ j = ns := Option.some.inj hval
    refine ⟨j, v, by simpa using hlen, ⟨?_, hd⟩, hv⟩
    rintro rfl
    simp only [digitsVal, Option.some.injEq] at hd
    subst hd
    omega

theorem signedInt_natAbs (v : Int) : signedInt (decide (v < 0)) v.natAbs = v := by
  unfold signedInt
  by_cases h : v < 0
  · rw [if_pos (decide_eq_true h)]
    omega
  · rw [if_neg (by simpa using h)]
    omega

theorem signedInt_mul (neg : Bool) (m c : Nat) : signedInt neg m * (c : Int) = signedInt neg (m * c) := by
  cases neg <;> simp [signedInt, Int.neg_mul]

theorem epochSign_digit (neg : Bool) (c : UInt8) (rest : Bytes) (hd : isDigit c = true) :
    epochSign (signBytes neg ++ c :: rest) = some (neg, c :: rest) := by
  have h45 : c ≠ 45 := digit_ne c hd 45 (by decide)
  cases neg
  · simp [signBytes, epochSign, h45]
  · simp [signBytes, epochSign, hd]

theorem fracMul_pow (k j : Nat) (hk : 1 ≤ k) (hkj : k + j = 9) : fracMul k = some (10 ^ j) := by
  obtain rfl : j = 9 - k := by omega
  have table : ∀ k < 10, 1 ≤ k → fracMul k = some (10 ^ (9 - k)) := by decide
  exact table k (by omega) hk

theorem epochSecsFrac_digits_whole (ip : Bytes) (a : Nat) (hip : Digits ip a) :
    epochSecsFrac ip = if a ≤ 18446744073709551615 then some (a, 0) else none := by
  have hall := digitsVal_all_digits hip.2
  have hsp : splitOnce 46 ip = none :=
    splitOnce_none _ _ (fun x hx => digit_ne x (hall x hx) 46 (by decide))
  simp only [epochSecsFrac, hsp, parseUnsignedStr_digits 18446744073709551615 (by decide) hip]
  by_cases ha : a ≤ 18446744073709551615
  · simp only [if_pos ha]
  · simp only [if_neg ha]

/-- at most nine fraction digits: their value is below `10^9`, fits `u32`, and the product with the multiplier does not wrap -/
theorem epochSecsFrac_digits_frac (ip fp : Bytes) (a b : Nat) (hip : Digits ip a) (hfp : Digits fp b)
    (hlen : fp.length ≤ 9) :
    epochSecsFrac (ip ++ 46 :: fp) =
      if a ≤ 18446744073709551615 then some (a, b * 10 ^ (9 - fp.length)) else none := by
  have hall := digitsVal_all_digits hip.2
  have hsp : splitOnce 46 (ip ++ 46 :: fp) = some (ip, fp) :=
    splitOnce_append _ _ _ (fun x hx => digit_ne x (hall x hx) 46 (by decide))
  have hk : 1 ≤ fp.length := List.length_pos_iff.mpr hfp.1
  have hkj : fp.length + (9 - fp.length) = 9 := by omega
  have hm := fracMul_pow _ _ hk hkj
  have hb := digitsVal_lt fp 0 b hfp.2
  rw [Nat.zero_add, Nat.one_mul] at hb
  have hpow : (10 : Nat) ^ fp.length * 10 ^ (9 - fp.length) = 1000000000 := by rw [← Nat.pow_add, hkj]
  have hpos : 0 < 10 ^ (9 - fp.length) := Nat.pow_pos (by decide)
  have hlt : b * 10 ^ (9 - fp.length) < 1000000000 := by
    rw [← hpow]; exact Nat.mul_lt_mul_of_pos_right hb hpos
  have hble : b ≤ b * 10 ^ (9 - fp.length) := Nat.le_mul_of_pos_right b hpos
  have hf : parseUnsignedStr 4294967295 fp = some b := by
    rw [parseUnsignedStr_digits 4294967295 (by decide) hfp, if_pos (by omega)]
  have hmod : b * 10 ^ (9 - fp.length) % 4294967296 = b * 10 ^ (9 - fp.length) := Nat.mod_eq_of_lt (by omega)
  simp only [epochSecsFrac, hsp, hf, hm, parseUnsignedStr_digits 18446744073709551615 (by decide) hip, hmod]
  by_cases ha : a ≤ 18446744073709551615
  · simp only [if_pos ha]
  · simp only [if_neg ha]

theorem epochFromNanos_eq_some (n : Int) (t : Ts) : epochFromNanos n = some t ↔
    (unixMin ≤ n / 1000000000 ∧ n / 1000000000 ≤ unixMax) ∧ ⟨n / 1000000000, (n % 1000000000).toNat, 0⟩ = t := by
  unfold epochFromNanos
  simp only [Option.ite_none_left_eq_some, Option.some.injEq, Bool.or_eq_true, decide_eq_true_eq, not_or, Int.not_lt,
    gt_iff_lt]

/-- more seconds than `i64::MAX` are far outside the range of `from_unix_timestamp` -/
theorem epochFromNanos_big (neg : Bool) (a f : Nat) (ha : 9223372036854775807 < a) :
    epochFromNanos (signedInt neg (a * 1000000000 + f)) = none := by
  unfold epochFromNanos unixMin unixMax signedInt
  cases neg
  · rw [if_pos (by simp only [Bool.false_eq_true, if_false, Bool.or_eq_true, decide_eq_true_eq]; omega)]
  · rw [if_pos (by simp only [if_true, Bool.or_eq_true, decide_eq_true_eq]; omega)]

/-- after the sign, seconds and fraction go to `from_unix_timestamp_nanos` as one signed nanosecond count; where the code's
    two overflow checks (`u64`, then `i64`) refuse the seconds, so does the range check of `from_unix_timestamp_nanos` -/
theorem parseEpochSeconds_signed (neg : Bool) (c : UInt8) (r : Bytes) (a f : Nat) (hc : isDigit c = true)
    (hsf : epochSecsFrac (c :: r) = if a ≤ 18446744073709551615 then some (a, f) else none) :
    parseEpochSeconds (signBytes neg ++ c :: r) = epochFromNanos (signedInt neg (a * 1000000000 + f)) := by
  simp only [parseEpochSeconds, epochSign_digit neg c r hc, hsf]
  by_cases ha : a ≤ 9223372036854775807
  · rw [if_pos (by omega)]
    simp only [if_neg (show ¬ a > 9223372036854775807 by omega)]
    cases neg <;> simp [signedInt]
  · rw [epochFromNanos_big neg a f (by omega)]
    by_cases h64 : a ≤ 18446744073709551615
    · simp only [if_pos h64, if_pos (show a > 9223372036854775807 by omega)]
    · simp only [if_neg h64]

theorem parseEpoch_eq (txt : Bytes) (n : Int) (h : EpochText txt n) : parseEpochSeconds txt = epochFromNanos n := by
  cases h with
  | @whole neg ip a hip =>
    obtain ⟨c, r, rfl, hc⟩ := digits_cons hip
    have := parseEpochSeconds_signed neg c r a 0 hc (epochSecsFrac_digits_whole _ a hip)
    rwa [Nat.add_zero] at this
  | @frac neg ip fp a b hip hfp hlen =>
    obtain ⟨c, r, rfl, hc⟩ := digits_cons hip
    exact parseEpochSeconds_signed neg c (r ++ 46 :: fp) a _ hc (epochSecsFrac_digits_frac _ fp a b hip hfp hlen)

theorem parseEpoch_denotes (txt : Bytes) (n : Int) (h : EpochText txt n)
    (h1 : unixMin * 1000000000 ≤ n) (h2 : n < (unixMax + 1) * 1000000000) :
    ∃ t, parseEpochSeconds txt = some t ∧ t.off = 0 ∧ t.nanos < 1000000000 ∧
      t.unix * 1000000000 + (t.nanos : Int) = n := by
  rw [parseEpoch_eq txt n h]
  refine ⟨_, (epochFromNanos_eq_some n _).mpr ⟨by omega, rfl⟩, rfl, ?_, ?_⟩
  · show (n % 1000000000).toNat < 1000000000
    omega
  · show n / 1000000000 * 1000000000 + ((n % 1000000000).toNat : Int) = n
    omega

theorem parseEpochSeconds_range {e : Bytes} {t : Ts} (h : parseEpochSeconds e = some t) :
    unixMin ≤ t.unix ∧ t.unix ≤ unixMax := by
  unfold parseEpochSeconds at h
  split at h
  · cases h
  · split at h
    · cases h
    · split at h
      · cases h
      · obtain ⟨hr, rfl⟩ := (epochFromNanos_eq_some _ t).mp h
        exact hr

theorem Ts.parse_range {f : TsFormat} {txt : Bytes} {t : Ts} (h : Ts.parse f txt = some t) :
    unixMin ≤ t.unix ∧ t.unix ≤ unixMax := by
  cases f with
  | dateTime =>
    obtain ⟨-, h1, h2⟩ := parseRfc3339_eq_some_iff.mp h
    exact ⟨Int.le_trans (by decide) h1, h2⟩
  | httpDate => exact parseHttpDate_range h
  | epochSeconds => exact parseEpochSeconds_range h

/-- the fraction `format` writes: nothing when zero, else `.` and the nine digits without trailing zeros -/
def fracPart (ns : Nat) : Bytes := if ns = 0 then [] else 46 :: trimEndZeros (pad9 ns)

/-- the text `format` writes, in terms of the magnitude of the nanosecond count -/
theorem formatEpochSeconds_eq (t : Ts) :
    formatEpochSeconds t = some (signBytes (decide (t.unix * 1000000000 + (t.nanos : Int) < 0)) ++
      (fmtDec ((t.unix * 1000000000 + (t.nanos : Int)).natAbs / 1000000000) ++
        fracPart ((t.unix * 1000000000 + (t.nanos : Int)).natAbs % 1000000000))) := by
  unfold formatEpochSeconds signBytes fracPart
  by_cases hz : (t.unix * 1000000000 + (t.nanos : Int)).natAbs % 1000000000 = 0 <;>
    by_cases hneg : t.unix * 1000000000 + (t.nanos : Int) < 0 <;> simp [hz, hneg]

theorem epochText_format (neg : Bool) (secs ns : Nat) (hns : ns < 1000000000) :
    EpochText (signBytes neg ++ (fmtDec secs ++ fracPart ns)) (signedInt neg (secs * 1000000000 + ns)) := by
  unfold fracPart
  by_cases h0 : ns = 0
  · rw [if_pos h0, List.append_nil, h0, Nat.add_zero]
    exact .whole (digits_fmtDec secs)
  · rw [if_neg h0]
    obtain ⟨j, v, hlen, hfrac, hv⟩ := trim_pad9 ns (by omega) hns
    have := EpochText.frac (neg := neg) (digits_fmtDec secs) hfrac (by omega)
    rwa [show 9 - (trimEndZeros (pad9 ns)).length = j by omega, hv] at this

/-- decimal seconds with a millisecond fraction, the form the AWS protocol tests use -/
theorem epochText_ms (secs : Nat) {ms : Nat} (h : ms < 1000) :
    EpochText (fmtDec secs ++ 46 :: pad3 ms) ((secs * 1000000000 + ms * 1000000 : Nat) : Int) :=
  .frac (neg := false) (digits_fmtDec secs) ⟨by simp [pad3], (nDigits_pad3 h).2⟩ (by simp [pad3])

theorem epochFromNanos_of (unix : Int) (nanos : Nat) (h1 : unixMin ≤ unix) (h2 : unix ≤ unixMax)
    (hn : nanos < 1000000000) :
    epochFromNanos (unix * 1000000000 + (nanos : Int)) = some ⟨unix, nanos, 0⟩ := by
  have e1 : (unix * 1000000000 + (nanos : Int)) / 1000000000 = unix := by omega
  have e2 : ((unix * 1000000000 + (nanos : Int)) % 1000000000).toNat = nanos := by omega
  rw [epochFromNanos_eq_some, e1, e2]
  exact ⟨⟨h1, h2⟩, rfl⟩

theorem formatEpochSeconds_epochText (t : Ts) :
    ∃ txt, formatEpochSeconds t = some txt ∧ EpochText txt (t.unix * 1000000000 + (t.nanos : Int)) := by
  have hE := epochText_format (decide (t.unix * 1000000000 + (t.nanos : Int) < 0))
    ((t.unix * 1000000000 + (t.nanos : Int)).natAbs / 1000000000)
    ((t.unix * 1000000000 + (t.nanos : Int)).natAbs % 1000000000) (Nat.mod_lt _ (by decide))
  rw [Nat.div_add_mod', signedInt_natAbs] at hE
  exact ⟨_, formatEpochSeconds_eq t, hE⟩

theorem epoch_roundtrip (t : Ts) (h1 : unixMin ≤ t.unix) (h2 : t.unix ≤ unixMax) (hn : t.nanos < 1000000000) :
    ∃ txt, formatEpochSeconds t = some txt ∧ parseEpochSeconds txt = some ⟨t.unix, t.nanos, 0⟩ := by
  obtain ⟨txt, hf, hE⟩ := formatEpochSeconds_epochText t
  exact ⟨txt, hf, (parseEpoch_eq _ _ hE).trans (epochFromNanos_of t.unix t.nanos h1 h2 hn)⟩

theorem splitSign_digits (neg : Bool) {ip : Bytes} {a : Nat} (hip : Digits ip a) (rest : Bytes) :
    splitSign (signBytes neg ++ (ip ++ rest)) = (neg, ip ++ rest) := by
  obtain ⟨c, r, rfl, hd⟩ := digits_cons hip
  have h45 : c ≠ 45 := digit_ne c hd 45 (by decide)
  cases neg
  · simp [signBytes, splitSign, h45]
  · simp [signBytes, splitSign]

theorem readDecimal_digits (neg : Bool) {ip : Bytes} {a : Nat} (hip : Digits ip a) :
    readDecimal (signBytes neg ++ ip) = some (signedInt neg a, 0) ∧
    ∀ {fp : Bytes} {b : Nat}, Digits fp b →
      readDecimal (signBytes neg ++ (ip ++ 46 :: fp)) = some (signedInt neg (a * 10 ^ fp.length + b), fp.length) := by
  have hall := digitsVal_all_digits hip.2
  have hi := (digitsOpt_iff ip a).mpr hip
  refine ⟨?_, fun {fp b} hfp => ?_⟩
  · have hs := splitSign_digits neg hip []
    rw [List.append_nil] at hs
    simp only [readDecimal, hs, takeWhile_all hall, hi, List.drop_length, Nat.pow_zero, Nat.mul_one, Nat.add_zero,
      signedInt]
  · have htw : (ip ++ 46 :: fp).takeWhile isDigit = ip := (span_cons hall (by decide)).1
    have hdr : (ip ++ 46 :: fp).drop ip.length = 46 :: fp := List.drop_left
    simp only [readDecimal, splitSign_digits neg hip, htw, hi, hdr, (digitsOpt_iff fp b).mpr hfp, if_true,
      Option.map_some, signedInt]

/-- `S` seconds and a fraction of value `v` over `P = 10^k`, that is `N = v · Q` nanoseconds where `P · Q = 10^9`: the
    numeral `S · P + v` scaled to nanoseconds is the nanosecond count scaled by `P` -/
theorem scale_nat (S N v P Q : Nat) (hv : v * Q = N) : (S * P + v) * (P * Q) = (S * (P * Q) + N) * P := by
  rw [← hv, Nat.add_mul, Nat.add_mul]
  congr 1 <;> ac_rfl

/-- a text of the grammar is the decimal number of seconds that its nanosecond count says: with the text read as
    `num / 10^k`, `num · 10^9 = n · 10^k` -/
theorem epochText_denotes {txt : Bytes} {n : Int} (h : EpochText txt n) :
    ∃ num k, readDecimal txt = some (num, k) ∧ num * 1000000000 = n * ((10 ^ k : Nat) : Int) := by
  cases h with
  | @whole neg ip a hip =>
    refine ⟨_, _, (readDecimal_digits neg hip).1, ?_⟩
    rw [Nat.pow_zero, Int.natCast_one, Int.mul_one]
    exact signedInt_mul neg a 1000000000
  | @frac neg ip fp a b hip hfp hlen =>
    refine ⟨_, _, (readDecimal_digits neg hip).2 hfp, ?_⟩
    have hnat := scale_nat a (b * 10 ^ (9 - fp.length)) b (10 ^ fp.length) (10 ^ (9 - fp.length)) rfl
    rw [← Nat.pow_add, show fp.length + (9 - fp.length) = 9 by omega] at hnat
    exact (signedInt_mul neg _ 1000000000).trans ((congrArg (signedInt neg) hnat).trans (signedInt_mul neg _ _).symm)

theorem epoch_format_denotes (t : Ts) :
    ∃ txt, formatEpochSeconds t = some txt ∧ DenotesInstant txt t.unix t.nanos := by
  obtain ⟨txt, hf, hE⟩ := formatEpochSeconds_epochText t
  exact ⟨txt, hf, epochText_denotes hE⟩

end S3V.Dto
