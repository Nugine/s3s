import S3V.Spec.Xml
import S3V.Thm.XmlUtf8
/-!
Line ends (XML 1.0 §2.11): what `xml/de.rs` does to a text piece or a CDATA section (`Xml.normText` /
`Xml.normLineEnds`: nothing without a CR, otherwise `replace("\r\n", "\n")` then `replace('\r', "\n")`; code since
d365e05) is the specification's one-pass `XmlSpec.normEol`, and it keeps UTF-8 valid.
-/
namespace S3V.XmlSpec
open S3V S3V.Xml

/-! ### `normEol`, one byte at a time -/

theorem normEol_nil : normEol [] = [] := rfl

theorem normEol_cr_lf (r : Bytes) : normEol (13 :: 10 :: r) = 10 :: normEol r := by
  simp [normEol]

theorem normEol_lf (r : Bytes) : normEol (10 :: r) = 10 :: normEol r := by
  simp [normEol]

theorem normEol_cr {r : Bytes} (h : r.head? ≠ some 10) : normEol (13 :: r) = 10 :: normEol r := by
  cases r with
  | nil => simp [normEol]
  | cons b r' =>
    have hb : b ≠ 10 := by intro hb; subst hb; simp at h
    rw [normEol.eq_3 _ (by intro r'' heq; injection heq with h1 _; exact hb h1)]  -- the arm `13 :: r`

theorem normEol_other {c : UInt8} (hc : c ≠ 13) (r : Bytes) : normEol (c :: r) = c :: normEol r := by
  rw [normEol.eq_4 _ _ (by intro r' h1 _; exact hc h1) (by intro h1; exact hc h1)]  -- the arm `c :: r`

/-- what one byte becomes in front of `cs`: the `g` of `eolExpansion` -/
def eolByte (c : UInt8) (cs : Bytes) : Bytes :=
  if c = 13 then (if cs.head? = some 10 then [] else [10]) else [c]

theorem normEol_cons (c : UInt8) (cs : Bytes) : normEol (c :: cs) = eolByte c cs ++ normEol cs := by
  unfold eolByte
  by_cases hc : c = 13
  · subst hc
    by_cases hh : cs.head? = some 10
    · cases cs with
      | nil => simp at hh
      | cons b r =>
        simp only [List.head?_cons, Option.some.injEq] at hh
        subst hh
        simp [normEol_cr_lf, normEol_lf]
    · simp [hh, normEol_cr hh]
  · simp [hc, normEol_other hc]

theorem normEol_eq_self : ∀ {x : Bytes}, (∀ c ∈ x, c ≠ 13) → normEol x = x
  | [], _ => rfl
  | c :: cs, h => by
    rw [normEol_other (h c (by simp)), normEol_eq_self (fun d hd => h d (by simp [hd]))]

theorem mem_eolByte {x c : UInt8} {cs : Bytes} (h : x ∈ eolByte c cs) : x = 10 ∨ x = c ∧ c ≠ 13 := by
  unfold eolByte at h
  split at h
  · split at h
    · cases h
    · exact Or.inl (List.mem_singleton.mp h)
  · exact Or.inr ⟨List.mem_singleton.mp h, ‹_›⟩

theorem normEol_noCr : ∀ (x : Bytes), ∀ c ∈ normEol x, c ≠ 13
  | [], c, hc => by simp [normEol_nil] at hc
  | b :: bs, c, hc => by
    rw [normEol_cons, List.mem_append] at hc
    rcases hc with hc | hc
    · rcases mem_eolByte hc with rfl | ⟨rfl, hb⟩
      · decide
      · exact hb
    · exact normEol_noCr bs c hc

/-! ### the two `str::replace` passes of the code are `normEol` -/

theorem replace_eq_normEol (x : Bytes) : replaceCrByLf (replaceCrLf x) = normEol x := by
  -- along `replace("\r\n", "\n")`: a CR LF pair, or one byte, which the second pass turns into LF if it is a CR
  fun_induction replaceCrLf x with
  | case1 => rfl
  | case2 r ih => rw [replaceCrByLf, if_neg (by decide), ih, normEol_cr_lf]
  | case3 c r hne ih =>
    rw [replaceCrByLf, ih]
    by_cases hc : c = 13
    · subst hc
      rw [if_pos rfl, normEol_cr fun h => by
        obtain ⟨r', rfl⟩ : ∃ r', r = 10 :: r' := by cases r <;> simp_all
        exact hne r' rfl rfl]
    · rw [if_neg hc, normEol_other hc]

/-- the code's test for "nothing to do" -/
theorem normEol_of_not_contains {x : Bytes} (h : ¬ x.contains 13 = true) : normEol x = x :=
  normEol_eq_self fun _ hc e => h (List.contains_iff_mem.mpr (e ▸ hc))

/-- **`normalize_line_ends` of `xml/de.rs` is the line-end normalisation of XML 1.0 §2.11** -/
theorem normLineEnds_eq_normEol (x : Bytes) : normLineEnds x = normEol x := by
  unfold normLineEnds
  split
  · exact replace_eq_normEol x
  · exact (normEol_of_not_contains ‹_›).symm

/-- … and so is `normalize_text` on every text piece that is UTF-8 -/
theorem normText_eq_normEol {x : Bytes} (hv : utf8Valid x = true) : normText x = normEol x := by
  simp only [normText, hv, if_true, normLineEnds_eq_normEol]
  split
  · rfl
  · exact (normEol_of_not_contains ‹_›).symm

/-! ### the normalisation is an `Expansion`, so it keeps UTF-8 valid -/

def eolExpansion : Expansion where
  f := normEol
  g := eolByte
  nil := rfl
  cons := normEol_cons
  ascii := by
    intro c cs hc x hx
    rcases mem_eolByte hx with rfl | ⟨rfl, _⟩
    · decide
    · exact hc
  high := by
    intro c cs hc
    have : c ≠ 13 := by intro h; subst h; simp at hc
    simp [eolByte, this]

theorem utf8Valid_normEol {b : Bytes} (h : utf8Valid b = true) : utf8Valid (normEol b) = true :=
  utf8Valid_expand eolExpansion h

end S3V.XmlSpec
