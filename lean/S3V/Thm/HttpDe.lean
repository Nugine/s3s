import S3V.Spec.HttpBinding
import S3V.Thm.ListLemmas
/-! Lemmas: decoding an encoded input gives the input back.

A statement of `deserialize_http` reads one *field* of the request: the values under its wire name on its side (header
lines or query pairs). `decodeAll` succeeds with the slots `ss` as soon as every statement finds in its field exactly
the encoded values of its slot (`decodeAll_of_fields`), and the Smithy encoding puts into the field of a member exactly
that member's values when no two members share a side and a name (`getAll_allK`). -/
namespace S3V.HttpDeThm
open S3V.HttpDe S3V.HttpBinding

variable {V : Type}

theorem getAll_append (l₁ l₂ : List (Name × Bytes)) (n : Name) :
    getAll (l₁ ++ l₂) n = getAll l₁ n ++ getAll l₂ n := by
  simp [getAll, List.filter_append]

theorem getAll_foreign (B : List (Name × Bytes)) (n : Name) (h : ∀ p ∈ B, p.1 ≠ n) : getAll B n = [] := by
  simp only [getAll, List.map_eq_nil_iff, List.filter_eq_nil_iff]
  intro p hp
  simpa using h p hp

/-- names are pairwise distinct: a name holds the one value it is listed with -/
theorem getAll_of_nodup : ∀ {l : List (Name × Bytes)}, (l.map (·.1)).Nodup → ∀ {n : Name} {v : Bytes}, (n, v) ∈ l →
    getAll l n = [v]
  | p :: l, hn, n, v, h => by
    obtain ⟨hp, hn⟩ := List.nodup_cons.mp hn
    rw [← List.singleton_append, getAll_append]
    rcases List.mem_cons.mp h with rfl | h
    · rw [getAll_foreign l n fun q hq he => hp (List.mem_map.mpr ⟨q, hq, he⟩)]
      simp [getAll]
    · rw [getAll_foreign [p] n fun q hq he => hp (List.mem_map.mpr ⟨_, h, (List.mem_singleton.mp hq ▸ he).symm⟩),
        getAll_of_nodup hn h]
      rfl

theorem getAll_pairs {α : Type} (w n : Name) (f : α → Bytes) (xs : List α) :
    getAll (xs.map fun x => (w, f x)) n = if w = n then xs.map f else [] := by
  induction xs with
  | nil => simp [getAll]
  | cons x xs ih =>
    simp only [getAll] at ih
    by_cases h : w = n
    · simp only [getAll, List.map_cons, List.filter_cons, beq_iff_eq, h, if_true, List.cons.injEq, true_and] at ih ⊢
      exact ih
    · simp only [getAll, List.map_cons, List.filter_cons, beq_iff_eq, h, if_false] at ih ⊢
      exact ih

/-- the values a request holds under a name, among its header lines (`true`) or its query pairs (`false`; a URI
    without query string holds none) -/
def field (r : Req) : Bool → Name → List Bytes
  | true, n => getAll r.headers n
  | false, n => getAll (r.query.getD []) n

abbrev side (b : EB V) : Bool := isHeaderKind b.bind.kind

theorem mapM_dec_enc (b : EB V) (vs : List V) (h : ∀ v ∈ vs, b.bind.dec (b.enc v) = some v) :
    (vs.map b.enc).mapM b.bind.dec = some vs :=
  (mapM_map b.bind.dec b.enc id vs h).trans (by rw [List.map_id])

theorem flatMap_lineItems (b : EB V) : ∀ (vs : List V), (∀ v ∈ vs, lineItems (b.enc v) = [b.enc v]) →
    (vs.map b.enc).flatMap lineItems = vs.map b.enc
  | [], _ => rfl
  | v :: vs, h => by
    simp only [List.map_cons, List.flatMap_cons, h v List.mem_cons_self]
    rw [flatMap_lineItems b vs (fun v' hv' => h v' (List.mem_cons_of_mem _ hv'))]
    rfl

-- the header readers are these equations by `rfl` (`field r true n` is `getAll r.headers n`); the query readers first look at
-- `r.query`
theorem parseQuery_field (dec : Bytes → Option V) (r : Req) (n : Name) :
    parseQuery dec r n = match field r false n with
      | [] => .error .missingQuery
      | [v] => match dec v with
        | some a => .ok a
        | none => .error .invalidQuery
      | _ :: _ :: _ => .error .duplicateQuery := by
  unfold parseQuery field
  cases r.query <;> rfl

theorem parseOptQuery_field (dec : Bytes → Option V) (r : Req) (n : Name) :
    parseOptQuery dec r n = match field r false n with
      | [] => .ok none
      | [v] => match dec v with
        | some a => .ok (some a)
        | none => .error .invalidQuery
      | _ :: _ :: _ => .error .duplicateQuery := by
  unfold parseOptQuery field
  cases r.query <;> rfl

theorem decodeOne_ok (r : Req) (b : EB V) (s : Slot V) (hc : Conforms b s)
    (hf : field r (side b) b.bind.wire = (slotValues s).map b.enc) : decodeOne r b.bind = .ok s := by
  obtain ⟨hshape, hdec⟩ := hc
  -- the shape clause of `Conforms` leaves one kind of slot for each kind of binding
  cases hk : b.bind.kind <;> cases s <;> simp only [hk] at hshape <;>
    simp only [side, hk, isHeaderKind, field, slotValues] at hf hdec <;> simp only [decodeOne, hk]
  · -- `reqHeader`, `one`
    rw [parseHeader, hf]
    simp only [List.map, hdec _ (List.mem_singleton_self _)]
    rfl
  · -- `optHeader`, `opt`
    rename_i o
    rw [parseOptHeader, hf]
    cases o with
    | none => rfl
    | some v =>
      simp only [List.map, hdec v (List.mem_singleton_self _)]
      rfl
  · -- `listHeader`, `many`
    rename_i req vs
    simp only [parseListHeader, hf, flatMap_lineItems b vs hshape.2, mapM_dec_enc b vs hdec]
    cases req with
    | false => rfl
    | true =>
      cases vs with
      | nil => exact absurd rfl (hshape.1 rfl)
      | cons _ _ => rfl
  · -- `reqQuery`, `one`
    rw [parseQuery_field, field, hf]
    simp only [List.map, hdec _ (List.mem_singleton_self _)]
    rfl
  · -- `optQuery`, `opt`
    rename_i o
    rw [parseOptQuery_field, field, hf]
    cases o with
    | none => rfl
    | some v =>
      simp only [List.map, hdec v (List.mem_singleton_self _)]
      rfl

theorem decodeAll_of_fields (r : Req) : ∀ (bs : List (EB V)) (ss : List (Slot V)), Conf bs ss →
    (∀ b s, (b, s) ∈ bs.zip ss → field r (side b) b.bind.wire = (slotValues s).map b.enc) →
    decodeAll r (bs.map (·.bind)) = .ok ss
  | [], [], _, _ => rfl
  | [], _ :: _, hc, _ => hc.elim
  | _ :: _, [], hc, _ => hc.elim
  | b :: bs, s :: ss, hc, hf => by
    simp only [List.map_cons, decodeAll, decodeOne_ok r b s hc.1 (hf b s (by simp)),
      decodeAll_of_fields r bs ss hc.2 fun b' s' h => hf b' s' (by simp [h])]

/-- `encH` and `encQ` as one function of the side `k`, so that `field_encode` and `getAll_allK` are proved once for both -/
def encK (k : Bool) (b : EB V) (s : Slot V) : List (Name × Bytes) :=
  if side b = k then (slotValues s).map (fun v => (b.bind.wire, b.enc v)) else []

/-- `allH` (`k = true`) and `allQ` (`k = false`) -/
def allK (k : Bool) : List (EB V) → List (Slot V) → List (Name × Bytes)
  | b :: bs, s :: ss => encK k b s ++ allK k bs ss
  | _, _ => []

theorem encQ_eq (b : EB V) (s : Slot V) : encQ b s = encK false b s := by
  simp only [encQ, encK, side]
  by_cases h : isHeaderKind b.bind.kind = true <;> simp [h]

theorem allH_eq : ∀ (bs : List (EB V)) (ss : List (Slot V)), allH bs ss = allK true bs ss
  | [], _ => rfl
  | _ :: _, [] => rfl
  -- `encH b s` unfolds to `encK true b s`
  | b :: bs, s :: ss => congrArg (encH b s ++ ·) (allH_eq bs ss)

theorem allQ_eq : ∀ (bs : List (EB V)) (ss : List (Slot V)), allQ bs ss = allK false bs ss
  | [], _ => rfl
  | _ :: _, [] => rfl
  | b :: bs, s :: ss => by rw [allQ, allK, encQ_eq, allQ_eq bs ss]

theorem field_encode (extraH extraQ : List (Name × Bytes)) (bs : List (EB V)) (ss : List (Slot V)) (k : Bool)
    (n : Name) : field (encode extraH extraQ bs ss) k n =
      getAll (if k then extraH else extraQ) n ++ getAll (allK k bs ss) n := by
  cases k
  · simp only [field, encode, Option.getD_some, getAll_append, allQ_eq]; rfl
  · simp only [field, encode, getAll_append, allH_eq]; rfl

theorem getAll_encK (k : Bool) (b : EB V) (s : Slot V) (n : Name) :
    getAll (encK k b s) n = if side b = k ∧ b.bind.wire = n then (slotValues s).map b.enc else [] := by
  rw [encK]
  by_cases hk : side b = k
  · simp only [hk, if_true, true_and]
    exact getAll_pairs _ _ _ _
  · simp [hk, getAll]

theorem getAll_allK_none (k : Bool) (n : Name) : ∀ (bs : List (EB V)) (ss : List (Slot V)),
    (∀ b ∈ bs, side b = k → b.bind.wire ≠ n) → getAll (allK k bs ss) n = []
  | [], _, _ => rfl
  | _ :: _, [], _ => rfl
  | b :: bs, s :: ss, h => by
    rw [allK, getAll_append, getAll_encK, if_neg fun hb => h b List.mem_cons_self hb.1 hb.2,
      getAll_allK_none k n bs ss fun b' hb' => h b' (List.mem_cons_of_mem _ hb')]
    rfl

theorem getAll_allK : ∀ (bs : List (EB V)) (ss : List (Slot V)), Distinct bs → ∀ b s, (b, s) ∈ bs.zip ss →
    getAll (allK (side b) bs ss) b.bind.wire = (slotValues s).map b.enc
  | [], _, _, _, _, h => by simp at h
  | _ :: _, [], _, _, _, h => by simp at h
  | b₀ :: bs, s₀ :: ss, hd, b, s, h => by
    obtain ⟨hd₀, hd⟩ := List.pairwise_cons.mp hd
    rw [allK, getAll_append, getAll_encK]
    rcases List.mem_cons.mp h with he | ht
    · cases he
      rw [if_pos ⟨rfl, rfl⟩, getAll_allK_none _ _ bs ss fun b' hb' hk => (hd₀ b' hb' hk.symm).symm,
        List.append_nil]
    · rw [if_neg fun hb => hd₀ b (List.of_mem_zip ht).1 hb.1 hb.2, getAll_allK bs ss hd b s ht]
      rfl

end S3V.HttpDeThm
