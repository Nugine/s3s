import S3V.Spec.SigV2
import S3V.Thm.BytesText
/-!
# Lemmas: the string to sign determines its six components (C11)

`render` writes method, Content-MD5, Content-Type and Date each followed by `\n`, then one line
`name:value\n` per canonical `x-amz-` header, then the resource. No component but the last can contain
`\n`, header names contain no `:` and start with `x`, the resource starts with `/`: so the text splits
back uniquely.
-/
namespace S3V.SigV2Spec
open S3V

/-- side conditions under which a view can be read back from its rendering -/
def View.ok (v : View) : Bool :=
  v.method.all (· ≠ 10) && v.contentMd5.all (· ≠ 10) && v.contentType.all (· ≠ 10) && v.date.all (· ≠ 10)
    && v.amz.all (fun h => h.1.head? = some 120 && h.1.all (fun c => c ≠ 58 && c ≠ 10) && h.2.all (· ≠ 10))
    && v.resource.head? = some 47

theorem split_unique (c : UInt8) {a a' x x' : Bytes} (ha : a.all (· ≠ c) = true) (ha' : a'.all (· ≠ c) = true)
    (h : a ++ c :: x = a' ++ c :: x') : a = a' ∧ x = x' :=
  have key : ∀ {l : Bytes}, l.all (· ≠ c) = true → c ∉ l := fun hl hm =>
    of_decide_eq_true (List.all_eq_true.mp hl c hm) rfl
  append_cons_inj (key ha) (key ha') h

/-- what `View.ok` asks of a canonical `x-amz-` pair -/
def lineOk (h : Bytes × Bytes) : Bool :=
  h.1.head? = some 120 && h.1.all (fun c => c ≠ 58 && c ≠ 10) && h.2.all (· ≠ 10)

theorem lineOk_elim {h : Bytes × Bytes} (ok : lineOk h = true) :
    h.1.head? = some 120 ∧ h.1.all (· ≠ 58) = true ∧ h.2.all (· ≠ 10) = true := by
  simp only [lineOk, List.all_eq_true, Bool.and_eq_true, decide_eq_true_eq] at ok ⊢
  exact ⟨ok.1.1, fun c hc => (ok.1.2 c hc).1, ok.2⟩

theorem head?_amzLine {h : Bytes × Bytes} (ok : lineOk h = true) (x : Bytes) : (amzLine h ++ x).head? = some 120 := by
  obtain ⟨n, v⟩ := h
  cases n with
  | nil => cases (lineOk_elim ok).1
  | cons c cs => exact (lineOk_elim ok).1

/-- name and value are read back from a line: the name has no `:`, the value no `\n` -/
theorem amzLine_unique {h h' : Bytes × Bytes} {x x' : Bytes} (ok : lineOk h = true) (ok' : lineOk h' = true)
    (e : amzLine h ++ x = amzLine h' ++ x') : h = h' ∧ x = x' := by
  obtain ⟨-, hn, hv⟩ := lineOk_elim ok
  obtain ⟨-, hn', hv'⟩ := lineOk_elim ok'
  simp only [amzLine, List.append_assoc, List.cons_append, List.nil_append] at e
  obtain ⟨e1, e⟩ := split_unique 58 hn hn' e
  obtain ⟨e2, e⟩ := split_unique 10 hv hv' e
  exact ⟨Prod.ext e1 e2, e⟩

/-- the header block ends where the resource begins: a line starts with `x`, the resource with `/` -/
theorem amz_block_unique {l l' : List (Bytes × Bytes)} {res res' : Bytes}
    (hl : l.all lineOk = true) (hl' : l'.all lineOk = true)
    (hr : res.head? = some 47) (hr' : res'.head? = some 47)
    (h : l.flatMap amzLine ++ res = l'.flatMap amzLine ++ res') : l = l' ∧ res = res' := by
  induction l generalizing l' with
  | nil =>
    cases l' with
    | nil => exact ⟨rfl, h⟩
    | cons p ps =>
      rw [List.all_cons, Bool.and_eq_true] at hl'
      have := congrArg List.head? h
      rw [List.flatMap_cons, List.append_assoc, head?_amzLine hl'.1, List.flatMap_nil, List.nil_append, hr] at this
      cases this
  | cons p ps ih =>
    rw [List.all_cons, Bool.and_eq_true] at hl
    cases l' with
    | nil =>
      have := congrArg List.head? h
      rw [List.flatMap_cons, List.append_assoc, head?_amzLine hl.1, List.flatMap_nil, List.nil_append, hr'] at this
      cases this
    | cons p' ps' =>
      rw [List.all_cons, Bool.and_eq_true] at hl'
      rw [List.flatMap_cons, List.flatMap_cons, List.append_assoc, List.append_assoc] at h
      obtain ⟨e, h⟩ := amzLine_unique hl.1 hl'.1 h
      obtain ⟨es, hres⟩ := ih hl.2 hl'.2 h
      exact ⟨by rw [e, es], hres⟩

theorem render_injective {v v' : View} (hv : v.ok = true) (hv' : v'.ok = true) (h : render v = render v') :
    v = v' := by
  obtain ⟨m, md5, ct, d, amz, res⟩ := v
  obtain ⟨m', md5', ct', d', amz', res'⟩ := v'
  simp only [View.ok, Bool.and_eq_true, decide_eq_true_eq] at hv hv'
  obtain ⟨⟨⟨⟨⟨h1, h2⟩, h3⟩, h4⟩, h5⟩, h6⟩ := hv
  obtain ⟨⟨⟨⟨⟨h1', h2'⟩, h3'⟩, h4'⟩, h5'⟩, h6'⟩ := hv'
  simp only [render, List.append_assoc, List.cons_append] at h
  obtain ⟨e1, g1⟩ := split_unique 10 h1 h1' h
  obtain ⟨e2, g2⟩ := split_unique 10 h2 h2' g1
  obtain ⟨e3, g3⟩ := split_unique 10 h3 h3' g2
  obtain ⟨e4, g4⟩ := split_unique 10 h4 h4' g3
  obtain ⟨e5, e6⟩ := amz_block_unique h5 h5' h6 h6' g4
  subst e1 e2 e3 e4 e5 e6
  rfl

end S3V.SigV2Spec
