import S3V.Thm.Utf8Prefix
/-!
# What the UTF-8 encoder writes for a scalar value is one sequence for it

`utf8EncodeOne c` is a `Utf8Seq` for `c` (`seq_encodeOne`), hence well-formed (`utf8Valid_encodeOne`).
-/
namespace S3V

theorem toNat_cont {n : Nat} (h : n < 64) : (UInt8.ofNat (0x80 + n)).toNat = 0x80 + n :=
  toNat_ofNat_lt (by omega)

theorem isCont_cont {n : Nat} (h : n < 64) : isCont (UInt8.ofNat (0x80 + n)) = true := by
  simp only [isCont, toNat_cont h, decide_eq_true_eq]
  omega

/-! The sequences `utf8EncodeOne` builds, from 6-bit digits `x y z w` of the scalar value. (`0xC0 + x - 0xC0` is
cancelled before `omega` sees it: a truncated difference under a product sends it into deep recursion.) -/

theorem seq_two {x w cp : Nat} (hlo : 2 ≤ x) (hx : x < 32) (hw : w < 64) (hcp : cp = x * 64 + w) :
    Utf8Seq (UInt8.ofNat (0xC0 + x)) [UInt8.ofNat (0x80 + w)] cp := by
  have e0 := toNat_ofNat_lt (show 0xC0 + x < 256 by omega)
  refine .two ?_ ?_ (isCont_cont hw) ?_
  all_goals simp only [e0, toNat_cont hw, Nat.add_sub_cancel_left]
  all_goals omega

theorem seq_three {x z w cp : Nat} (hx : x < 16) (hz : z < 64) (hw : w < 64) (hcp : cp = x * 4096 + z * 64 + w)
    (hlo : 0x800 ≤ cp) (hsur : ¬ (0xD800 ≤ cp ∧ cp ≤ 0xDFFF)) :
    Utf8Seq (UInt8.ofNat (0xE0 + x)) [UInt8.ofNat (0x80 + z), UInt8.ofNat (0x80 + w)] cp := by
  have e0 := toNat_ofNat_lt (show 0xE0 + x < 256 by omega)
  refine .three ?_ ?_ (isCont_cont hz) (isCont_cont hw) ?_ hlo hsur
  all_goals simp only [e0, toNat_cont hz, toNat_cont hw, Nat.add_sub_cancel_left]
  all_goals omega

theorem seq_four {x y z w cp : Nat} (hx : x < 5) (hy : y < 64) (hz : z < 64) (hw : w < 64)
    (hcp : cp = x * 262144 + y * 4096 + z * 64 + w) (hlo : 0x10000 ≤ cp) (hhi : cp ≤ 0x10FFFF) :
    Utf8Seq (UInt8.ofNat (0xF0 + x)) [UInt8.ofNat (0x80 + y), UInt8.ofNat (0x80 + z), UInt8.ofNat (0x80 + w)] cp := by
  have e0 := toNat_ofNat_lt (show 0xF0 + x < 256 by omega)
  refine .four ?_ ?_ (isCont_cont hy) (isCont_cont hz) (isCont_cont hw) ?_ hlo hhi
  all_goals simp only [e0, toNat_cont hy, toNat_cont hz, toNat_cont hw, Nat.add_sub_cancel_left]
  all_goals omega

theorem seq_encodeOne {c : Nat} (h1 : c ≤ 0x10FFFF) (h2 : ¬ (0xD800 ≤ c ∧ c ≤ 0xDFFF)) :
    ∃ b0 mid, utf8EncodeOne c = b0 :: mid ∧ Utf8Seq b0 mid c := by
  have h64 : (64 : Nat) > 0 := by decide
  unfold utf8EncodeOne
  split
  · have hs := Utf8Seq.one (b0 := UInt8.ofNat c) (by rw [toNat_ofNat_lt (by omega)]; omega)
    rw [toNat_ofNat_lt (by omega)] at hs
    exact ⟨_, _, rfl, hs⟩
  split
  · exact ⟨_, _, rfl, seq_two (by omega) (by omega) (Nat.mod_lt _ h64) (by omega)⟩
  split
  · exact ⟨_, _, rfl, seq_three (by omega) (Nat.mod_lt _ h64) (Nat.mod_lt _ h64) (by omega) (by omega) h2⟩
  · exact ⟨_, _, rfl, seq_four (by omega) (Nat.mod_lt _ h64) (Nat.mod_lt _ h64) (Nat.mod_lt _ h64) (by omega)
      (by omega) h1⟩

theorem utf8Valid_encodeOne {c : Nat} (h1 : c ≤ 0x10FFFF) (h2 : ¬ (0xD800 ≤ c ∧ c ≤ 0xDFFF)) :
    utf8Valid (utf8EncodeOne c) = true := by
  obtain ⟨b0, mid, he, hs⟩ := seq_encodeOne h1 h2
  exact he ▸ hs.valid

end S3V
