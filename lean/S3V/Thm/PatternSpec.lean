import S3V.Spec.Pattern
/-!
# Lemmas: the wildcard specification by itself

`Matches` read at the head of the pattern, one equation for each arm of `specMatch`; `specMatch_iff`, the executable
reference decides `Matches`, rewrites with them.
-/
namespace S3V.PatternSpec
open S3V

theorem Matches.nil_iff {s : List Sym} : Matches [] s ↔ s = [] :=
  ⟨fun h => by cases h; rfl, fun h => h ▸ .nil⟩

theorem Matches.cons_nil {c p} (hc : c ≠ star) : ¬ Matches (c :: p) [] := by
  intro h; cases h with
  | starSkip _ => exact hc rfl

theorem Matches.cons_cons_iff {c p d s} (hc : c ≠ star) :
    Matches (c :: p) (d :: s) ↔ (c = d ∨ c = qm) ∧ Matches p s := by
  constructor
  · intro h
    cases h with
    | starSkip _ => exact absurd rfl hc
    | starTake _ => exact absurd rfl hc
    | any1 h => exact ⟨.inr rfl, h⟩
    | lit _ h => exact ⟨.inl rfl, h⟩
  · rintro ⟨rfl | rfl, h⟩
    · exact .lit hc h
    · exact .any1 h

theorem Matches.star_nil {p : List Sym} : Matches (star :: p) [] ↔ Matches p [] :=
  ⟨fun h => by cases h with | starSkip h => exact h, .starSkip⟩

theorem Matches.star_cons {p : List Sym} {d : Sym} {s : List Sym} :
    Matches (star :: p) (d :: s) ↔ Matches p (d :: s) ∨ Matches (star :: p) s := by
  constructor
  · intro h
    cases h with
    | starSkip h => exact .inl h
    | starTake h => exact .inr h
    | lit hc _ => exact absurd rfl hc
  · rintro (h | h)
    · exact .starSkip h
    · exact .starTake h

theorem Matches.star_inv {p s} (h : Matches (star :: p) s) : ∃ u r, s = u ++ r ∧ Matches p r := by
  induction s with
  | nil => exact ⟨[], [], rfl, star_nil.mp h⟩
  | cons d s ih =>
    rcases star_cons.mp h with h | h
    · exact ⟨[], _, rfl, h⟩
    · obtain ⟨u, r, rfl, hr⟩ := ih h
      exact ⟨d :: u, r, rfl, hr⟩

theorem Matches.star_append {p r : List Sym} (u : List Sym) (h : Matches (star :: p) r) :
    Matches (star :: p) (u ++ r) := by
  induction u with
  | nil => exact h
  | cons _ _ ih => exact .starTake ih

theorem specMatch_iff (p s : List Sym) : specMatch p s = true ↔ Matches p s := by
  fun_induction specMatch p s with
  | case1 => simp [Matches.nil_iff]
  | case2 => simp [Matches.nil_iff]
  | case3 c p ih =>
    by_cases hc : c = star
    · subst hc; simp [Matches.star_nil, ih]
    · simp [hc, Matches.cons_nil hc]
  | case4 c p d s hc ih1 ih2 =>
    have hc : c = star := by simpa using hc
    subst hc
    simp [Matches.star_cons, ih1, ih2]
  | case5 c p d s hc ih =>
    have hc : c ≠ star := by simpa using hc
    simp [Matches.cons_cons_iff hc, ih]

end S3V.PatternSpec
