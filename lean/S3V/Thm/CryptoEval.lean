import S3V.Crypto.All
/-!
# Forms of the checksum and hash functions that the kernel evaluates quickly

The executable definitions index into arrays (`t[i]!`, `w.push x`); the kernel unfolds every access down to list
operations on unevaluated push chains, which is what evaluating a test vector mostly pays for. The lemmas here restate
the same computations without that plumbing. `S3V/Thm/CryptoKat.lean` evaluates the published vectors on these forms.
-/
namespace S3V.Crypto

theorem crcTable_getElem! (poly : UInt32) {i : Nat} (h : i < 256) :
    (crcTable poly)[i]! = crcTableEntry poly i := by
  simp [crcTable, h]

/-- a table lookup is the eight shift-and-xor steps it tabulates -/
theorem crcUpdate_crcTable (poly crc : UInt32) (b : UInt8) :
    crcUpdate (crcTable poly) crc b =
      crcTableEntry poly ((crc ^^^ b.toUInt32) &&& 0xff).toNat ^^^ (crc >>> 8) := by
  have h : ((crc ^^^ b.toUInt32) &&& 0xff).toNat < 256 := by
    rw [UInt32.toNat_and]
    exact Nat.lt_succ_of_le Nat.and_le_right
  rw [crcUpdate, crcTable_getElem! poly h]

theorem size_eq_length (ba : ByteArray) : ba.size = ba.data.toList.length := by
  rw [Array.length_toList, ByteArray.size_data]

theorem get!_eq_getElem (ba : ByteArray) {j : Nat} (h : j < ba.size) :
    ba.get! j = ba.data.toList[j]'(by simpa using h) := by
  cases ba with
  | mk bs => exact (getElem!_pos bs j h).trans (Array.getElem_toList h).symm

/-- counting from the end of an array is counting from the front of its reversed list -/
theorem getElem!_back (w : Array UInt32) {k : Nat} (h : k < w.size) :
    w[w.size - (k + 1)]! = w.toList.reverse[k]! := by
  have h1 : w.size - (k + 1) < w.size := by omega
  have h2 : k < w.toList.reverse.length := by simpa using h
  rw [getElem!_pos w _ h1, getElem!_pos w.toList.reverse k h2, List.getElem_reverse]
  simp only [Array.length_toList, Array.getElem_toList, Nat.sub_sub, Nat.add_comm 1 k]

/-- the first `n` big-endian words of a byte list: what `sha256Load` / `sha1Load` read from the block at `off` -/
def be32Words : Nat → List UInt8 → List UInt32
  | n + 1, a :: b :: c :: d :: r =>
    ((a.toUInt32 <<< 24) ||| (b.toUInt32 <<< 16) ||| (c.toUInt32 <<< 8) ||| d.toUInt32) :: be32Words n r
  | _, _ => []

theorem be32Words_drop (ba : ByteArray) (n k : Nat) (h : k + 4 * (n + 1) ≤ ba.size) :
    be32Words (n + 1) (ba.data.toList.drop k) = be32 ba k :: be32Words n (ba.data.toList.drop (k + 4)) := by
  have hl := size_eq_length ba
  rw [List.drop_eq_getElem_cons (by omega), List.drop_eq_getElem_cons (by omega),
    List.drop_eq_getElem_cons (by omega), List.drop_eq_getElem_cons (by omega), be32Words, be32,
    get!_eq_getElem ba (by omega), get!_eq_getElem ba (by omega), get!_eq_getElem ba (by omega),
    get!_eq_getElem ba (by omega)]

theorem be32Words_length (n : Nat) (l : List UInt8) (h : 4 * n ≤ l.length) : (be32Words n l).length = n := by
  induction n generalizing l with
  | zero => cases l <;> rfl
  | succ n ih =>
    match l, h with
    | a :: b :: c :: d :: r, h => simp [be32Words, ih r (by simp at h; omega)]

theorem pushZeros_toList (n : Nat) (ba : ByteArray) :
    (pushZeros n ba).data.toList = ba.data.toList ++ List.replicate n 0 := by
  induction n generalizing ba with
  | zero => simp [pushZeros]
  | succ n ih => simp [pushZeros, ih, List.replicate_succ]

/-- `mdPad · true` (length big-endian, as SHA-1 and SHA-256 use it) on lists -/
def mdPadBE (msg : Bytes) : Bytes :=
  let bits := UInt64.ofNat (msg.length * 8)
  msg ++ (0x80 : UInt8) :: (List.replicate ((119 - msg.length % 64) % 64) (0 : UInt8) ++
    [(bits >>> 56).toUInt8, (bits >>> 48).toUInt8, (bits >>> 40).toUInt8, (bits >>> 32).toUInt8,
     (bits >>> 24).toUInt8, (bits >>> 16).toUInt8, (bits >>> 8).toUInt8, bits.toUInt8])

theorem mdPad_toList (msg : Bytes) : (mdPad msg.toByteArray true).data.toList = mdPadBE msg := by
  simp only [mdPad, mdPadBE, if_true, ByteArray.data_push, Array.toList_push, pushZeros_toList,
    List.data_toByteArray, List.size_toByteArray, List.append_assoc, List.cons_append, List.nil_append]

/-! ## what SHA-1 and SHA-256 share: the message schedule and the loop over blocks -/

/-- a message schedule, newest word first: the window a recurrence looks back into is the head of the list -/
def sched (next : List UInt32 → UInt32) : Nat → List UInt32 → List UInt32
  | 0, r => r
  | n + 1, r => sched next n (next r :: r)

theorem sched_length (next : List UInt32 → UInt32) (n : Nat) (r : List UInt32) :
    (sched next n r).length = n + r.length := by
  induction n generalizing r with
  | zero => simp [sched]
  | succ n ih => simp [sched, ih]; omega

/-- an array loop that pushes `next` of what it has, `n` times, computes `sched next n` -/
theorem expand_eq {expand : Nat → Nat → Array UInt32 → Array UInt32} {next : List UInt32 → UInt32}
    (h0 : ∀ i w, expand 0 i w = w)
    (hs : ∀ n w, 16 ≤ w.size → expand (n + 1) w.size w = expand n (w.size + 1) (w.push (next w.toList.reverse)))
    (n : Nat) {i : Nat} (w : Array UInt32) (hi : i = w.size) (h : 16 ≤ i) :
    expand n i w = (sched next n w.toList.reverse).reverse.toArray := by
  induction n generalizing i w with
  | zero => simp [h0, sched]
  | succ n ih =>
    subst hi
    rw [hs n w h, ih _ (Array.size_push _).symm (by omega), sched, Array.toList_push, List.reverse_append]
    rfl

/-- `sha256Blocks` / `sha1Blocks` on the rest of the message as a list: `n` blocks of 64 bytes, `block` the compression of one -/
def blocksL {σ : Type} (block : σ → List UInt8 → σ) : Nat → List UInt8 → σ → σ
  | 0, _, s => s
  | n + 1, l, s => blocksL block n (l.drop 64) (block s l)

theorem blocks_eq {σ : Type} {blocks : Nat → Nat → σ → σ} {compress : σ → Nat → σ} {block : σ → List UInt8 → σ}
    (ba : ByteArray) (h0 : ∀ off s, blocks 0 off s = s)
    (hs : ∀ n off s, blocks (n + 1) off s = blocks n (off + 64) (compress s off))
    (hc : ∀ s off, off + 64 ≤ ba.size → compress s off = block s (ba.data.toList.drop off))
    (n off : Nat) (s : σ) (h : off + 64 * n ≤ ba.size) :
    blocks n off s = blocksL block n (ba.data.toList.drop off) s := by
  induction n generalizing off s with
  | zero => rw [h0, blocksL]
  | succ n ih => rw [hs, blocksL, hc s off (by omega), ih (off + 64) _ (by omega), List.drop_drop]

/-- the recurrence of `sha256Expand` on the newest-first window: `r[k]` is the schedule word `w[i-1-k]` -/
def sha256Next (r : List UInt32) : UInt32 :=
  let x := r[14]!
  let y := r[1]!
  let s0 := rotr32 x 7 ^^^ rotr32 x 18 ^^^ (x >>> 3)
  let s1 := rotr32 y 17 ^^^ rotr32 y 19 ^^^ (y >>> 10)
  r[15]! + s0 + r[6]! + s1

theorem sha256Load_eq (ba : ByteArray) (off n i : Nat) (w : Array UInt32) (h : off + 4 * (i + n) ≤ ba.size) :
    sha256Load ba off n i w = w ++ (be32Words n (ba.data.toList.drop (off + 4 * i))).toArray := by
  induction n generalizing i w with
  | zero => simp [sha256Load, be32Words]
  | succ n ih =>
    rw [sha256Load, ih (i + 1) _ (by omega), be32Words_drop ba n _ (by omega)]
    simp [Nat.mul_add, Nat.add_assoc]

theorem sha256Expand_eq (n : Nat) {i : Nat} (w : Array UInt32) (hi : i = w.size) (h : 16 ≤ i) :
    sha256Expand n i w = (sched sha256Next n w.toList.reverse).reverse.toArray := by
  refine expand_eq (fun _ _ => rfl) (fun n w h => ?_) n w hi h
  rw [sha256Expand, sha256Next, getElem!_back w (k := 15) (by omega), getElem!_back w (k := 14) (by omega),
    getElem!_back w (k := 6) (by omega), getElem!_back w (k := 1) (by omega)]

/-- `sha256Rounds` with the round constants and the schedule words consumed from two lists instead of indexed -/
def sha256RoundsL : List UInt32 → List UInt32 → (a b c d e f g h : UInt32) → Sha256State
  | k :: ks, x :: xs, a, b, c, d, e, f, g, h =>
    let S1 := rotr32 e 6 ^^^ rotr32 e 11 ^^^ rotr32 e 25
    let ch := (e &&& f) ^^^ (~~~e &&& g)
    let t1 := h + S1 + ch + k + x
    let S0 := rotr32 a 2 ^^^ rotr32 a 13 ^^^ rotr32 a 22
    let mj := (a &&& b) ^^^ (a &&& c) ^^^ (b &&& c)
    let t2 := S0 + mj
    sha256RoundsL ks xs (t1 + t2) a b c (d + t1) e f g
  | _, _, a, b, c, d, e, f, g, h => ⟨a, b, c, d, e, f, g, h⟩

theorem sha256Rounds_eq (w : Array UInt32) (n i : Nat) (hn : i + n = w.size) (hk : w.size ≤ sha256K.size)
    (a b c d e f g h : UInt32) :
    sha256Rounds w n i a b c d e f g h =
      sha256RoundsL (sha256K.toList.drop i) (w.toList.drop i) a b c d e f g h := by
  induction n generalizing i a b c d e f g h with
  | zero =>
    rw [List.drop_of_length_le (l := w.toList) (by simp; omega), sha256Rounds]
    cases sha256K.toList.drop i <;> rfl
  | succ n ih =>
    have hk' : i < sha256K.toList.length := by simp; omega
    have hw' : i < w.toList.length := by simp; omega
    rw [sha256Rounds, List.drop_eq_getElem_cons hk', List.drop_eq_getElem_cons hw', sha256RoundsL,
      ih (i + 1) (by omega), getElem!_pos sha256K i (by omega), getElem!_pos w i (by omega)]
    simp only [Array.getElem_toList]

/-- `sha256Compress` on a list that starts with the 64 bytes of the block -/
def sha256BlockL (s : Sha256State) (l : List UInt8) : Sha256State :=
  let r := sha256RoundsL sha256K.toList (sched sha256Next 48 (be32Words 16 l).reverse).reverse
    s.a s.b s.c s.d s.e s.f s.g s.h
  ⟨s.a + r.a, s.b + r.b, s.c + r.c, s.d + r.d, s.e + r.e, s.f + r.f, s.g + r.g, s.h + r.h⟩

theorem sha256Compress_eq (s : Sha256State) (ba : ByteArray) (off : Nat) (h : off + 64 ≤ ba.size) :
    sha256Compress s ba off = sha256BlockL s (ba.data.toList.drop off) := by
  have hl := size_eq_length ba
  have h16 : (be32Words 16 (ba.data.toList.drop off)).length = 16 :=
    be32Words_length 16 _ (by rw [List.length_drop]; omega)
  rw [sha256Compress, sha256Load_eq ba off 16 0 _ (by omega)]
  simp only [Nat.mul_zero, Nat.add_zero, Array.emptyWithCapacity_eq, Array.empty_append]
  rw [sha256Expand_eq 48 _ (by simp [h16]) (by omega),
    sha256Rounds_eq _ 64 0 (by simp [sched_length, h16]) (by simp [sched_length, h16, sha256K])]
  simp only [List.drop_zero, sha256BlockL]

-- by `eq_def`: the kernel, asked to check this equation by unfolding, compares `s` with `sha256Compress s ba off`
-- on its way and runs out of stack
theorem sha256Blocks_succ (ba : ByteArray) (n off : Nat) (s : Sha256State) :
    sha256Blocks ba (n + 1) off s = sha256Blocks ba n (off + 64) (sha256Compress s ba off) := by
  rw [sha256Blocks.eq_def ba (n + 1)]

theorem sha256_eq (msg : Bytes) :
    sha256 msg = sha256Out (blocksL sha256BlockL ((mdPadBE msg).length / 64) (mdPadBE msg) sha256Init) := by
  rw [sha256, sha256BA, blocks_eq (blocks := sha256Blocks _) _ (fun _ _ => rfl) (sha256Blocks_succ _)
    (fun s off => sha256Compress_eq s _ off) _ 0 _ (by omega), List.drop_zero, size_eq_length, mdPad_toList]

/-- the recurrence of `sha1Expand`, on the newest-first window -/
def sha1Next (r : List UInt32) : UInt32 := rotl32 (r[2]! ^^^ r[7]! ^^^ r[13]! ^^^ r[15]!) 1

theorem sha1Load_eq_sha256Load (ba : ByteArray) (off n i : Nat) (w : Array UInt32) :
    sha1Load ba off n i w = sha256Load ba off n i w := by
  induction n generalizing i w with
  | zero => rfl
  | succ n ih => rw [sha1Load, sha256Load, ih]

theorem sha1Expand_eq (n : Nat) {i : Nat} (w : Array UInt32) (hi : i = w.size) (h : 16 ≤ i) :
    sha1Expand n i w = (sched sha1Next n w.toList.reverse).reverse.toArray := by
  refine expand_eq (fun _ _ => rfl) (fun n w h => ?_) n w hi h
  rw [sha1Expand, sha1Next, getElem!_back w (k := 2) (by omega), getElem!_back w (k := 7) (by omega),
    getElem!_back w (k := 13) (by omega), getElem!_back w (k := 15) (by omega)]

/-- `sha1Rounds` from round `i` on, the schedule words consumed from a list -/
def sha1RoundsL : Nat → List UInt32 → (a b c d e : UInt32) → Sha1State
  | i, x :: xs, a, b, c, d, e =>
    let f : UInt32 :=
      if i < 20 then (b &&& c) ||| (~~~b &&& d)
      else if i < 40 then b ^^^ c ^^^ d
      else if i < 60 then (b &&& c) ||| (b &&& d) ||| (c &&& d)
      else b ^^^ c ^^^ d
    let k : UInt32 :=
      if i < 20 then 0x5a827999 else if i < 40 then 0x6ed9eba1
      else if i < 60 then 0x8f1bbcdc else 0xca62c1d6
    let t := rotl32 a 5 + f + e + k + x
    sha1RoundsL (i + 1) xs t a (rotl32 b 30) c d
  | _, [], a, b, c, d, e => ⟨a, b, c, d, e⟩

theorem sha1Rounds_eq (w : Array UInt32) (n i : Nat) (hn : i + n = w.size) (a b c d e : UInt32) :
    sha1Rounds w n i a b c d e = sha1RoundsL i (w.toList.drop i) a b c d e := by
  induction n generalizing i a b c d e with
  | zero => rw [List.drop_of_length_le (by simp; omega), sha1Rounds, sha1RoundsL]
  | succ n ih =>
    have hw' : i < w.toList.length := by simp; omega
    rw [sha1Rounds, List.drop_eq_getElem_cons hw', sha1RoundsL, ih (i + 1) (by omega),
      getElem!_pos w i (by omega)]
    simp only [Array.getElem_toList]

/-- `sha1Compress` on a list that starts with the 64 bytes of the block -/
def sha1BlockL (s : Sha1State) (l : List UInt8) : Sha1State :=
  let r := sha1RoundsL 0 (sched sha1Next 64 (be32Words 16 l).reverse).reverse s.a s.b s.c s.d s.e
  ⟨s.a + r.a, s.b + r.b, s.c + r.c, s.d + r.d, s.e + r.e⟩

theorem sha1Compress_eq (s : Sha1State) (ba : ByteArray) (off : Nat) (h : off + 64 ≤ ba.size) :
    sha1Compress s ba off = sha1BlockL s (ba.data.toList.drop off) := by
  have hl := size_eq_length ba
  have h16 : (be32Words 16 (ba.data.toList.drop off)).length = 16 :=
    be32Words_length 16 _ (by rw [List.length_drop]; omega)
  rw [sha1Compress, sha1Load_eq_sha256Load, sha256Load_eq ba off 16 0 _ (by omega)]
  simp only [Nat.mul_zero, Nat.add_zero, Array.emptyWithCapacity_eq, Array.empty_append]
  rw [sha1Expand_eq 64 _ (by simp [h16]) (by omega), sha1Rounds_eq _ 80 0 (by simp [sched_length, h16])]
  simp only [List.drop_zero, sha1BlockL]

-- by `eq_def`, for the reason given at `sha256Blocks_succ`
theorem sha1Blocks_succ (ba : ByteArray) (n off : Nat) (s : Sha1State) :
    sha1Blocks ba (n + 1) off s = sha1Blocks ba n (off + 64) (sha1Compress s ba off) := by
  rw [sha1Blocks.eq_def ba (n + 1)]

theorem sha1_eq (msg : Bytes) :
    sha1 msg = sha1Out (blocksL sha1BlockL ((mdPadBE msg).length / 64) (mdPadBE msg) sha1Init) := by
  rw [sha1, sha1BA, blocks_eq (blocks := sha1Blocks _) _ (fun _ _ => rfl) (sha1Blocks_succ _)
    (fun s off => sha1Compress_eq s _ off) _ 0 _ (by omega), List.drop_zero, size_eq_length, mdPad_toList]

end S3V.Crypto
