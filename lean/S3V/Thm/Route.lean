import S3V.Spec.Route
/-!
# Certified checkers for the route table

`checkRules` walks an arm's rule list symbolically for one operation: every rule that is not the operation's own
must be *refuted* by `Denotes` (one of its atoms cannot hold), the operation's own rule may fire (then the answer
is right) and must fire if all its atoms are *forced* by `Denotes`. Soundness is proved once, by induction on the
rule list, for every table; the table obligation `∀ op, checkOp op = true` is then decided by kernel evaluation
on the regenerated table. The converse direction (`checkArm`) and the facts other modules need about whatever the
router answers (`answers`, `answers_table`) follow from `resolveRules_some`.
-/
namespace S3V.RouteThm
open S3V.Gen S3V.Route S3V.RouteSpec

/-- under `Denotes s`, the atom cannot hold -/
def refuted (s : OpSpec) : Atom → Bool
  | .qHas k => !allowedQ s k
  | .qPat k v => !allowedQ s k || s.litPats.any (fun kv => kv.1 == k && kv.2 != v)
  | .hHas h => !allowedH s h

/-- under `Denotes s`, the atom must hold -/
def forced (s : OpSpec) : Atom → Bool
  | .qHas k => s.litFlags.contains k || (s.litPats.map (·.1)).contains k || s.reqQ.contains k
  | .qPat k v => s.litPats.contains (k, v)
  | .hHas h => s.reqH.contains h

theorem refuted_sound {s r a} (hd : Denotes s r) (h : refuted s a = true) : Atom.holds r a = false := by
  cases a with
  | qHas k =>
    simp only [refuted, Bool.not_eq_true'] at h
    simp only [Atom.holds, decide_eq_false_iff_not, Decidable.not_not]
    by_cases hk : r.q k = .absent
    · exact hk
    · have := hd.onlyQ k hk; rw [h] at this; cases this
  | qPat k v =>
    simp only [Atom.holds, decide_eq_false_iff_not]
    intro hq
    simp only [refuted, Bool.or_eq_true, Bool.not_eq_true', List.any_eq_true, Bool.and_eq_true, beq_iff_eq,
      bne_iff_ne, ne_eq] at h
    rcases h with h | ⟨kv, hkv, hk, hv⟩
    · have := hd.onlyQ k (by rw [hq]; intro hc; cases hc); rw [h] at this; cases this
    · have := hd.pats kv hkv
      rw [hk, hq] at this
      injection this with this
      exact hv this.symm
  | hHas h' =>
    simp only [refuted, Bool.not_eq_true'] at h
    simp only [Atom.holds]
    cases hh : r.h h' with
    | false => rfl
    | true => have := hd.onlyH h' hh; rw [h] at this; cases this

theorem forced_sound {s r a} (hd : Denotes s r) (h : forced s a = true) : Atom.holds r a = true := by
  cases a with
  | qHas k =>
    simp only [forced, Bool.or_eq_true, List.contains_iff_mem, List.mem_map] at h
    simp only [Atom.holds, decide_eq_true_eq]
    rcases h with (h | ⟨kv, hkv, hk⟩) | h
    · exact hd.flags k h
    · have := hd.pats kv hkv; rw [hk] at this; rw [this]; intro hc; cases hc
    · exact hd.reqQ k h
  | qPat k v =>
    simp only [forced, List.contains_iff_mem] at h
    simp only [Atom.holds, decide_eq_true_eq]
    exact hd.pats (k, v) h
  | hHas h' =>
    simp only [forced, List.contains_iff_mem] at h
    exact hd.reqH h' h

/-- symbolic walk for operation `op` expecting the buffered-body flag `full`: a rule of another operation must be
    refuted; the operation's own rule may fire (the answer is then right), so it need not be forced, provided the walk
    behind it ends in `op` as well -/
def checkRules (s : OpSpec) (op : Op) (full : Bool) : List Rule → Option (Op × Bool) → Bool
  | [], d => d == some (op, full)
  | rule :: rest, d =>
    if rule.op == op && rule.full == full then
      rule.conds.all (forced s) || checkRules s op full rest d
    else
      rule.conds.any (refuted s) && checkRules s op full rest d

theorem checkRules_sound {s op full r} (hd : Denotes s r) (rules : List Rule) (d : Option (Op × Bool))
    (h : checkRules s op full rules d = true) : resolveRules r rules d = some (op, full) := by
  fun_induction checkRules s op full rules d
  next d => simpa [resolveRules] using h
  next rule rest d hown ih =>
    -- the operation's own rule: it fires, or not all its atoms were forced and the walk went on
    simp only [Bool.and_eq_true, beq_iff_eq] at hown
    rw [resolveRules]
    split
    · rw [hown.1, hown.2]
    · rename_i hfire
      refine ih (((Bool.or_eq_true _ _).mp h).resolve_left fun hf => hfire ?_)
      exact List.all_eq_true.mpr fun a ha => forced_sound hd (List.all_eq_true.mp hf a ha)
  next rule rest d _ ih =>
    -- another operation's rule: one of its atoms is refuted, so it does not fire
    simp only [Bool.and_eq_true, List.any_eq_true] at h
    obtain ⟨⟨a, ha, hr⟩, hrest⟩ := h
    rw [resolveRules, if_neg fun hall => by
      have := List.all_eq_true.mp hall a ha
      rw [refuted_sound hd hr] at this
      cases this]
    exact ih hrest

/-- the per-operation table obligation -/
def checkOp (op : Op) : Bool :=
  let s := smithySpec op
  checkRules s op (usesBufferedBody op) (routeTable s.method s.pk).rules (routeTable s.method s.pk).dflt

theorem checkOp_sound {op r} (h : checkOp op = true) (hd : Denotes (smithySpec op) r) :
    resolve r = some (op, usesBufferedBody op) := by
  unfold resolve
  rw [hd.method, hd.pk]
  exact checkRules_sound hd _ _ h

/-! ## Converse direction: whatever the router answers is weakly denoted -/

/-- the rule's atoms carry the literal parts of its operation's Smithy URI and its required discriminating headers -/
def ruleCarries (s : OpSpec) (conds : List Atom) : Bool :=
  s.litFlags.all (fun k => conds.any fun a => match a with
    | .qHas k' => k' == k
    | .qPat k' _ => k' == k
    | _ => false)
  && s.litPats.all (fun kv => conds.contains (.qPat kv.1 kv.2))
  && s.reqH.all (fun h => conds.contains (.hHas h))

/-- every rule and the default of arm `(m, pk)` belong to an operation of that method and path kind and carry its
    literal parts -/
def checkArm (m : Meth) (pk : PK) : Bool :=
  let arm := routeTable m pk
  arm.rules.all (fun rule =>
    let s := smithySpec rule.op
    s.method == m && s.pk == pk && ruleCarries s rule.conds)
  && (match arm.dflt with
      | none => true
      | some (op, _) =>
        let s := smithySpec op
        s.method == m && s.pk == pk && ruleCarries s [])

theorem ruleCarries_sound {s : OpSpec} {conds r} (hc : ruleCarries s conds = true)
    (hall : conds.all (Atom.holds r) = true) :
    (∀ k ∈ s.litFlags, r.q k ≠ .absent) ∧ (∀ kv ∈ s.litPats, r.q kv.1 = .once kv.2) ∧
      (∀ h ∈ s.reqH, r.h h = true) := by
  simp only [ruleCarries, Bool.and_eq_true, List.all_eq_true] at hc
  rw [List.all_eq_true] at hall
  obtain ⟨⟨h1, h2⟩, h3⟩ := hc
  refine ⟨?_, ?_, ?_⟩
  · intro k hk
    have := h1 k hk
    rw [List.any_eq_true] at this
    obtain ⟨a, ha, hm⟩ := this
    have hh := hall a ha
    cases a with
    | qHas k' =>
      simp only [beq_iff_eq] at hm; subst hm
      simpa [Atom.holds] using hh
    | qPat k' v =>
      simp only [beq_iff_eq] at hm; subst hm
      simp only [Atom.holds, decide_eq_true_eq] at hh
      rw [hh]; intro hc; cases hc
    | hHas _ => cases hm
  · intro kv hkv
    have := h2 kv hkv
    rw [List.contains_iff_mem] at this
    simpa [Atom.holds] using hall _ this
  · intro h hh
    have := h3 h hh
    rw [List.contains_iff_mem] at this
    simpa [Atom.holds] using hall _ this

theorem resolveRules_some {r : RReq} {rules : List Rule} {d : Option (Op × Bool)} {q : Op × Bool}
    (h : resolveRules r rules d = some q) :
    (∃ rule ∈ rules, rule.conds.all (Atom.holds r) = true ∧ (rule.op, rule.full) = q) ∨ d = some q := by
  induction rules with
  | nil => exact Or.inr h
  | cons rule rest ih =>
    unfold resolveRules at h
    split at h
    · rename_i hfire
      exact Or.inl ⟨rule, List.mem_cons_self, hfire, Option.some.inj h⟩
    · rcases ih h with ⟨x, hx, hh⟩ | hd
      · exact Or.inl ⟨x, List.mem_cons_of_mem _ hx, hh⟩
      · exact Or.inr hd

theorem checkArm_sound {r op b} (h : checkArm r.method r.pk = true) (hres : resolve r = some (op, b)) :
    WeaklyDenotes (smithySpec op) r := by
  simp only [checkArm, Bool.and_eq_true, List.all_eq_true, beq_iff_eq] at h
  rcases resolveRules_some hres with ⟨rule, hm, hfire, hq⟩ | hd
  · obtain ⟨⟨h1, h2⟩, h3⟩ := h.1 rule hm
    cases hq
    obtain ⟨f, p, hh⟩ := ruleCarries_sound h3 hfire
    exact ⟨h1.symm, h2.symm, f, p, hh⟩
  · have h2 := h.2
    rw [hd] at h2
    simp only [Bool.and_eq_true, beq_iff_eq] at h2
    obtain ⟨f, p, hh⟩ := ruleCarries_sound (r := r) h2.2 rfl
    exact ⟨h2.1.1.symm, h2.1.2.symm, f, p, hh⟩

/-- an obligation on every arm of the router is one evaluation along the eighteen (method, path kind) pairs:
    `forall_arm (by decide +kernel)` -/
theorem forall_arm {p : Meth → PK → Prop}
    (h : ∀ m ∈ [Meth.GET, .PUT, .POST, .DELETE, .HEAD, .other], ∀ pk ∈ [PK.root, .bucket, .object], p m pk)
    (m : Meth) (pk : PK) : p m pk :=
  h m (by cases m <;> decide) pk (by cases pk <;> decide)

/-- what an arm of the router can answer -/
def answers (a : Arm) : List (Op × Bool) := a.rules.map (fun rule => (rule.op, rule.full)) ++ a.dflt.toList

theorem resolve_mem_answers {r : RReq} {q : Op × Bool} (h : resolve r = some q) :
    q ∈ answers (routeTable r.method r.pk) := by
  rcases resolveRules_some h with ⟨rule, hm, _, hq⟩ | hd
  · exact List.mem_append_left _ (List.mem_map.mpr ⟨rule, hm, hq⟩)
  · exact List.mem_append_right _ (Option.mem_toList.mpr hd)

/-- every answer of every arm of the generated router (regenerated tables): the flag is set exactly for an
    operation whose decoder takes a buffered body, and the operation unwraps the path kind of the arm or, in the
    arms for the root and for buckets, none. The second case is there for the two operations without a label:
    `ListBuckets` (root arm) and `WriteGetObjectResponse`, which `resolve_route` files under `POST` on a bucket
    although its URI is a literal path; no object arm answers either of them. -/
theorem answers_table : ∀ (m : Meth) (pk : PK), ∀ q ∈ answers (routeTable m pk),
    q.2 = usesBufferedBody q.1 ∧ (unwrapsKind q.1 = pk ∨ unwrapsKind q.1 = .root ∧ pk ≠ .object) :=
  forall_arm (by decide +kernel)

theorem resolve_answer {r : RReq} {op : Op} {full : Bool} (h : resolve r = some (op, full)) :
    full = usesBufferedBody op ∧ (unwrapsKind op = r.pk ∨ unwrapsKind op = .root ∧ r.pk ≠ .object) :=
  answers_table r.method r.pk (op, full) (resolve_mem_answers h)

/-- an operation reached through arm `(m, pk)` unwraps exactly that path kind (or none), and an operation taking
    a buffered body is reached only with the full-body flag. The Boolean of `C01_unwrap_and_body_consistent` only;
    `answers_table` implies it and is the form lemmas use. -/
def armConsistent (m : Meth) (pk : PK) : Bool :=
  let ok := fun (op : Op) (full : Bool) =>
    (unwrapsKind op == pk || unwrapsKind op == .root) && (!usesBufferedBody op || full)
  (routeTable m pk).rules.all (fun rule => ok rule.op rule.full)
    && (match (routeTable m pk).dflt with
        | none => true
        | some (op, full) => ok op full)

end S3V.RouteThm
