import S3V.Spec.Chunked
/-!
# Lemmas about the reference decoder alone (no frames, no model)

`verdict` is the cascade of checks behind the readers of one round, `Stop … bs r` says why a round at `bs` delivers nothing
and ends the body with `r` (five ways). One round stops or finds a chunk that passes the checks (`round_cases`); over that,
`decodeR_eq_iff`: the decoder delivers `d` and ends with `r` exactly when the input is verified non-final chunks with data `d`,
within the declared length, followed by bytes at which a round stops with `r` (backward `decodeGo_run`, forward
`decodeGo_of_run`). The model's stream enters in `Thm/Chunked.lean` (its readers) and `Thm/ChunkedRefine.lean` (`run_refines`).
-/
namespace S3V.ChunkedSpec
open S3V

theorem splitLine_of_not_mem {bs : Bytes} (h : (10 : UInt8) ∉ bs) : splitLine bs = none := by
  induction bs with
  | nil => rfl
  | cons c cs ih =>
    rw [List.mem_cons, not_or] at h
    rw [splitLine, if_neg (Ne.symm h.1), ih h.2]
    rfl

theorem splitLine_of_line {l0 : Bytes} (h : (10 : UInt8) ∉ l0) (r : Bytes) :
    splitLine (l0 ++ 10 :: r) = some (l0 ++ [10], r) := by
  induction l0 with
  | nil =>
    rw [List.nil_append, splitLine, if_pos rfl]
    rfl
  | cons c cs ih =>
    rw [List.mem_cons, not_or] at h
    rw [List.cons_append, splitLine, if_neg (Ne.symm h.1), ih h.2]
    rfl

theorem splitLine_eq_some {bs l r : Bytes} :
    splitLine bs = some (l, r) ↔ ∃ l0, (10 : UInt8) ∉ l0 ∧ l = l0 ++ [10] ∧ bs = l ++ r := by
  constructor
  · intro hs
    by_cases h : (10 : UInt8) ∈ bs
    · obtain ⟨l0, r', rfl, hl0⟩ := List.eq_append_cons_of_mem h
      rw [splitLine_of_line hl0, Option.some.injEq, Prod.mk.injEq] at hs
      exact ⟨l0, hl0, hs.1.symm, by rw [← hs.1, ← hs.2, List.append_assoc]; rfl⟩
    · rw [splitLine_of_not_mem h] at hs
      cases hs
  · rintro ⟨l0, hl0, rfl, rfl⟩
    rw [List.append_assoc]
    exact splitLine_of_line hl0 r

theorem splitLine_eq_none {bs : Bytes} : splitLine bs = none ↔ (10 : UInt8) ∉ bs := by
  refine ⟨fun hs h => ?_, splitLine_of_not_mem⟩
  obtain ⟨l0, r, rfl, hl0⟩ := List.eq_append_cons_of_mem h
  rw [splitLine_of_line hl0] at hs
  cases hs

theorem splitLine_append_some {a x r : Bytes} (h : splitLine a = some (x, r)) (b : Bytes) :
    splitLine (a ++ b) = some (x, r ++ b) := by
  obtain ⟨l0, hl0, hx, rfl⟩ := splitLine_eq_some.mp h
  exact splitLine_eq_some.mpr ⟨l0, hl0, hx, List.append_assoc x r b⟩

theorem splitLine_append_none {a : Bytes} (h : splitLine a = none) (b : Bytes) :
    splitLine (a ++ b) = (splitLine b).map fun (x, r) => (a ++ x, r) := by
  have ha := splitLine_eq_none.mp h
  cases hb : splitLine b with
  | none =>
    have hb' := splitLine_eq_none.mp hb
    exact splitLine_of_not_mem fun hm => (List.mem_append.mp hm).elim ha hb'
  | some p =>
    obtain ⟨x, r⟩ := p
    obtain ⟨l0, hl0, rfl, rfl⟩ := splitLine_eq_some.mp hb
    exact splitLine_eq_some.mpr ⟨a ++ l0, fun hm => (List.mem_append.mp hm).elim ha hl0,
      (List.append_assoc a l0 [10]).symm, (List.append_assoc a (l0 ++ [10]) r).symm⟩

theorem chunkBody_eq_ok {n : Nat} {rest d r : Bytes} :
    chunkBody n rest = .ok d r ↔ d.length = n ∧ rest = d ++ 13 :: 10 :: r := by
  constructor
  · intro h
    unfold chunkBody at h
    split at h
    · cases h
    · split at h
      · cases h
      · split at h
        · cases h
        · cases h
      · rename_i c1 c2 r2 hd
        split at h
        · rename_i hc
          cases h
          refine ⟨List.length_take_of_le (by omega), ?_⟩
          rw [← hc.1, ← hc.2, ← hd, List.take_append_drop]
        · cases h
  · rintro ⟨rfl, rfl⟩
    have hlen : ¬ (d ++ 13 :: 10 :: r).length < d.length := by
      rw [List.length_append]
      omega
    rw [chunkBody, if_neg hlen, List.drop_left, List.take_left]
    exact if_pos ⟨rfl, rfl⟩

theorem wireOf_cons (c : Chunk) (cs : List Chunk) : wireOf (c :: cs) = c.wire ++ wireOf cs := by
  simp [wireOf]

theorem dataOf_cons (c : Chunk) (cs : List Chunk) : dataOf (c :: cs) = c.data ++ dataOf cs := by
  simp [dataOf]

theorem wireOf_append (a b : List Chunk) : wireOf (a ++ b) = wireOf a ++ wireOf b := by
  simp [wireOf]

theorem dataOf_append (a b : List Chunk) : dataOf (a ++ b) = dataOf a ++ dataOf b := by
  simp [dataOf]

theorem verified_append (sig : Bytes → Bytes → Bytes) (prev : Bytes) (a b : List Chunk) :
    Verified sig prev (a ++ b) ↔ Verified sig prev a ∧ Verified sig (chainEnd prev a) b := by
  induction a generalizing prev with
  | nil => simp [Verified, chainEnd]
  | cons c cs ih => simp [Verified, chainEnd, ih, and_assoc]

theorem Chunk.length_wire (c : Chunk) : c.wire.length = c.line.length + c.data.length + 2 := by
  simp [Chunk.wire, crlf, Nat.add_assoc]

/-- the checks behind the readers of one round (signature, declared length, final chunk); `none`: deliver and go on -/
def verdict (sig : Bytes → Bytes → Bytes) (declared : Nat) (prev : Bytes) (total n : Nat) (s data : Bytes) :
    Option Reason :=
  if sig prev data ≠ s then some .badSignature
  else if total + n > declared then some .lengthExceeded
  else if n = 0 then some (if total = declared then .complete else .lengthShort)
  else none

section
variable {sig : Bytes → Bytes → Bytes} {declared : Nat} {prev : Bytes} {total n : Nat} {s data : Bytes}

/-- when the checks let the chunk through, and when they answer with the two reasons that come with evidence: one walk
    through the cascade -/
theorem verdict_spec :
    (verdict sig declared prev total n s data = none ↔ s = sig prev data ∧ total + n ≤ declared ∧ n ≠ 0) ∧
    (verdict sig declared prev total n s data = some .badSignature ↔ s ≠ sig prev data) ∧
    (verdict sig declared prev total n s data = some .complete ↔ s = sig prev data ∧ n = 0 ∧ total = declared) := by
  unfold verdict
  by_cases h1 : sig prev data ≠ s
  · rw [if_pos h1]
    exact ⟨iff_of_false nofun fun h' => h1 h'.1.symm, iff_of_true rfl fun e => h1 e.symm,
      iff_of_false nofun fun h' => h1 h'.1.symm⟩
  · rw [if_neg h1]
    have hs : s = sig prev data := (Decidable.not_not.mp h1).symm
    by_cases h2 : total + n > declared
    · rw [if_pos h2]
      exact ⟨iff_of_false nofun fun h' => absurd h'.2.1 (Nat.not_le.mpr h2), iff_of_false nofun (· hs),
        iff_of_false nofun fun h' => by omega⟩
    · rw [if_neg h2]
      by_cases h3 : n = 0
      · rw [if_pos h3]
        by_cases h4 : total = declared
        · rw [if_pos h4]
          exact ⟨iff_of_false nofun fun h' => h'.2.2 h3, iff_of_false nofun (· hs), iff_of_true rfl ⟨hs, h3, h4⟩⟩
        · rw [if_neg h4]
          exact ⟨iff_of_false nofun fun h' => h'.2.2 h3, iff_of_false nofun (· hs),
            iff_of_false nofun fun h' => h4 h'.2.2⟩
      · rw [if_neg h3]
        exact ⟨iff_of_true rfl ⟨hs, Nat.le_of_not_gt h2, h3⟩, iff_of_false nofun (· hs),
          iff_of_false nofun fun h' => h3 h'.2.1⟩

theorem verdict_eq_none : verdict sig declared prev total n s data = none ↔
    s = sig prev data ∧ total + n ≤ declared ∧ n ≠ 0 := verdict_spec.1

theorem verdict_badSignature : verdict sig declared prev total n s data = some .badSignature ↔ s ≠ sig prev data :=
  verdict_spec.2.1

theorem verdict_complete : verdict sig declared prev total n s data = some .complete ↔
    s = sig prev data ∧ n = 0 ∧ total = declared := verdict_spec.2.2

end

section
variable (sig : Bytes → Bytes → Bytes) (declared : Nat) (broken : Bool)

theorem decodeGo_at_chunk {c : Chunk} (hwf : c.WF) (tail : Bytes) (fuel : Nat) (prevSig : Bytes) (total : Nat) :
    decodeGo sig declared broken (fuel + 1) prevSig total (c.wire ++ tail) =
      match verdict sig declared prevSig total c.data.length c.sgn c.data with
      | some r => ([], r)
      | none => (c.data ++ (decodeGo sig declared broken fuel c.sgn (total + c.data.length) tail).1,
                 (decodeGo sig declared broken fuel c.sgn (total + c.data.length) tail).2) := by
  obtain ⟨⟨l0, hl0, hnl⟩, hp⟩ := hwf
  have hs : splitLine (c.wire ++ tail) = some (c.line, c.data ++ 13 :: 10 :: tail) :=
    splitLine_eq_some.mpr ⟨l0, hnl, hl0, by simp only [Chunk.wire, crlf, List.append_assoc]; rfl⟩
  have hcb : chunkBody c.data.length (c.data ++ 13 :: 10 :: tail) = .ok c.data tail :=
    chunkBody_eq_ok.mpr ⟨rfl, rfl⟩
  simp only [decodeGo, hs, hp, hcb]
  -- the cascade of checks is `verdict`
  unfold verdict
  by_cases h1 : sig prevSig c.data ≠ c.sgn
  · rw [if_pos h1, if_pos h1]
  · rw [if_neg h1, if_neg h1]
    by_cases h2 : total + c.data.length > declared
    · rw [if_pos h2, if_pos h2]
    · rw [if_neg h2, if_neg h2]
      by_cases h3 : c.data.length = 0
      · rw [if_pos h3, if_pos h3]
        by_cases h4 : total = declared
        · rw [if_pos h4, if_pos h4]
        · rw [if_neg h4, if_neg h4]
      · rw [if_neg h3, if_neg h3]

/-- why the round at `bs` (chain value `p`, `t` bytes accepted) delivers nothing and ends the body with the reason -/
inductive Stop (p : Bytes) (t : Nat) (bs : Bytes) : Reason → Prop
  | noLine : (10 : UInt8) ∉ bs → Stop p t bs (outOfBytes broken)
  | badHeader {line rest : Bytes} : splitLine bs = some (line, rest) → parseHeader line = none → Stop p t bs .malformedHeader
  | short {line rest s : Bytes} {n : Nat} : splitLine bs = some (line, rest) → parseHeader line = some (n, s) →
      chunkBody n rest = .short → Stop p t bs (outOfBytes broken)
  | badCrlf {line rest s : Bytes} {n : Nat} : splitLine bs = some (line, rest) → parseHeader line = some (n, s) →
      chunkBody n rest = .badCrlf → Stop p t bs .malformedCrlf
  | check {c : Chunk} {rest : Bytes} {r : Reason} : c.WF → bs = c.wire ++ rest →
      verdict sig declared p t c.data.length c.sgn c.data = some r → Stop p t bs r

variable {sig declared broken}

theorem Stop.decodeGo_eq {p : Bytes} {t : Nat} {bs : Bytes} {r : Reason} (h : Stop sig declared broken p t bs r) (fuel : Nat) :
    decodeGo sig declared broken (fuel + 1) p t bs = ([], r) := by
  cases h with
  | noLine h => rw [decodeGo, splitLine_of_not_mem h]
  | badHeader h1 h2 => simp only [decodeGo, h1, h2]
  | short h1 h2 h3 => simp only [decodeGo, h1, h2, h3]
  | badCrlf h1 h2 h3 => simp only [decodeGo, h1, h2, h3]
  | check hwf hbs hv => rw [hbs, decodeGo_at_chunk sig declared broken hwf, hv]

/-- `complete` and `badSignature` are answers of the checks alone: a body that ends with one of them ends at a well-formed
    chunk, and `verdict_complete` / `verdict_badSignature` say what holds of it -/
theorem Stop.checked {p : Bytes} {t : Nat} {bs : Bytes} {r : Reason} (h : Stop sig declared broken p t bs r)
    (hr : r = .complete ∨ r = .badSignature) :
    ∃ (c : Chunk) (rest : Bytes), c.WF ∧ bs = c.wire ++ rest ∧
      verdict sig declared p t c.data.length c.sgn c.data = some r := by
  cases h with
  | noLine | short => cases broken <;> exact nomatch hr
  | badHeader | badCrlf => exact nomatch hr
  | check hwf hbs hv => exact ⟨_, _, hwf, hbs, hv⟩

variable (sig declared broken)

/-- one round at `bs`: it stops, or a chunk that passes the checks is at the head of the input -/
theorem round_cases (p : Bytes) (t : Nat) (bs : Bytes) :
    (∃ r, Stop sig declared broken p t bs r) ∨
    ∃ (c : Chunk) (rest : Bytes), c.WF ∧ bs = c.wire ++ rest ∧
      verdict sig declared p t c.data.length c.sgn c.data = none := by
  cases hs : splitLine bs with
  | none => exact .inl ⟨_, .noLine (splitLine_eq_none.mp hs)⟩
  | some q =>
    obtain ⟨line, rest⟩ := q
    cases hp : parseHeader line with
    | none => exact .inl ⟨_, .badHeader hs hp⟩
    | some q =>
      obtain ⟨n, s⟩ := q
      cases hcb : chunkBody n rest with
      | short => exact .inl ⟨_, .short hs hp hcb⟩
      | badCrlf => exact .inl ⟨_, .badCrlf hs hp hcb⟩
      | ok d r =>
        -- the bytes read are a well-formed chunk
        obtain ⟨l0, hnl, hl0, hbs⟩ := splitLine_eq_some.mp hs
        obtain ⟨rfl, rfl⟩ := chunkBody_eq_ok.mp hcb
        have hwf : (Chunk.mk line s d).WF := ⟨⟨l0, hl0, hnl⟩, hp⟩
        have hbs : bs = (Chunk.mk line s d).wire ++ r := by
          rw [hbs, Chunk.wire, List.append_assoc, List.append_assoc]
          rfl
        cases hv : verdict sig declared p t d.length s d with
        | some r' => exact .inl ⟨r', .check hwf hbs hv⟩
        | none => exact .inr ⟨⟨line, s, d⟩, r, hwf, hbs, hv⟩

end

section
variable (sig : Bytes → Bytes → Bytes) (declared : Nat) (broken : Bool)

/-- cited by `Spec/Chunked.lean`: the fuel of the reference decoder is irrelevant -/
theorem decodeGo_fuel :
    ∀ (f1 f2 : Nat) (prevSig : Bytes) (total : Nat) (bs : Bytes), bs.length < f1 → bs.length < f2 →
      decodeGo sig declared broken f1 prevSig total bs = decodeGo sig declared broken f2 prevSig total bs := by
  intro f1
  induction f1 with
  | zero => intro f2 prevSig total bs h; omega
  | succ f1 ih =>
    intro f2 prevSig total bs h1 h2
    cases f2 with
    | zero => omega
    | succ f2 =>
      rcases round_cases sig declared broken prevSig total bs with ⟨r, hr⟩ | ⟨c, rest, hwf, rfl, hv⟩
      · rw [hr.decodeGo_eq f1, hr.decodeGo_eq f2]
      · rw [List.length_append, Chunk.length_wire] at h1 h2
        rw [decodeGo_at_chunk sig declared broken hwf, decodeGo_at_chunk sig declared broken hwf, hv,
          ih f2 c.sgn _ rest (by omega) (by omega)]

/-- backward: what a run delivered is the data of verified non-final chunks at the head of the input, within the declared
    length, and behind them the round stops for the reason the run ends with -/
theorem decodeGo_run : ∀ (fuel : Nat) (p : Bytes) (t : Nat) (bs : Bytes), bs.length < fuel → t ≤ declared →
    ∃ cs tail r, bs = wireOf cs ++ tail ∧ (∀ c ∈ cs, c.WF ∧ c.data ≠ []) ∧ Verified sig p cs ∧
      t + (dataOf cs).length ≤ declared ∧
      Stop sig declared broken (chainEnd p cs) (t + (dataOf cs).length) tail r ∧
      decodeGo sig declared broken fuel p t bs = (dataOf cs, r) := by
  intro fuel
  induction fuel with
  | zero => intro p t bs h; omega
  | succ fuel ih =>
    intro p t bs hf ht
    rcases round_cases sig declared broken p t bs with ⟨r, hr⟩ | ⟨c, rest, hwf, rfl, hv⟩
    · exact ⟨[], bs, r, rfl, nofun, trivial, ht, hr, hr.decodeGo_eq fuel⟩
    · obtain ⟨hsgn, hle, hn⟩ := verdict_eq_none.mp hv
      rw [List.length_append, Chunk.length_wire] at hf
      obtain ⟨cs, tail, r, rfl, h2, h3, h4, h5, h6⟩ := ih c.sgn (t + c.data.length) rest (by omega) hle
      have hlen : t + (dataOf (c :: cs)).length = t + c.data.length + (dataOf cs).length := by
        rw [dataOf_cons, List.length_append, Nat.add_assoc]
      refine ⟨c :: cs, tail, r, by rw [wireOf_cons, List.append_assoc],
        List.forall_mem_cons.mpr ⟨⟨hwf, fun h => hn (congrArg List.length h)⟩, h2⟩, ⟨hsgn, h3⟩, hlen ▸ h4, hlen ▸ h5, ?_⟩
      rw [decodeGo_at_chunk sig declared broken hwf, hv, h6, dataOf_cons]

/-- forward: verified non-final chunks within the declared length, then bytes at which the round stops -/
theorem decodeGo_of_run : ∀ (cs : List Chunk) (tail : Bytes) (r : Reason) (p : Bytes) (t fuel : Nat),
    (∀ c ∈ cs, c.WF ∧ c.data ≠ []) → Verified sig p cs → t + (dataOf cs).length ≤ declared →
    Stop sig declared broken (chainEnd p cs) (t + (dataOf cs).length) tail r → (wireOf cs ++ tail).length < fuel →
    decodeGo sig declared broken fuel p t (wireOf cs ++ tail) = (dataOf cs, r) := by
  intro cs
  induction cs with
  | nil =>
    intro tail r p t fuel _ _ _ hstop hf
    obtain ⟨f, rfl⟩ := Nat.exists_eq_succ_of_ne_zero (Nat.ne_of_gt (Nat.zero_lt_of_lt hf))
    exact hstop.decodeGo_eq f
  | cons c cs ih =>
    intro tail r p t fuel hwf hver hlen hstop hf
    obtain ⟨f, rfl⟩ := Nat.exists_eq_succ_of_ne_zero (Nat.ne_of_gt (Nat.zero_lt_of_lt hf))
    obtain ⟨hc, hcs⟩ := List.forall_mem_cons.mp hwf
    have hl : t + (dataOf (c :: cs)).length = t + c.data.length + (dataOf cs).length := by
      rw [dataOf_cons, List.length_append, Nat.add_assoc]
    rw [hl] at hlen hstop
    rw [wireOf_cons, List.append_assoc, List.length_append, Chunk.length_wire] at hf
    rw [wireOf_cons, List.append_assoc, decodeGo_at_chunk sig declared broken hc.1,
      verdict_eq_none.mpr ⟨hver.1, Nat.le_trans (Nat.le_add_right _ _) hlen,
        fun h => hc.2 (List.eq_nil_of_length_eq_zero h)⟩,
      ih tail r c.sgn _ f hcs hver.2 hlen hstop (by omega), dataOf_cons]

/-- **the reference decoder in one statement**: it delivers `d` and ends for the reason `r` exactly when the input is
    verified non-final chunks with data `d`, within the declared length, followed by bytes at which a round stops with `r` -/
theorem decodeR_eq_iff {seed bs d : Bytes} {r : Reason} :
    decodeR sig seed declared bs broken = (d, r) ↔
      ∃ cs tail, bs = wireOf cs ++ tail ∧ (∀ c ∈ cs, c.WF ∧ c.data ≠ []) ∧ Verified sig seed cs ∧
        (dataOf cs).length ≤ declared ∧ d = dataOf cs ∧
        Stop sig declared broken (chainEnd seed cs) (dataOf cs).length tail r := by
  constructor
  · intro h
    obtain ⟨cs, tail, r', h1, h2, h3, h4, h5, h6⟩ :=
      decodeGo_run sig declared broken _ seed 0 bs (Nat.lt_succ_self _) (Nat.zero_le _)
    rw [Nat.zero_add] at h4 h5
    obtain ⟨rfl, rfl⟩ := Prod.mk.inj (h.symm.trans h6)
    exact ⟨cs, tail, h1, h2, h3, h4, rfl, h5⟩
  · rintro ⟨cs, tail, rfl, h2, h3, h4, rfl, h5⟩
    exact decodeGo_of_run sig declared broken cs tail r seed 0 _ h2 h3 (by rwa [Nat.zero_add])
      (by rwa [Nat.zero_add]) (Nat.lt_succ_self _)

end
theorem Reason.terminal_eq_ok {r : Reason} : r.terminal = .ok ↔ r = .complete := by
  cases r <;> decide

theorem Reason.terminal_eq_signatureMismatch {r : Reason} :
    r.terminal = .signatureMismatch ↔ r = .badSignature := by
  cases r <;> decide

end S3V.ChunkedSpec
