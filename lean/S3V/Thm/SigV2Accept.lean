import S3V.Thm.SigV2Verdict
import S3V.Thm.BytesText
/-!
# Lemmas: the verdict of the model is the verdict of the specification (C11)

The V2 branches of `check` accept a request for `ak` exactly when the specification's `Accepts` holds —
for every request whose header values are `to_str` strings.

Parts: (1) the model's text helpers are the specification's (`stripPrefix_eq`, `splitOnce_eq`, `parseAuthV2_eq`, `digitsVal_eq`:
twin against twin, the specification's `allDigits` / `decValue` being recursions of their own); (2) `parse_unix_timestamp`: both
integer readers and the specification's `expiresValue` through one shape `numShape` (sign, digits), giving
`parseUnixTimestamp_eq` / `_eq_some_iff` and the clamping facts `instant_le`, `le_instant`; (3) `toPresented`: the specification's
credentials as the model holds them, `presented_ctxOf`; (4) `accept_iff_spec`; (5) about the specification alone, though in this
namespace: the executable reference is `Accepts` (`dateOk_iff`, `notExpired_iff`, `acceptedKey_iff`).
-/
namespace S3V.SigV2Thm
open S3V S3V.SigV2

theorem stripPrefix_eq (p s : Bytes) : stripPrefix p s = SigV2Spec.dropPrefix p s :=
  StripsPrefix.unique ⟨fun _ => rfl, fun _ _ => rfl, fun _ _ _ _ => rfl⟩ ⟨fun _ => rfl, fun _ _ => rfl, fun _ _ _ _ => rfl⟩ p s

theorem splitOnce_eq (sep : UInt8) (s : Bytes) : splitOnce sep s = SigV2Spec.splitFirst sep s :=
  CutsAtFirst.unique ⟨fun _ => rfl, fun c x xs => by rw [splitOnce]; cases splitOnce c xs <;> rfl⟩
    ⟨fun _ => rfl, fun _ _ _ => rfl⟩ sep s

theorem parseAuthV2_eq (v : Bytes) : parseAuthV2 v = SigV2Spec.parseAuthorization v := by
  unfold parseAuthV2 SigV2Spec.parseAuthorization
  rw [stripPrefix_eq]
  cases SigV2Spec.dropPrefix (v2b!"AWS ") v with
  | none => rfl
  | some rest => simp [splitOnce_eq]

theorem digitsVal_eq (s : Bytes) (acc : Nat) :
    digitsVal s acc = if SigV2Spec.allDigits s then some (SigV2Spec.decValue s acc) else none := by
  induction s generalizing acc with
  | nil => rfl
  | cons c cs ih =>
    simp only [digitsVal, SigV2Spec.allDigits, SigV2Spec.decValue, isDigit]
    by_cases hc : (48 ≤ c.toNat && c.toNat ≤ 57) = true
    · simp only [hc, if_true, Bool.true_and]; exact ih _
    · have : (48 ≤ c.toNat && c.toNat ≤ 57) = false := by simpa using hc
      simp [this]

theorem digits1_eq (s : Bytes) :
    digits1 s = if s ≠ [] ∧ SigV2Spec.allDigits s = true then some (SigV2Spec.decValue s 0) else none := by
  unfold digits1
  by_cases hs : s = []
  · simp [hs]
  · simp only [hs, if_false, digitsVal_eq, ne_eq, not_false_eq_true, true_and]

theorem all_isDigit_eq (s : Bytes) : s.all isDigit = SigV2Spec.allDigits s := by
  induction s with
  | nil => rfl
  | cons c cs ih => simp only [List.all_cons, SigV2Spec.allDigits, isDigit, ih]

/-! ### sign and digits

Both readers look at the first byte and then at the digits; `digits1` is what they share. -/

/-- whether the text starts with `-`, and the text after a `+` or `-` -/
def numShape : Bytes → Bool × Bytes
  | [] => (false, [])
  | c :: rest => if c = 43 then (false, rest) else if c = 45 then (true, rest) else (false, c :: rest)

theorem digits1_isSome (x : Bytes) : (digits1 x).isSome = (!x.isEmpty && x.all isDigit) := by
  rw [digits1_eq, all_isDigit_eq]
  cases x with
  | nil => rfl
  | cons c cs => cases SigV2Spec.allDigits (c :: cs) <;> rfl

theorem parseI64_shape (s : Bytes) :
    parseI64 s = (digits1 (numShape s).2).bind fun n : Nat =>
      if (numShape s).1 then (if i64Min ≤ -(n : Int) then some (-(n : Int)) else none)
      else (if (n : Int) ≤ i64Max then some (n : Int) else none) := by
  cases s with
  | nil => rfl
  | cons c rest =>
    rw [parseI64, numShape]
    by_cases h43 : c = 43
    · rw [if_pos h43, if_pos h43]
      cases digits1 rest <;> rfl
    · rw [if_neg h43, if_neg h43]
      by_cases h45 : c = 45
      · rw [if_pos h45, if_pos h45]
        cases digits1 rest <;> rfl
      · rw [if_neg h45, if_neg h45]
        cases digits1 (c :: rest) <;> rfl

theorem isDecimal_shape (s : Bytes) :
    isDecimal s = (!(numShape s).1 && (digits1 (numShape s).2).isSome) := by
  cases s with
  | nil => rfl
  | cons c rest =>
    rw [numShape, digits1_isSome, isDecimal, stripPrefix]
    by_cases h43 : c = 43
    · rw [if_pos h43, if_pos h43.symm]; rfl
    · rw [if_neg h43, if_neg (Ne.symm h43)]
      by_cases h45 : c = 45
      · rw [if_pos h45, h45]; rfl
      · rw [if_neg h45]; rfl

theorem expiresValue_shape (s : Bytes) :
    SigV2Spec.expiresValue s =
      (digits1 (numShape s).2).map fun n : Nat => if (numShape s).1 then -(n : Int) else (n : Int) := by
  cases s with
  | nil => rfl
  | cons c rest =>
    rw [SigV2Spec.expiresValue, numShape]
    by_cases h43 : c = 43
    · rw [if_pos h43, if_pos h43, digits1_eq]
      split <;> rfl
    · rw [if_neg h43, if_neg h43]
      by_cases h45 : c = 45
      · rw [if_pos h45, if_pos h45, digits1_eq]
        split <;> rfl
      · rw [if_neg h45, if_neg h45, digits1_eq]
        by_cases h : SigV2Spec.allDigits (c :: rest) = true
        · rw [if_pos h, if_pos ⟨List.cons_ne_nil _ _, h⟩]; rfl
        · rw [if_neg h, if_neg fun hh => h hh.2]; rfl

/-- every second count beyond `i64` is clamped to the same instant as `i64::MAX` -/
theorem instant_big (n : Int) (h : ¬ n ≤ i64Max) : instantOfUnixTs i64Max = instantOfUnixTs n := by
  have hmax : maxUnixTs ≤ i64Max := by decide
  unfold instantOfUnixTs
  rw [if_neg (by decide), if_neg fun hn => h (Int.le_trans hn hmax)]

theorem instant_le (e : Int) : instantOfUnixTs e ≤ e * 1000000000 := by
  unfold instantOfUnixTs maxUnixTs maxDateTimeNs
  split <;> omega

theorem le_instant (nowNs e : Int) (hclock : nowNs ≤ maxDateTimeNs) (h : nowNs ≤ e * 1000000000) :
    nowNs ≤ instantOfUnixTs e := by
  unfold instantOfUnixTs
  split
  · exact h
  · exact hclock

/-- `parse_unix_timestamp` reads the specification's integer — any decimal number, however large —, insists
    on `0 ≤ ·` and yields its instant, clamped to 9999-12-31T23:59:59.999999999Z -/
theorem parseUnixTimestamp_eq (s : Bytes) :
    parseUnixTimestamp s =
      (SigV2Spec.expiresValue s).bind fun x => if 0 ≤ x then some (instantOfUnixTs x) else none := by
  unfold parseUnixTimestamp
  rw [parseI64_shape, isDecimal_shape, expiresValue_shape]
  generalize numShape s = sh
  obtain ⟨neg, x⟩ := sh
  cases digits1 x with
  | none => cases neg <;> rfl
  | some n =>
    have h0 : (0 : Int) ≤ n := Int.natCast_nonneg n
    cases neg with
    | false =>
      -- an `i64` is taken as it is, a larger number as `i64::MAX`: both lie beyond the clock's last second
      by_cases h1 : (n : Int) ≤ i64Max
      · simp [h1, h0, Int.not_lt.mpr h0]
      · simp [h1, h0, instant_big _ h1, show ¬ i64Max < 0 by decide]
    | true =>
      -- only `-0…0` is not before the epoch
      by_cases hn : n = 0
      · subst hn
        simp [show i64Min ≤ 0 by decide]
      · by_cases hm : i64Min ≤ -(n : Int) <;> simp [hm, hn, Nat.pos_of_ne_zero hn]

theorem parseUnixTimestamp_eq_some_iff {s : Bytes} {t : Int} :
    parseUnixTimestamp s = some t ↔ ∃ e, SigV2Spec.expiresValue s = some e ∧ 0 ≤ e ∧ t = instantOfUnixTs e := by
  rw [parseUnixTimestamp_eq, Option.bind_eq_some_iff]
  refine exists_congr fun e => and_congr_right fun _ => ?_
  split
  · rename_i h0; exact ⟨fun h => ⟨h0, (Option.some.inj h).symm⟩, fun h => congrArg some h.2.symm⟩
  · rename_i h0; exact ⟨nofun, fun h => absurd h.1 h0⟩

/-- `PresignedUrlV2::parse` succeeds exactly on three unique parameters of which `Expires` reads as a time
    stamp, and returns them as the query parser delivered them -/
theorem parsePresigned_eq_some_iff (q : Pairs) (p : Presigned) :
    parsePresigned q = some p ↔
      getUnique q (v2b!"AWSAccessKeyId") = some p.accessKey ∧ getUnique q (v2b!"Signature") = some p.signature ∧
        ∃ ex, getUnique q (v2b!"Expires") = some ex ∧ parseUnixTimestamp ex = some p.expiresNs := by
  unfold parsePresigned
  split
  · rename_i ak ex sg hak hex hsg
    rw [hak, hex, hsg]
    cases ht : parseUnixTimestamp ex with
    | none =>
      constructor
      · nofun
      · rintro ⟨-, -, ex', he, ht'⟩; cases he; rw [ht] at ht'; cases ht'
    | some t =>
      constructor
      · intro h; cases h; exact ⟨rfl, rfl, ex, rfl, ht⟩
      · rintro ⟨h1, h2, ex', he, ht'⟩; cases h1; cases h2; cases he; rw [ht] at ht'; cases ht'; rfl
  · rename_i hno
    constructor
    · nofun
    · rintro ⟨h1, h2, ex, he, -⟩; exact absurd he (hno _ _ _ h1 · h2)

/-- credentials as the model holds them: an `Expires` before the epoch does not parse in the model, any
    other is held as its instant, clamped to the last one the clock can show -/
def toPresented (c : SigV2Spec.Creds) : Option Presented :=
  match c.expires with
  | some e => if 0 ≤ e then some ⟨implMode c.mode, c.accessKey, c.signature, some (instantOfUnixTs e)⟩ else none
  | none => some ⟨implMode c.mode, c.accessKey, c.signature, none⟩

theorem toPresented_eq_some_iff (c : SigV2Spec.Creds) (p : Presented) :
    toPresented c = some p ↔
      (∀ e, c.expires = some e → 0 ≤ e) ∧
        p = ⟨implMode c.mode, c.accessKey, c.signature, c.expires.map instantOfUnixTs⟩ := by
  unfold toPresented
  cases c.expires with
  | none =>
    constructor
    · intro h; exact ⟨nofun, (Option.some.inj h).symm⟩
    · rintro ⟨-, rfl⟩; rfl
  | some e =>
    dsimp only [Option.map_some]
    by_cases h0 : 0 ≤ e
    · rw [if_pos h0]
      constructor
      · intro h; exact ⟨fun e' he => by cases he; exact h0, (Option.some.inj h).symm⟩
      · rintro ⟨-, rfl⟩; rfl
    · rw [if_neg h0]
      constructor
      · intro h; cases h
      · rintro ⟨h, -⟩; exact absurd (h e rfl) h0

theorem implMode_eq_headerAuth (m : SigV2Spec.Mode) : implMode m = .headerAuth ↔ m = .header := by
  cases m <;> decide

theorem hs_ctxOf (r : SigV2Spec.Req) : (ctxOf r).hs = implHeaders r := rfl

/-- `OrderedQs::has` sees a parameter exactly when the request has a value for it -/
theorem has_query (r : SigV2Spec.Req) (n : Bytes) :
    has (sortByFirst r.query) n = decide (SigV2Spec.paramValues r n ≠ []) := by
  rw [has_sortByFirst, SigV2Spec.paramValues, Bool.eq_iff_iff]
  simp only [List.any_eq_true, decide_eq_true_eq, ne_eq, List.map_eq_nil_iff, List.filter_eq_nil_iff,
    Classical.not_forall, Decidable.not_not, exists_prop]

theorem presignedQs_ctxOf (r : SigV2Spec.Req) :
    presignedQs (ctxOf r).qs =
      if SigV2Spec.paramValues r (sp!"Signature") ≠ [] then some (sortByFirst r.query) else none := by
  simp only [ctxOf, implQs, presignedQs, has_query, decide_eq_true_eq]

/-- the shape of the code's test for a repeated header, `get_all(name).nth(1).is_some()`, as a length -/
private theorem drop_one_isEmpty (l : List Bytes) : ((l.drop 1).isEmpty = true) = ¬ l.length ≥ 2 := by
  rw [List.isEmpty_iff, List.drop_eq_nil_iff, Nat.not_le, Nat.lt_succ_iff]

theorem presented_ctxOf_query (r : SigV2Spec.Req) :
    (parsePresigned (sortByFirst r.query)).map
        (fun p => (⟨.presignedUrl, p.accessKey, p.signature, some p.expiresNs⟩ : Presented)) =
      (SigV2Spec.queryCredentials r).bind toPresented := by
  unfold parsePresigned SigV2Spec.queryCredentials
  rw [getUnique_query, getUnique_query, getUnique_query]
  generalize SigV2Spec.paramValues r (sp!"AWSAccessKeyId") = A
  generalize SigV2Spec.paramValues r (sp!"Signature") = S
  generalize SigV2Spec.paramValues r (sp!"Expires") = E
  -- none, one or several values for each; the code asks in the order key, `Expires`, signature
  rcases A with _ | ⟨ak, _ | ⟨_, _⟩⟩
  · rfl
  · rcases S with _ | ⟨sg, _ | ⟨_, _⟩⟩
    · cases theOnly E <;> rfl
    · rcases E with _ | ⟨ex, _ | ⟨_, _⟩⟩
      · rfl
      · dsimp only [theOnly]
        rw [parseUnixTimestamp_eq]
        cases SigV2Spec.expiresValue ex with
        | none => rfl
        | some e =>
          dsimp only [Option.bind_some, Option.map_some, toPresented]
          by_cases h0 : 0 ≤ e
          · rw [if_pos h0, if_pos h0]; rfl
          · rw [if_neg h0, if_neg h0]; rfl
      · rfl
    · cases theOnly E <;> rfl
  · rfl

theorem presented_ctxOf_header (r : SigV2Spec.Req) :
    (match theOnly (SigV2Spec.fieldValues r (sp!"authorization")) with
      | none => none
      | some a => (parseAuthV2 a).map fun x => (⟨.headerAuth, x.1, x.2, none⟩ : Presented)) =
      (SigV2Spec.headerCredentials r).bind toPresented := by
  unfold SigV2Spec.headerCredentials
  generalize SigV2Spec.fieldValues r (sp!"authorization") = F
  match F with
  | [] => rfl
  | [a] =>
    dsimp only [theOnly]
    rw [parseAuthV2_eq]
    cases SigV2Spec.parseAuthorization a <;> rfl
  | _ :: _ :: _ => rfl

/-- the credentials the code looks at are the credentials the specification reads off the request — for
    every request -/
theorem presented_ctxOf (r : SigV2Spec.Req) :
    presented (ctxOf r) = (SigV2Spec.credentials r).bind toPresented := by
  unfold presented SigV2Spec.credentials
  rw [presignedQs_ctxOf, hs_ctxOf, getAll_implHeaders, getUnique_implHeaders]
  simp only [drop_one_isEmpty]
  by_cases hF : (SigV2Spec.fieldValues r (sp!"authorization")).length ≥ 2
  · rw [if_neg (not_not_intro hF), if_pos hF]; rfl
  · rw [if_pos hF, if_neg hF]
    by_cases hS : SigV2Spec.paramValues r (sp!"Signature") ≠ []
    · rw [if_pos hS, if_pos hS]; exact presented_ctxOf_query r
    · rw [if_neg hS, if_neg hS]; exact presented_ctxOf_header r

private theorem not_isEmpty_eq (l : List Bytes) : (!l.isEmpty) = decide (l ≠ []) := by
  cases l <;> rfl

/-- a time stamp for the code is a time stamp for the specification: any Date line or any x-amz-date line -/
theorem hasDate_ctxOf (r : SigV2Spec.Req) : hasDate (ctxOf r) = SigV2Spec.hasDate r := by
  rw [hasDate, hs_ctxOf, getAll_implHeaders, getAll_implHeaders, not_isEmpty_eq, not_isEmpty_eq]
  rfl

theorem queryCredentials_eq_some {r : SigV2Spec.Req} {c : SigV2Spec.Creds} (h : SigV2Spec.queryCredentials r = some c) :
    c.mode = .query ∧ (SigV2Spec.paramValues r (sp!"Expires")).length = 1 := by
  unfold SigV2Spec.queryCredentials at h
  split at h
  · rename_i ak sg ex _ _ hE
    obtain ⟨e, -, rfl⟩ := Option.map_eq_some_iff.mp h
    exact ⟨rfl, by rw [hE]; rfl⟩
  · cases h

theorem headerCredentials_eq_some {r : SigV2Spec.Req} {c : SigV2Spec.Creds} (h : SigV2Spec.headerCredentials r = some c) :
    c.mode = .header := by
  unfold SigV2Spec.headerCredentials at h
  split at h
  · obtain ⟨x, -, rfl⟩ := Option.map_eq_some_iff.mp h
    rfl
  · cases h

theorem credentials_cases {r : SigV2Spec.Req} {c : SigV2Spec.Creds} (h : SigV2Spec.credentials r = some c) :
    (SigV2Spec.paramValues r (sp!"Signature") ≠ [] ∧ SigV2Spec.queryCredentials r = some c) ∨
      (¬ SigV2Spec.paramValues r (sp!"Signature") ≠ [] ∧ SigV2Spec.headerCredentials r = some c) := by
  unfold SigV2Spec.credentials at h
  split at h
  · cases h
  · split at h
    · rename_i hS; exact .inl ⟨hS, h⟩
    · rename_i hS; exact .inr ⟨hS, h⟩

theorem credentials_mode (r : SigV2Spec.Req) (c : SigV2Spec.Creds) (h : SigV2Spec.credentials r = some c) :
    c.mode = if SigV2Spec.paramValues r (sp!"Signature") ≠ [] then .query else .header := by
  rcases credentials_cases h with ⟨hS, hq⟩ | ⟨hS, hh⟩
  · rw [if_pos hS]; exact (queryCredentials_eq_some hq).1
  · rw [if_neg hS]; exact headerCredentials_eq_some hh

/-- credentials come with a request inside the region of `stsImpl_eq_stsSpec`: those read off the query
    with exactly one `Expires` -/
theorem wf_of_credentials (r : SigV2Spec.Req) (c : SigV2Spec.Creds) (h : valuesVisible r = true)
    (hc : SigV2Spec.credentials r = some c) : wf c.mode r = true := by
  rw [wf, h, Bool.true_and, expiresOnce]
  rcases credentials_cases hc with ⟨-, hq⟩ | ⟨-, hh⟩
  · rw [(queryCredentials_eq_some hq).2]; simp
  · rw [headerCredentials_eq_some hh]; rfl

/-- for every request whose header values are `to_str` strings, and with a clock reading `OffsetDateTime`
    can show (from the epoch to 9999-12-31T23:59:59.999999999Z), the code accepts a request for `ak` exactly
    when the specification does. Each bound is needed: the code refuses an `Expires` before the epoch, which the
    specification would accept from a clock before the epoch (`hnow`); it holds a far `Expires` as the last instant
    of the range, which a clock beyond the range would have passed (`hclock`). -/
theorem accept_iff_spec (hmac : Bytes → Bytes → Bytes) (b64 : Bytes → Bytes) (lookup : Bytes → Option Bytes)
    (nowNs : Int) (r : SigV2Spec.Req) (ak : Bytes) (hnow : 0 ≤ nowNs) (hclock : nowNs ≤ maxDateTimeNs)
    (h : valuesVisible r = true) :
    check hmac b64 lookup nowNs (ctxOf r) = .accept ak ↔ SigV2Spec.Accepts hmac b64 lookup nowNs r ak := by
  rw [check_accept_iff, presented_ctxOf r]
  unfold SigV2Spec.Accepts SigV2Spec.signature
  cases hc : SigV2Spec.credentials r with
  | none =>
    constructor
    · rintro ⟨p, s, hp, -⟩; cases hp
    · rintro ⟨c, s, hc', -⟩; cases hc'
  | some c =>
    have hsts : stsOf (implMode c.mode) (ctxOf r) = SigV2Spec.stringToSign c.mode r :=
      stsImpl_eq_stsSpec c.mode r (wf_of_credentials r c h hc)
    constructor
    · rintro ⟨p, secret, hp, hak, hl, hs, hd, he⟩
      obtain ⟨-, rfl⟩ := (toPresented_eq_some_iff c p).mp hp
      refine ⟨c, secret, rfl, hak, hl, ?_, ?_, ?_⟩
      · rw [← hsts]; exact hs
      · intro hm; rw [← hasDate_ctxOf]; exact hd ((implMode_eq_headerAuth _).mpr hm)
      · intro e hce
        exact Int.le_trans (he (instantOfUnixTs e) (by rw [hce]; rfl)) (instant_le e)
    · rintro ⟨c', secret, hc', hak, hl, hs, hd, he⟩
      cases hc'
      refine ⟨_, secret, (toPresented_eq_some_iff c _).mpr ⟨fun e hce => ?_, rfl⟩, hak, hl, ?_, ?_, ?_⟩
      · have := he e hce; omega
      · rw [hsts]; exact hs
      · intro hm; rw [hasDate_ctxOf]; exact hd ((implMode_eq_headerAuth _).mp hm)
      · intro t ht
        cases hce : c.expires with
        | none => rw [hce] at ht; cases ht
        | some e => rw [hce] at ht; cases ht; exact le_instant nowNs e hclock (he e hce)

theorem dateOk_iff (r : SigV2Spec.Req) (m : SigV2Spec.Mode) :
    SigV2Spec.dateOk r m = true ↔ (m = .header → SigV2Spec.hasDate r = true) := by
  cases m
  · exact ⟨fun h _ => h, fun h => h rfl⟩
  · exact ⟨fun _ h => (nomatch h), fun _ => rfl⟩

theorem notExpired_iff (nowNs : Int) (x : Option Int) :
    SigV2Spec.notExpired nowNs x = true ↔ ∀ e, x = some e → nowNs ≤ e * 1000000000 := by
  cases x with
  | none => exact ⟨fun _ _ h => (nomatch h), fun _ => rfl⟩
  | some e =>
    rw [SigV2Spec.notExpired, decide_eq_true_eq]
    exact ⟨fun h e' he => by cases he; exact h, fun h => h e rfl⟩

/-- the executable reference the driver uses is the declarative `Accepts` -/
theorem acceptedKey_iff (hmac : Bytes → Bytes → Bytes) (b64 : Bytes → Bytes) (lookup : Bytes → Option Bytes)
    (nowNs : Int) (r : SigV2Spec.Req) (ak : Bytes) :
    SigV2Spec.acceptedKey hmac b64 lookup nowNs r = some ak ↔ SigV2Spec.Accepts hmac b64 lookup nowNs r ak := by
  unfold SigV2Spec.acceptedKey SigV2Spec.Accepts
  cases SigV2Spec.credentials r with
  | none => exact ⟨nofun, fun ⟨_, _, h, _⟩ => nomatch h⟩
  | some c =>
    dsimp only
    cases hl : lookup c.accessKey with
    | none =>
      constructor
      · nofun
      · rintro ⟨c', secret, h1, h2, h3, -⟩; cases h1; rw [← h2, hl] at h3; cases h3
    | some secret =>
      dsimp only
      simp only [Bool.and_eq_true, decide_eq_true_eq, dateOk_iff, notExpired_iff]
      constructor
      · intro h
        split at h
        · rename_i hcond; cases h; exact ⟨c, secret, rfl, rfl, hl, hcond.1.1, hcond.1.2, hcond.2⟩
        · cases h
      · rintro ⟨c', secret', h1, rfl, h3, h4, h5, h6⟩
        cases h1
        rw [hl] at h3; cases h3
        rw [if_pos ⟨⟨h4, h5⟩, h6⟩]

end S3V.SigV2Thm
