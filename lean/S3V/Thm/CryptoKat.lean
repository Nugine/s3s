import S3V.Thm.CryptoEval
/-!
# Known answers of the executable crypto library, evaluated by the Lean kernel

Published vectors (FIPS 180-4 "abc" and the empty message, whose digest `S3V/Props/C05Consts.lean` compares with the code's
constant; RFC 1321 "abc"; CRC catalogue "123456789"; RFC 4231 / RFC 2202 case 2). SHA-256,
SHA-1 and the CRCs are first brought into the list forms of `S3V/Thm/CryptoEval.lean`, then `decide +kernel`; MD5 is
evaluated as defined. The bulk validation against the Rust crates is component `crypto`.
-/

namespace S3V.Crypto

theorem sha256_abc : sha256 [0x61, 0x62, 0x63] =
    [0xba, 0x78, 0x16, 0xbf, 0x8f, 0x01, 0xcf, 0xea, 0x41, 0x41, 0x40, 0xde, 0x5d, 0xae, 0x22, 0x23,
     0xb0, 0x03, 0x61, 0xa3, 0x96, 0x17, 0x7a, 0x9c, 0xb4, 0x10, 0xff, 0x61, 0xf2, 0x00, 0x15, 0xad] := by
  rw [sha256_eq]
  decide +kernel

theorem sha256_empty : sha256 [] =
    [0xe3, 0xb0, 0xc4, 0x42, 0x98, 0xfc, 0x1c, 0x14, 0x9a, 0xfb, 0xf4, 0xc8, 0x99, 0x6f, 0xb9, 0x24,
     0x27, 0xae, 0x41, 0xe4, 0x64, 0x9b, 0x93, 0x4c, 0xa4, 0x95, 0x99, 0x1b, 0x78, 0x52, 0xb8, 0x55] := by
  rw [sha256_eq]
  decide +kernel

theorem sha1_abc : sha1 [0x61, 0x62, 0x63] =
    [0xa9, 0x99, 0x3e, 0x36, 0x47, 0x06, 0x81, 0x6a, 0xba, 0x3e, 0x25, 0x71, 0x78, 0x50, 0xc2, 0x6c,
     0x9c, 0xd0, 0xd8, 0x9d] := by
  rw [sha1_eq]
  decide +kernel

theorem md5_abc : md5 [0x61, 0x62, 0x63] =
    [0x90, 0x01, 0x50, 0x98, 0x3c, 0xd2, 0x4f, 0xb0, 0xd6, 0x96, 0x3f, 0x7d, 0x28, 0xe1, 0x7f, 0x72] := by
  decide +kernel

/-- the CRC catalogue check value of CRC-32/ISO-HDLC -/
theorem crc32_check : crc32 [0x31, 0x32, 0x33, 0x34, 0x35, 0x36, 0x37, 0x38, 0x39] = 0xcbf43926 := by
  simp only [crc32, crc32Table, crcWith, List.foldl, crcUpdate_crcTable]
  decide +kernel

/-- the CRC catalogue check value of CRC-32/ISCSI -/
theorem crc32c_check : crc32c [0x31, 0x32, 0x33, 0x34, 0x35, 0x36, 0x37, 0x38, 0x39] = 0xe3069283 := by
  simp only [crc32c, crc32cTable, crcWith, List.foldl, crcUpdate_crcTable]
  decide +kernel

/-- RFC 4231 test case 2: key "Jefe", data "what do ya want for nothing?" -/
theorem hmacSha256_rfc4231_2 :
    hmacSha256 [0x4a, 0x65, 0x66, 0x65]
      [0x77, 0x68, 0x61, 0x74, 0x20, 0x64, 0x6f, 0x20, 0x79, 0x61, 0x20, 0x77, 0x61, 0x6e, 0x74, 0x20,
     0x66, 0x6f, 0x72, 0x20, 0x6e, 0x6f, 0x74, 0x68, 0x69, 0x6e, 0x67, 0x3f] =
    [0x5b, 0xdc, 0xc1, 0x46, 0xbf, 0x60, 0x75, 0x4e, 0x6a, 0x04, 0x24, 0x26, 0x08, 0x95, 0x75, 0xc7,
     0x5a, 0x00, 0x3f, 0x08, 0x9d, 0x27, 0x39, 0x83, 0x9d, 0xec, 0x58, 0xb9, 0x64, 0xec, 0x38, 0x43] := by
  simp only [hmacSha256, hmac, sha256_eq]
  decide +kernel

/-- RFC 2202 test case 2 -/
theorem hmacSha1_rfc2202_2 :
    hmacSha1 [0x4a, 0x65, 0x66, 0x65]
      [0x77, 0x68, 0x61, 0x74, 0x20, 0x64, 0x6f, 0x20, 0x79, 0x61, 0x20, 0x77, 0x61, 0x6e, 0x74, 0x20,
     0x66, 0x6f, 0x72, 0x20, 0x6e, 0x6f, 0x74, 0x68, 0x69, 0x6e, 0x67, 0x3f] =
    [0xef, 0xfc, 0xdf, 0x6a, 0xe5, 0xeb, 0x2f, 0xa2, 0xd2, 0x74, 0x16, 0xd5, 0xf1, 0x84, 0xdf, 0x9c,
     0x25, 0x9a, 0x7c, 0x79] := by
  simp only [hmacSha1, hmac, sha1_eq]
  decide +kernel

end S3V.Crypto
