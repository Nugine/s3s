import S3V.Thm.FsStoreBase
import S3V.Thm.BytesOrder
import S3V.Thm.SortedPairs
/-!
# C18 lemmas: the byte-wise order is core's order on `List UInt8`; `sortByKey` and `sortParts` are insertion sorts (`insBy`):
permutation, order, strict order for keys that do not repeat; cutting a sorted listing at a marker
-/
namespace S3V.FsStore
open S3V.SortedPairs

theorem u8_lt_irrefl (a : UInt8) : ¬ a < a := by
  rw [UInt8.lt_iff_toNat_lt]; omega

theorem bytesLe_iff_le {a b : Bytes} : bytesLe a b = true ↔ a ≤ b :=
  lexLe_iff_le (fun _ => rfl) (fun _ _ => rfl) (fun _ _ _ _ => rfl)

theorem bytesLe_eq_false_iff {a b : Bytes} : bytesLe a b = false ↔ b < a := by
  rw [← Bool.not_eq_true, bytesLe_iff_le, List.not_le]

theorem bytesLt_iff_lt {a b : Bytes} : bytesLt a b = true ↔ a < b := by
  rw [bytesLt, Bool.and_eq_true, bytesLe_iff_le, bne_iff_ne, ← List.not_le]
  exact ⟨fun h hba => h.2 (List.le_antisymm h.1 hba), fun h => ⟨(List.le_total a b).resolve_right h, fun e => h (e ▸ List.le_refl b)⟩⟩

theorem sortByKey_eq {β : Type} (l : List (Bytes × β)) :
    sortByKey l = sortBy (fun y x => bytesLe y.1 x.1) l.reverse :=
  sortBy_of_foldl (ins := insSorted bytesLe) (insBy_of (fun _ => rfl) fun _ _ _ => rfl) l

theorem sortByKey_perm {β : Type} (l : List (Bytes × β)) : (sortByKey l).Perm l :=
  sortByKey_eq l ▸ (sortBy_perm _ _).trans l.reverse_perm

theorem sortByKey_sorted {β : Type} (l : List (Bytes × β)) : Sorted (sortByKey l) :=
  sortByKey_eq l ▸ sorted_sortBy_le bytesLe_iff_le _

theorem sortByKey_mem {β : Type} (l : List (Bytes × β)) (y : Bytes × β) : y ∈ sortByKey l ↔ y ∈ l :=
  (sortByKey_perm l).mem_iff

theorem sortByKey_length {β : Type} (l : List (Bytes × β)) : (sortByKey l).length = l.length :=
  (sortByKey_perm l).length_eq

theorem dropWhile_le_eq_filter_lt {β : Type} (m : Bytes) (l : List (Bytes × β)) (h : Sorted l) :
    l.dropWhile (fun o => bytesLe o.1 m) = l.filter (fun e => bytesLt m e.1) := by
  rw [(while_eq_filter (fun o : Bytes × β => bytesLe o.1 m) (l := l)
    (h.imp fun hab hb => bytesLe_iff_le.mpr (List.le_trans hab (bytesLe_iff_le.mp hb)))).2]
  refine List.filter_congr fun o _ => ?_
  rw [Bool.eq_iff_iff, Bool.not_eq_true', bytesLe_eq_false_iff, bytesLt_iff_lt]

theorem sortParts_eq {β : Type} (l : List (Int × β)) :
    sortParts l = sortBy (fun y x => decide (y.1 ≤ x.1)) l.reverse :=
  sortBy_of_foldl (ins := insPart) (insBy_of (fun _ => rfl) fun _ _ _ => by rw [insPart]; simp only [decide_eq_true_eq]) l

theorem sortParts_perm {β : Type} (l : List (Int × β)) : (sortParts l).Perm l :=
  sortParts_eq l ▸ (sortBy_perm _ _).trans l.reverse_perm

theorem sortParts_mem {β : Type} (l : List (Int × β)) (y : Int × β) : y ∈ sortParts l ↔ y ∈ l :=
  (sortParts_perm l).mem_iff

theorem sortParts_strict {β : Type} (l : List (Int × β)) (hnd : keysNodup l) :
    (sortParts l).Pairwise fun a b => a.1 < b.1 := by
  have hs : (sortParts l).Pairwise fun a b => decide (a.1 ≤ b.1) = true := by
    rw [sortParts_eq]
    refine sortBy_pairwise (fun a b c => ?_) (fun _ _ => id) (fun a b => ?_) _
    · simp only [decide_eq_true_eq]; omega
    · simp only [decide_eq_true_eq, decide_eq_false_iff_not]; omega
  have hnd' : ((sortParts l).map (·.1)).Nodup := ((sortParts_perm l).map _).nodup_iff.mpr hnd
  refine (pairwise_and_ne (·.1) hs hnd').imp fun h => ?_
  have := of_decide_eq_true h.1
  omega

end S3V.FsStore
