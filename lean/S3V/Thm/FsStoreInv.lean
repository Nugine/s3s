import S3V.Model.FsStoreAbs
import S3V.Thm.FsStoreBase
import S3V.Thm.FsStorePath
/-!
# C18 lemmas: the invariant of backend states, what a request has to establish (`Refines`), and how `abs` sees what a
request reads (a bucket, the object at a path, the metadata file) and the tree of one bucket being replaced; the first
operation, `list_buckets`
-/
namespace S3V.FsStore
open S3V.StoreSpec

def absTree (s : State) (b : Bytes) (t : Tree) : List (Bytes × Obj) := t.filterMap (absObj s b)

/-- the objects of a tree, file by file -/
theorem absTree_eq_files (s : State) (b : Bytes) (t : Tree) :
    absTree s b t = t.files.map fun e =>
      (joinWith [slash] e.1, (⟨e.2, absMeta s b (joinWith [slash] e.1),
        (alLookup (b, joinWith [slash] e.1) s.infos).getD {}⟩ : Obj)) := by
  rw [absTree, Tree.files, List.map_filterMap]
  exact filterMap_congr_mem fun e _ => by cases h : e.2 <;> simp [absObj, h]

/-- invariant of reachable backend states: keys do not repeat, paths are admissible, no metadata file is corrupt, and every
    id in the upload tables has been issued (`≤ issued`), so that the id `create_multipart_upload` issues next is fresh -/
structure Inv (s : State) : Prop where
  bnd : keysNodup s.buckets
  tnd : ∀ e ∈ s.buckets, keysNodup e.2
  paths : ∀ e ∈ s.buckets, ∀ x ∈ e.2, PathOk x.1
  metaOk : ∀ e ∈ s.metas, e.2 ≠ MetaFile.corrupt
  und : keysNodup s.uploads
  pnd : keysNodup s.parts
  upIds : ∀ e ∈ s.uploads, e.1 ≤ s.issued
  partIds : ∀ e ∈ s.parts, e.1.1 ≤ s.issued
  upMetaIds : ∀ e ∈ s.upMetas, e.1.2.2 ≤ s.issued

/-- one request: the answers agree, the abstraction commutes with the step, the invariant is kept -/
def Refines (H : Hashes) (dl : Nat) (s : State) (op : Op) : Prop :=
  (step H dl s op).2 = (StoreSpec.step H (abs s) op).2 ∧
  abs (step H dl s op).1 = (StoreSpec.step H (abs s) op).1 ∧ Inv (step H dl s op).1

/-- the form every success path is proved in: both steps computed (`hstep`, `hspec`, with the same answer `r`), and the
    abstraction and invariant of the new state, which a lemma named `_core` supplies where it is more than a line -/
theorem Refines.of_eq {H : Hashes} {dl : Nat} {s s' : State} {a' : Store} {r : Resp} {op : Op}
    (hstep : step H dl s op = (s', r)) (hspec : StoreSpec.step H (abs s) op = (a', r)) (h : abs s' = a' ∧ Inv s') :
    Refines H dl s op := by
  unfold Refines
  rw [hstep, hspec]
  exact ⟨rfl, h⟩

/-- an association list whose keys do not repeat and whose entries all satisfy `Q`: what `Inv` says of `buckets`, and of the
    tree of every bucket -/
def Keyed {α β : Type} (Q : α × β → Prop) (l : List (α × β)) : Prop := keysNodup l ∧ ∀ e ∈ l, Q e

section Keyed
variable {α β : Type} [DecidableEq α] {Q : α × β → Prop} {l : List (α × β)}

omit [DecidableEq α] in
theorem Keyed.nil : Keyed Q [] := ⟨List.nodup_nil, nofun⟩

theorem Keyed.insert (h : Keyed Q l) {k : α} {v : β} (hq : Q (k, v)) : Keyed Q (alInsert k v l) :=
  ⟨keysNodup_alInsert h.1, fun _ he => (alInsert_mem he).elim (· ▸ hq) (h.2 _)⟩

theorem Keyed.erase (h : Keyed Q l) (k : α) : Keyed Q (alErase k l) :=
  ⟨keysNodup_alErase h.1, fun _ he => h.2 _ (alErase_mem he)⟩

theorem Keyed.append (h : Keyed Q l) {k : α} {v : β} (hk : alLookup k l = none) (hq : Q (k, v)) : Keyed Q (l ++ [(k, v)]) :=
  ⟨keysNodup_append_single h.1 hk, fun e he => (List.mem_append.mp he).elim (h.2 e) (List.mem_singleton.mp · ▸ hq)⟩

end Keyed

/-- a well-formed tree: its paths do not repeat and are admissible -/
def TreeOk (t : Tree) : Prop := Keyed (fun x => PathOk x.1) t

/-- bucket names do not repeat and every bucket's tree is well-formed: the part of `Inv` that speaks of `buckets` -/
def TreesOk (bs : List (Bytes × Tree)) : Prop := Keyed (fun e => TreeOk e.2) bs

theorem Inv.trees {s : State} (hi : Inv s) : TreesOk s.buckets := ⟨hi.bnd, fun e he => ⟨hi.tnd e he, hi.paths e he⟩⟩

theorem tree_mem {s : State} {b : Bytes} {t : Tree} (h : s.tree b = some t) : (b, t) ∈ s.buckets :=
  alLookup_mem h

theorem Inv.tree {s : State} (hi : Inv s) {b : Bytes} {t : Tree} (ht : s.tree b = some t) : TreeOk t :=
  hi.trees.2 _ (tree_mem ht)

theorem Inv.of_objects {s : State} (hi : Inv s) {bs : List (Bytes × Tree)} (hb : TreesOk bs)
    {ms : List ((Bytes × Bytes) × MetaFile)} (hm : ∀ e ∈ ms, e.2 ≠ MetaFile.corrupt) (is : List ((Bytes × Bytes) × Cks)) :
    Inv { s with buckets := bs, metas := ms, infos := is } :=
  ⟨hb.1, fun e he => (hb.2 e he).1, fun e he => (hb.2 e he).2, hm, hi.und, hi.pnd, hi.upIds, hi.partIds, hi.upMetaIds⟩

theorem store_ext {a b : Store} (h1 : a.buckets = b.buckets) (h2 : a.uploads = b.uploads) (h3 : a.issued = b.issued) :
    a = b := by
  cases a; cases b; simp at *; exact ⟨h1, h2, h3⟩

theorem abs_buckets (s : State) : (abs s).buckets = s.buckets.map fun e => (e.1, absTree s e.1 e.2) := rfl

/-- `list_buckets` refines the store: both sides sort the same list of names (`abs` keeps the buckets in the backend's order) -/
theorem listBuckets_refines (H : Hashes) (dl : Nat) {s : State} (hi : Inv s) : Refines H dl s .listBuckets := by
  simp [Refines, step, StoreSpec.step, abs_buckets, hi, Function.comp_def]

theorem abs_bucket (s : State) (b : Bytes) : (abs s).bucket b = (s.tree b).map (absTree s b) := by
  unfold Store.bucket State.tree
  rw [abs_buckets]
  exact alLookup_map_val (fun b t => absTree s b t) b s.buckets

/-- the store given the objects a bucket already has is the store (it puts the bucket back where the backend leaves it alone) -/
theorem abs_putBack {s : State} {b : Bytes} {t : Tree} (ht : s.tree b = some t) :
    alInsert b (absTree s b t) (abs s).buckets = (abs s).buckets :=
  alInsert_same (by rw [← Store.bucket, abs_bucket, ht]; rfl)

theorem abs_alHas (s : State) (b : Bytes) : alHas b (abs s).buckets = alHas b s.buckets := by
  have := abs_bucket s b
  unfold Store.bucket State.tree at this
  simp [alHas, this]

/-- a bucket directory is missing on both sides, or its tree stands for the bucket's objects -/
theorem tree_cases (s : State) (b : Bytes) :
    (s.tree b = none ∧ (abs s).bucket b = none ∧ alHas b s.buckets = false) ∨
    ∃ t, s.tree b = some t ∧ (abs s).bucket b = some (absTree s b t) ∧ alHas b s.buckets = true := by
  have hh : alHas b s.buckets = (s.tree b).isSome := rfl
  cases ht : s.tree b with
  | none => exact .inl ⟨rfl, by rw [abs_bucket, ht]; rfl, by rw [hh, ht]; rfl⟩
  | some t => exact .inr ⟨t, rfl, by rw [abs_bucket, ht]; rfl, by rw [hh, ht]; rfl⟩

/-- `abs` reads `buckets`, `metas`, `infos` for the objects and `uploads`, `upMetas`, `parts` for the uploads: a change within one
    group leaves the other half of `abs` as it is, by `rfl` -/
theorem abs_objects {s : State} {bs : List (Bytes × Tree)} {ms : List ((Bytes × Bytes) × MetaFile)}
    {is : List ((Bytes × Bytes) × Cks)} {bs' : List (Bytes × List (Bytes × Obj))}
    (h : (abs { s with buckets := bs, metas := ms, infos := is }).buckets = bs') :
    abs { s with buckets := bs, metas := ms, infos := is } = { abs s with buckets := bs' } :=
  store_ext h rfl rfl

/-- the object a node stands for at key `k`; a directory stands for none -/
def nodeObj (s : State) (b k : Bytes) : Node → Option Obj
  | .file c => some ⟨c, absMeta s b k, (alLookup (b, k) s.infos).getD {}⟩
  | .dir => none

theorem absObj_eq (s : State) (b : Bytes) (p : Path) (n : Node) :
    absObj s b (p, n) = (nodeObj s b (joinWith [slash] p) n).map fun o => (joinWith [slash] p, o) := by
  cases n <;> rfl

/-- what a metadata look-up stands for: `absMeta` as a function of it (`absMeta_eq`) -/
def metaOf : Option MetaFile → Meta
  | some (.good m) => m
  | _ => []

theorem absMeta_eq (s : State) (b k : Bytes) : absMeta s b k = metaOf (alLookup (b, k) s.metas) := by
  unfold absMeta
  cases alLookup (b, k) s.metas with
  | none => rfl
  | some mf => cases mf <;> rfl

theorem metaOf_good (md : Option Meta) : metaOf (md.map .good) = md.getD [] := by
  cases md <;> rfl

/-- in a well-formed tree the entry at an admissible path `p` shows under the key `p` joins to, and no other entry does -/
theorem absObj_shows {s : State} {b : Bytes} {t : Tree} (hpaths : ∀ x ∈ t, PathOk x.1) {p : Path} (hp : PathOk p) :
    ShowsAt (absObj s b) t p (joinWith [slash] p) := by
  refine ⟨fun n cd _ h => ?_, fun q n c o hq hne h heq => hne ((hpaths _ hq).join_inj hp ?_)⟩
  all_goals cases n <;> cases h
  · rfl
  · exact heq

theorem absObj_congr {s s' : State} {b : Bytes} {q : Path} {n : Node}
    (hm : alLookup (b, joinWith [slash] q) s'.metas = alLookup (b, joinWith [slash] q) s.metas)
    (hin : alLookup (b, joinWith [slash] q) s'.infos = alLookup (b, joinWith [slash] q) s.infos) :
    absObj s' b (q, n) = absObj s b (q, n) := by
  cases n with
  | dir => rfl
  | file c => simp only [absObj, absMeta, hm, hin]

theorem abs_lookup_obj {s : State} (hi : Inv s) {b : Bytes} {t : Tree} (ht : s.tree b = some t)
    {p : Path} (hp : PathOk p) :
    alLookup (joinWith [slash] p) (absTree s b t) = (t.node p).bind (nodeObj s b (joinWith [slash] p)) := by
  unfold absTree
  rw [alLookup_filterMap (absObj s b) p (joinWith [slash] p) t (hi.tree ht).1 (absObj_shows (hi.tree ht).2 hp)]
  unfold Tree.node
  cases alLookup p t with
  | none => rfl
  | some n => simp [absObj_eq]; cases nodeObj s b (joinWith [slash] p) n <;> rfl

theorem abs_setTree {s s' : State} (hi : Inv s) {b : Bytes} {t' : Tree} (hb : s'.buckets = alInsert b t' s.buckets)
    (hside : ∀ b2, b2 ≠ b → ∀ x, absObj s' b2 x = absObj s b2 x) :
    (abs s').buckets = alInsert b (absTree s' b t') (abs s).buckets := by
  rw [abs_buckets, hb, map_alInsert_congr (fun b t => absTree s' b t) (fun b t => absTree s b t) b _ s.buckets hi.bnd,
    ← abs_buckets]
  exact fun e _ hne => filterMap_congr_mem fun x _ => hside e.1 hne x

theorem Inv.meta_ne_corrupt {s : State} (hi : Inv s) (x : Bytes × Bytes) : alLookup x s.metas ≠ some .corrupt :=
  fun h => hi.metaOk _ (alLookup_mem h) rfl

theorem loadMeta_eq {s : State} (hi : Inv s) {b k : Bytes} (hshort : sideTooLong b k false = false) :
    s.loadMeta b k = some (absMeta s b k) := by
  unfold State.loadMeta absMeta
  simp only [hshort, Bool.false_eq_true, if_false]
  cases h : alLookup (b, k) s.metas with
  | none => rfl
  | some mf =>
    cases mf with
    | good m => rfl
    | corrupt => exact absurd h (hi.meta_ne_corrupt _)

theorem Inv.of_uploads {s : State} (hi : Inv s) {um : List ((Bytes × Bytes × Nat) × Meta)} {ups : List (Nat × UpInfo)}
    {pa : List ((Nat × Int) × Bytes)} {n : Nat} (h1 : keysNodup ups) (h2 : keysNodup pa) (h3 : ∀ e ∈ ups, e.1 ≤ n)
    (h4 : ∀ e ∈ pa, e.1.1 ≤ n) (h5 : ∀ e ∈ um, e.1.2.2 ≤ n) :
    Inv { s with upMetas := um, uploads := ups, parts := pa, issued := n } :=
  ⟨hi.bnd, hi.tnd, hi.paths, hi.metaOk, h1, h2, h3, h4, h5⟩

end S3V.FsStore
