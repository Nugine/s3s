import S3V.Model.SigV4
import S3V.Spec.SigV4
import S3V.Thm.BytesOrder
import S3V.Thm.SortedPairs
/-!
# Lemmas: the SigV4 model's byte order, its stable sort by first component, look-ups on the sorted vector

`bLt` (`Ord for str`) is `<` on `List UInt8` (`bLt_iff_lt`, `bLt_eq_false_iff`: the two bridges, after which the order laws
are core's) and the model's sort is the shared `sortBy`. Then the specification's order on parameters (`pairLe_iff`: core's
lexicographic order on the pair) with its order laws, and the look-ups: the sorted vector is that of
`S3V/Thm/SortedPairs.lean`, of which the model's functions are instances.
-/
namespace S3V.SigV4
open S3V S3V.SortedPairs

theorem bLt_iff_lt {a b : Bytes} : bLt a b = true ↔ a < b :=
  lexLt_iff_lt rfl (fun _ _ => rfl) (fun _ _ => rfl) (fun _ _ _ _ => rfl)

theorem bLt_eq_false_iff {a b : Bytes} : bLt a b = false ↔ b ≤ a := lt_eq_false_iff bLt_iff_lt

theorem insertByFirst_eq : ∀ (x : Bytes × Bytes) l, insertByFirst x l = insBy (fun y x => bLt y.1 x.1) x l :=
  insBy_of (fun _ => rfl) fun _ _ _ => rfl

theorem sortByFirst_eq : ∀ l, sortByFirst l = sortBy (fun y x => bLt y.1 x.1) l :=
  sortBy_of insertByFirst_eq rfl fun _ _ => rfl

theorem strLt_eq_bLt (a b : Bytes) : SigV4Spec.strLt a b = bLt a b :=
  Bool.eq_iff_iff.mpr ((lexLt_iff_lt rfl (fun _ _ => rfl) (fun _ _ => rfl) (fun _ _ _ _ => rfl)).trans bLt_iff_lt.symm)

/-! ## the specification's order on parameters -/

/-- the specification's order on parameters is the lexicographic order of core's `<` / `≤` on the two byte strings -/
theorem pairLe_iff {a b : Bytes × Bytes} : SigV4Spec.pairLe a b = true ↔ a.1 < b.1 ∨ (a.1 = b.1 ∧ a.2 ≤ b.2) := by
  simp only [SigV4Spec.pairLe, SigV4Spec.strLe, strLt_eq_bLt, Bool.or_eq_true, Bool.and_eq_true, decide_eq_true_eq,
    Bool.not_eq_true', bLt_iff_lt, bLt_eq_false_iff]

theorem pairLe_total {a b : Bytes × Bytes} (h : SigV4Spec.pairLe a b = false) : SigV4Spec.pairLe b a = true := by
  rw [← Bool.not_eq_true, pairLe_iff, not_or, not_and] at h
  rw [pairLe_iff]
  rcases List.le_iff_lt_or_eq.mp (List.not_lt.mp h.1) with hlt | he
  · exact Or.inl hlt
  · exact Or.inr ⟨he, List.le_of_lt (List.not_le.mp (h.2 he.symm))⟩

theorem pairLe_antisymm {a b : Bytes × Bytes} (h1 : SigV4Spec.pairLe a b = true) (h2 : SigV4Spec.pairLe b a = true) :
    a = b := by
  rw [pairLe_iff] at h1 h2
  rcases h1 with h1 | ⟨e1, n1⟩
  · rcases h2 with h2 | ⟨e2, _⟩
    · exact absurd (List.lt_trans h1 h2) (List.lt_irrefl _)
    · exact absurd (e2 ▸ h1) (List.lt_irrefl _)
  · rcases h2 with h2 | ⟨_, n2⟩
    · exact absurd (e1 ▸ h2) (List.lt_irrefl _)
    · exact Prod.ext e1 (List.le_antisymm n1 n2)

theorem pairLe_trans {a b c : Bytes × Bytes} (h1 : SigV4Spec.pairLe a b = true) (h2 : SigV4Spec.pairLe b c = true) :
    SigV4Spec.pairLe a c = true := by
  rw [pairLe_iff] at h1 h2 ⊢
  rcases h1 with h1 | ⟨e1, n1⟩
  · rcases h2 with h2 | ⟨e2, _⟩
    · exact Or.inl (List.lt_trans h1 h2)
    · exact Or.inl (e2 ▸ h1)
  · rcases h2 with h2 | ⟨e2, n2⟩
    · exact Or.inl (e1 ▸ h2)
    · exact Or.inr ⟨e1.trans e2, List.le_trans n1 n2⟩

/-- "by name, then by value" is "by name only" against a pair whose value is not below `x`'s if it has `x`'s name -/
theorem pairLe_eq {x y : Bytes × Bytes} (h : y.1 = x.1 → bLe x.2 y.2 = true) :
    SigV4Spec.pairLe x y = !bLt y.1 x.1 := by
  rw [Bool.eq_iff_iff, pairLe_iff, Bool.not_eq_true', bLt_eq_false_iff]
  constructor
  · rintro (hlt | ⟨he, -⟩)
    · exact List.le_of_lt hlt
    · exact he ▸ List.le_refl _
  · intro hle
    rcases List.le_iff_lt_or_eq.mp hle with hlt | he
    · exact Or.inl hlt
    · exact Or.inr ⟨he, bLt_eq_false_iff.mp (by simpa [bLe] using h he.symm)⟩

/-! ## the stable sort by first component -/

/-- ascending in the first component, in the model's own terms (`bLt`): `SortedPairs.Sorted` under the name that
    `C06_duplicate_or_missing_xamz_rejected` is stated with (`sortedBy_iff`) -/
def SortedBy (l : List (Bytes × Bytes)) : Prop := l.Pairwise (fun a b => bLt b.1 a.1 = false)

theorem sortedBy_iff {l : List (Bytes × Bytes)} : SortedBy l ↔ Sorted l :=
  List.Pairwise.iff fun _ _ => bLt_eq_false_iff

theorem sortByFirst_sorted (l : List (Bytes × Bytes)) : SortedBy (sortByFirst l) :=
  sortedBy_iff.mpr (sortByFirst_eq l ▸ sorted_sortBy bLt_iff_lt l)

theorem mem_sortByFirst {y : Bytes × Bytes} {l : List (Bytes × Bytes)} : y ∈ sortByFirst l ↔ y ∈ l := by
  rw [sortByFirst_eq]; exact (sortBy_perm _ l).mem_iff

/-- stability, in the form needed: the sub-list of one name is untouched -/
theorem filter_sortByFirst (name : Bytes) (l : List (Bytes × Bytes)) :
    (sortByFirst l).filter (fun p => p.1 = name) = l.filter (fun p => p.1 = name) := by
  rw [sortByFirst_eq]; exact filter_sortBy bLt_iff_lt l name

/-! ## look-ups on a sorted list -/

theorem getAllPairs_sorted {hs : List (Bytes × Bytes)} (h : SortedBy hs) (name : Bytes) :
    getAllPairs hs name = hs.filter (fun p => p.1 = name) :=
  slice_of_sorted bLt_iff_lt (sortedBy_iff.mp h) name

/-- on any list, sorted or not (the selection it is used on is in the order of the listed names): the first pair
    `get_all_pairs` returns carries the wanted name -/
theorem exists_mem_of_getAllPairs_ne_nil {l : List (Bytes × Bytes)} {n : Bytes} (h : getAllPairs l n ≠ []) : ∃ p ∈ l, p.1 = n := by
  unfold getAllPairs at h
  cases hd : (l.dropWhile fun x => bLt x.1 n) with
  | nil => rw [hd] at h; exact absurd rfl h
  | cons p rest =>
    rw [hd, List.takeWhile_cons] at h
    have hmem : p ∈ l := (List.dropWhile_sublist _).subset (by rw [hd]; simp)
    have hnlt : bLt p.1 n = false := dropWhile_head_false (p := fun x : Bytes × Bytes => bLt x.1 n) hd
    by_cases hle : bLe p.1 n = true
    · simp only [bLe, Bool.not_eq_true'] at hle
      exact ⟨p, hmem, List.le_antisymm (bLt_eq_false_iff.mp hle) (bLt_eq_false_iff.mp hnlt)⟩
    · simp [hle] at h

theorem getUnique_eq (l : List (Bytes × Bytes)) (n : Bytes) :
    getUnique l n = firstUnique n (l.dropWhile fun x => bLt x.1 n) := by
  rw [getUnique]
  cases List.dropWhile (fun x : Bytes × Bytes => bLt x.1 n) l with
  | nil => rfl
  | cons p rest => cases rest <;> rfl

/-- `get_unique` on a sorted list: the value called `name` when exactly one pair carries that name -/
theorem getUnique_of_sorted {qs : List (Bytes × Bytes)} (h : SortedBy qs) (name : Bytes) :
    getUnique qs name = theOnly ((qs.filter fun p => p.1 = name).map (·.2)) := by
  rw [getUnique_eq, firstUnique_of_sorted bLt_iff_lt (sortedBy_iff.mp h)]

theorem getUnique_some_count {qs : List (Bytes × Bytes)} (hs : SortedBy qs) {name v : Bytes}
    (h : getUnique qs name = some v) : (qs.filter (fun p => p.1 = name)).length = 1 := by
  rw [getUnique_of_sorted hs] at h
  rw [← List.length_map (f := (·.2)), theOnly_eq_some h]
  rfl

theorem getUnique_none_of_count {qs : List (Bytes × Bytes)} (hs : SortedBy qs) {name : Bytes}
    (h : (qs.filter (fun p => p.1 = name)).length ≠ 1) : getUnique qs name = none := by
  cases hg : getUnique qs name with
  | none => rfl
  | some v => exact absurd (getUnique_some_count hs hg) h

/-- after the stable sort: `get_unique` gives the value called `n` when exactly one pair carries that name -/
theorem getUnique_sortByFirst (l : List (Bytes × Bytes)) (n : Bytes) :
    getUnique (sortByFirst l) n = theOnly ((l.filter fun p => p.1 = n).map (·.2)) := by
  rw [getUnique_of_sorted (sortByFirst_sorted l), filter_sortByFirst]

/-- `has` after the stable sort: some pair carries the name -/
theorem qsHas_sortByFirst (l : List (Bytes × Bytes)) (n : Bytes) :
    qsHas (sortByFirst l) n = l.any fun p => p.1 = n := by
  rw [qsHas, sortByFirst_eq]; exact (sortBy_perm _ l).any_eq

/-- both look-ups depend on the multiset of pairs only -/
theorem lookups_perm {l₁ l₂ : List (Bytes × Bytes)} (h : l₁.Perm l₂) (n : Bytes) :
    qsHas (sortByFirst l₁) n = qsHas (sortByFirst l₂) n ∧
    getUnique (sortByFirst l₁) n = getUnique (sortByFirst l₂) n := by
  rw [qsHas_sortByFirst, qsHas_sortByFirst, getUnique_sortByFirst, getUnique_sortByFirst]
  exact ⟨h.any_eq, theOnly_perm ((h.filter _).map _)⟩

end S3V.SigV4
