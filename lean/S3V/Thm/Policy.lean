import S3V.Model.Policy
import S3V.Thm.ListLemmas
/-!
# Lemmas: the leaf and map readers read back what the encoder writes
-/
namespace S3V.Policy
open S3V

theorem exists_map_eq_some {α β : Type} (o : Option α) (g : α → β) : (∃ y, o.map g = some y) ↔ ∃ x, o = some x := by
  cases o <;> simp

theorem strList_map_str (ss : List Bytes) : strList (ss.map Json.str) = some ss := by
  rw [strList, mapM_map strOf Json.str id ss fun _ _ => rfl, List.map_id]

theorem oomOfJson_oomJson (v : OneOrMore Bytes) : oomOfJson (oomJson v) = some v := by
  cases v with
  | one s => rfl
  | more ss => simp [oomJson, oomOfJson, strList_map_str]

/-- what a pattern list is read back as: `One("*")` is written `"*"`, and `"*"` is read as `Wildcard` -/
def WildcardOneOrMore.norm : WildcardOneOrMore Bytes → WildcardOneOrMore Bytes
  | .one s => if s = nStar then .wildcard else .one s
  | w => w

theorem WildcardOneOrMore.norm_eq (w : WildcardOneOrMore Bytes) (h : w.isOneStar = false) : w.norm = w := by
  cases w with
  | one s => simpa [norm, isOneStar] using h
  | _ => rfl

theorem woomOfJson_woomJson (w : WildcardOneOrMore Bytes) : woomOfJson (woomJson w) = some w.norm := by
  cases w with
  | wildcard => simp [woomJson, woomOfJson, WildcardOneOrMore.norm]
  | one s => by_cases h : s = nStar <;> simp [woomJson, woomOfJson, WildcardOneOrMore.norm, h]
  | more ss => simp [woomJson, woomOfJson, strList_map_str, WildcardOneOrMore.norm]

theorem optString_optStrJson (o : Option Bytes) : optString (optStrJson o) = some o := by
  cases o <;> rfl

theorem optVersion_optVersionJson (o : Option Version) : optVersion (optVersionJson o) = some o := by
  cases o with
  | none => rfl
  | some v => cases v <;> rfl

theorem effect_effectName (e : Effect) : nameEnum effectOfName (.str (effectName e)) = some e := by
  cases e <;> rfl

theorem imInsert_new {β : Type} (m : IMap β) (k : Bytes) (v : β) (h : k ∉ m.map (·.1)) :
    imInsert m k v = m ++ [(k, v)] := by
  induction m with
  | nil => rfl
  | cons e m ih =>
    obtain ⟨k', v'⟩ := e
    simp only [List.map_cons, List.mem_cons, not_or] at h
    have hne : ¬ k' = k := fun hh => h.1 hh.symm
    simp [imInsert, hne, ih h.2]

/-- while the names are fresh and pairwise different, `insert` appends: the loop is a `mapM` -/
theorem im_fold_fresh {β : Type} (f : Json → Option β) (ms : List (Bytes × Json)) : ∀ acc : IMap β,
    (acc.map (·.1) ++ ms.map (·.1)).Nodup →
    List.foldlM (fun a (kv : Bytes × Json) => (f kv.2).map (imInsert a kv.1)) acc ms =
      (ms.mapM fun kv => (f kv.2).map fun b => (kv.1, b)).map (acc ++ ·) := by
  induction ms with
  | nil => intro acc _; simp
  | cons e ms ih =>
    intro acc hnd
    rw [List.foldlM_cons, List.mapM_cons]
    cases f e.2 with
    | none => rfl
    | some b =>
      have hnew : e.1 ∉ acc.map (·.1) := fun hmem => (List.nodup_append.mp hnd).2.2 _ hmem _ (by simp) rfl
      simp only [Option.map_some, Option.bind_eq_bind, Option.bind_some, imInsert_new _ _ _ hnew]
      rw [ih (acc ++ [(e.1, b)]) (by simpa using hnd)]
      cases ms.mapM fun kv => (f kv.2).map fun b => (kv.1, b) <;> simp

theorem imOfMembers_fresh {β : Type} (f : Json → Option β) (ms : List (Bytes × Json)) (h : (ms.map (·.1)).Nodup) :
    imOfMembers f ms = ms.mapM fun kv => (f kv.2).map fun b => (kv.1, b) := by
  rw [imOfMembers, im_fold_fresh f ms [] (by simpa using h)]
  simp

theorem imOfMembers_written {β : Type} (f : Json → Option β) (g : β → Json) (m : IMap β)
    (hf : ∀ kv ∈ m, f (g kv.2) = some kv.2) (hu : keysUnique m) :
    imOfMembers f (m.map fun kv => (kv.1, g kv.2)) = some m := by
  rw [imOfMembers_fresh _ _ (by simpa [keysUnique, Function.comp_def] using hu)]
  rw [mapM_map _ _ id m fun kv hkv => by rw [hf kv hkv]; rfl, List.map_id]

theorem principalOfJson_principalJson (p : Principal) (h : p.wf) :
    principalOfJson (principalJson p) = some p := by
  cases p with
  | wildcard => simp [principalJson, principalOfJson]
  | map m =>
    simp only [principalJson, kvsJson, principalOfJson]
    rw [imOfMembers_written oomOfJson oomJson m (fun kv _ => oomOfJson_oomJson kv.2) h]
    rfl

theorem condKeyValues_written (m : CondKeyValues) (h : keysUnique m) :
    condKeyValuesOfJson (kvsJson m) = some m := by
  simp only [kvsJson, condKeyValuesOfJson]
  exact imOfMembers_written oomOfJson oomJson m (fun kv _ => oomOfJson_oomJson kv.2) h

theorem optCondition_written (c : Option ConditionRule) (h : ∀ c', c = some c' → conditionWf c') :
    optCondition (optConditionJson c) = some c := by
  cases c with
  | none => rfl
  | some c =>
    obtain ⟨hu, hin⟩ := h c rfl
    simp only [optConditionJson, conditionJson, optCondition, conditionOfJson]
    rw [imOfMembers_written condKeyValuesOfJson kvsJson c (fun kv hkv => condKeyValues_written kv.2 (hin kv hkv)) hu]
    rfl

theorem fromJson_ok_iff (j : Json) (p : Policy) : fromJson j = .ok p ↔ fromJson? j = some p := by
  unfold fromJson
  cases fromJson? j <;> simp

end S3V.Policy
