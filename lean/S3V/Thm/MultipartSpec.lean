import S3V.Spec.Multipart
import S3V.Thm.BytesText
/-!
# Lemmas on the spec functions of the file part: `beforeFirst`, `withheld`, `specFile`

First their equations on `c :: d`, by how `c :: d` and the delimiter compare as prefixes of each other.
Then the executable reference `beforeFirst` against the declarative `FirstOcc`: what it returns is a first
occurrence, it returns something whenever there is an occurrence, and first occurrences are unique.
Last, data that is a proper prefix of the delimiter: nothing is found and everything is withheld.
-/
namespace S3V.MultipartSpec
open S3V

theorem beforeFirst_cons (pat cs : Bytes) (c : UInt8) :
    beforeFirst pat (c :: cs) = if pat <+: c :: cs then some [] else (beforeFirst pat cs).map (c :: ·) := by
  rw [beforeFirst]
  simp only [bytes_isPrefixOf_iff]
  split
  · rfl
  · cases beforeFirst pat cs <;> rfl

theorem withheld_cons (pat cs : Bytes) (c : UInt8) :
    withheld pat (c :: cs) =
      if (c :: cs).length < pat.length ∧ c :: cs <+: pat then [] else c :: withheld pat cs := by
  rw [withheld]
  simp only [bytes_isPrefixOf_iff]

theorem specFile_cons {pat d : Bytes} {c : UInt8} (h1 : ¬ pat <+: c :: d) (h2 : ¬ c :: d <+: pat)
    (err : Bool) : specFile pat (c :: d) err = (specFile pat d err).map (c :: ·) id := by
  rw [specFile, specFile, beforeFirst_cons, if_neg h1, withheld_cons, if_neg (fun h => h2 h.2)]
  cases beforeFirst pat d <;> rfl

theorem specFile_of_pat_prefix {pat d : Bytes} {c : UInt8} (h : pat <+: c :: d) (err : Bool) :
    specFile pat (c :: d) err = ([], .ok) := by
  rw [specFile, beforeFirst_cons, if_pos h]

theorem firstOcc_of_beforeFirst {pat d before : Bytes} (h : beforeFirst pat d = some before) :
    FirstOcc pat d before := by
  induction d generalizing before with
  | nil =>
    rw [beforeFirst] at h
    split at h
    · next hp =>
      subst hp
      cases h
      exact ⟨List.prefix_rfl, fun _ _ => Nat.zero_le _⟩
    · cases h
  | cons c cs ih =>
    rw [beforeFirst_cons] at h
    split at h
    · next hp =>
      cases h
      exact ⟨hp, fun _ _ => Nat.zero_le _⟩
    · next hn =>
      obtain ⟨b0, hb0, rfl⟩ := Option.map_eq_some_iff.mp h
      obtain ⟨ho, hmin⟩ := ih hb0
      refine ⟨List.cons_prefix_cons.mpr ⟨rfl, ho⟩, fun b' hb' => ?_⟩
      cases b' with
      | nil => exact absurd hb' hn
      | cons a b1 => exact Nat.succ_le_succ (hmin b1 (List.cons_prefix_cons.mp hb').2)

theorem beforeFirst_of_occursAt {pat d b' : Bytes} (h : OccursAt pat d b') :
    ∃ before, beforeFirst pat d = some before := by
  induction d generalizing b' with
  | nil =>
    have hp : pat = [] := (List.append_eq_nil_iff.mp (List.prefix_nil.mp h)).2
    exact ⟨[], by rw [beforeFirst, if_pos hp]⟩
  | cons c cs ih =>
    rw [beforeFirst_cons]
    split
    · exact ⟨[], rfl⟩
    · next hn =>
      cases b' with
      | nil => exact absurd h hn
      | cons a b1 =>
        obtain ⟨b, hb⟩ := ih (List.cons_prefix_cons.mp h).2
        exact ⟨c :: b, by rw [hb]; rfl⟩

theorem firstOcc_unique {pat d b₁ b₂ : Bytes} (h₁ : FirstOcc pat d b₁) (h₂ : FirstOcc pat d b₂) :
    b₁ = b₂ := by
  have hl : b₁.length = b₂.length := Nat.le_antisymm (h₁.2 b₂ h₂.1) (h₂.2 b₁ h₁.1)
  have hp₁ : b₁ <+: d := (List.prefix_append b₁ pat).trans h₁.1
  have hp₂ : b₂ <+: d := (List.prefix_append b₂ pat).trans h₂.1
  exact (List.prefix_of_prefix_length_le hp₁ hp₂ (Nat.le_of_eq hl)).eq_of_length hl

theorem beforeFirst_eq_some_iff (pat d before : Bytes) :
    beforeFirst pat d = some before ↔ FirstOcc pat d before := by
  refine ⟨firstOcc_of_beforeFirst, fun h => ?_⟩
  obtain ⟨b0, hb0⟩ := beforeFirst_of_occursAt h.1
  rw [hb0, firstOcc_unique (firstOcc_of_beforeFirst hb0) h]

theorem beforeFirst_eq_none_iff (pat d : Bytes) :
    beforeFirst pat d = none ↔ ∀ b', ¬ OccursAt pat d b' := by
  constructor
  · intro h b' hb'
    obtain ⟨b, hb⟩ := beforeFirst_of_occursAt hb'
    rw [h] at hb
    cases hb
  · intro h
    cases hb : beforeFirst pat d with
    | none => rfl
    | some b0 => exact absurd (firstOcc_of_beforeFirst hb).1 (h b0)

theorem beforeFirst_short {pat d : Bytes} (hl : d.length < pat.length) : beforeFirst pat d = none := by
  rw [beforeFirst_eq_none_iff]
  intro b' hb'
  have h := hb'.length_le
  rw [List.length_append] at h
  exact Nat.not_le_of_lt hl (Nat.le_trans (Nat.le_add_left _ _) h)

theorem withheld_of_proper_prefix {pat d : Bytes} (hl : d.length < pat.length) (hp : d <+: pat) :
    withheld pat d = [] := by
  cases d with
  | nil => rfl
  | cons c cs => rw [withheld_cons, if_pos ⟨hl, hp⟩]

theorem specFile_of_proper_prefix_of_pat {pat d : Bytes} (hl : d.length < pat.length) (hp : d <+: pat)
    (err : Bool) : specFile pat d err = ([], if err then .underlying else .incomplete) := by
  rw [specFile, beforeFirst_short hl, withheld_of_proper_prefix hl hp]

end S3V.MultipartSpec
