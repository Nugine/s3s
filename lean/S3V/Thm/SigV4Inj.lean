import S3V.Thm.SigV4Canon
import S3V.Thm.BytesText
/-!
# The signed view of a request, and: the canonical request determines it (unique line splitting)

First the tools: `splitOn` splits a text back into separator-free lines (`SplitsAt.lines`, `splitOn_joinWith`, `joinWith_inj`,
`keyed_items_inj`), and `UriEncode` can be undone and emits no reserved byte (`pctDecode_uriEncode`, `mem_uriEncode`).
Then `SignedView` / `signedView` / `encodedQuery`, what a canonical request says about a request, and `LineSafe`, the side
condition (no line feed in a component, no colon in a header name) under which the text splits back into them
(`canon_injective`).
-/
namespace S3V.SigV4
open S3V

/-- `SigV4.splitOn` is one of the models' copies of `slice::split` -/
theorem splitOn_splits (sep : UInt8) : SplitsAt sep (splitOn sep) :=
  ⟨rfl, fun _ _ _ _ h => by rw [splitOn, h]⟩

theorem splitOn_ne_nil (sep : UInt8) (s : Bytes) : splitOn sep s ≠ [] := (splitOn_splits sep).ne_nil s

/-! ## `UriEncode` can be undone -/

theorem hexVal8_upper : ∀ n, n < 16 → hexVal8 (SigV4Spec.upperHexDigit n) = some n := by decide

/-- `SigV4.pctDecode` is one of the models' copies of lenient percent-decoding -/
theorem pctDecode_lenient : LenientDecode hexVal8 pctDecode :=
  ⟨rfl, fun t h => by rw [pctDecode, pctGo, if_neg h]; rfl,
    fun t hx hy => by simp only [pctDecode, pctGo, hexPair, hx, hy, if_true]⟩

/-- a byte is either kept (unreserved, or `/` where that is kept) or becomes `%XY`, `X` and `Y` its two hex digits -/
theorem uriEncodeByte_cases (keep : Bool) (c : UInt8) :
    (SigV4Spec.uriEncodeByte keep c = [c] ∧ (SigV4Spec.unreserved c = true ∨ c = 47 ∧ keep = true)) ∨
    ∃ hi lo, hi < 16 ∧ lo < 16 ∧ hi * 16 + lo = c.toNat ∧
      SigV4Spec.uriEncodeByte keep c = [37, SigV4Spec.upperHexDigit hi, SigV4Spec.upperHexDigit lo] := by
  unfold SigV4Spec.uriEncodeByte
  by_cases hu : SigV4Spec.unreserved c = true
  · rw [if_pos hu]
    exact Or.inl ⟨rfl, Or.inl hu⟩
  · rw [if_neg hu]
    by_cases hs : (c = 47 && keep) = true
    · rw [if_pos hs]
      rw [Bool.and_eq_true, decide_eq_true_eq] at hs
      exact Or.inl ⟨rfl, Or.inr hs⟩
    · rw [if_neg hs]
      have hhi : c.toNat / 16 < 16 := Nat.div_lt_of_lt_mul c.toNat_lt
      have hlo : c.toNat % 16 < 16 := Nat.mod_lt _ (by decide)
      exact Or.inr ⟨_, _, hhi, hlo, Nat.div_add_mod' _ _, rfl⟩

theorem pctDecode_uriEncode (keep : Bool) (s : Bytes) : pctDecode (SigV4Spec.uriEncode keep s) = s :=
  pctDecode_lenient.decode_flatMap (fun c => (uriEncodeByte_cases keep c).imp
    (fun ⟨e, hc⟩ => ⟨e, by rintro rfl; rcases hc with h | ⟨h, _⟩ <;> exact absurd h (by decide)⟩)
    (fun ⟨hi, lo, hhi, hlo, hc, e⟩ => ⟨_, _, hi, lo, e, hexVal8_upper _ hhi, hexVal8_upper _ hlo, hc⟩)) s

theorem uriEncode_injective (keep : Bool) {a b : Bytes} (h : SigV4Spec.uriEncode keep a = SigV4Spec.uriEncode keep b) :
    a = b := by
  have := congrArg pctDecode h
  rwa [pctDecode_uriEncode, pctDecode_uriEncode] at this

/-- no reserved byte survives encoding: the output consists of unreserved bytes, `%`, and `/` when kept -/
theorem mem_uriEncode {keep : Bool} {s : Bytes} {x : UInt8} (h : x ∈ SigV4Spec.uriEncode keep s) :
    SigV4Spec.unreserved x = true ∨ x = 37 ∨ (x = 47 ∧ keep = true) := by
  unfold SigV4Spec.uriEncode at h
  obtain ⟨c, _, hx⟩ := List.mem_flatMap.mp h
  rcases uriEncodeByte_cases keep c with ⟨e, hc⟩ | ⟨hi, lo, hhi, hlo, _, e⟩
  · rw [e, List.mem_singleton] at hx
    subst hx
    exact hc.imp_right Or.inr
  · have hex : ∀ n, n < 16 → SigV4Spec.unreserved (SigV4Spec.upperHexDigit n) = true := by decide
    rw [e] at hx
    simp only [List.mem_cons, List.not_mem_nil, or_false] at hx
    rcases hx with rfl | rfl | rfl
    · exact Or.inr (Or.inl rfl)
    · exact Or.inl (hex _ hhi)
    · exact Or.inl (hex _ hlo)

theorem not_mem_uriEncode (keep : Bool) (s : Bytes) (x : UInt8) (h1 : SigV4Spec.unreserved x = false) (h2 : x ≠ 37)
    (h3 : x ≠ 47) : x ∉ SigV4Spec.uriEncode keep s := by
  intro h
  rcases mem_uriEncode h with h | h | h
  · rw [h1] at h; cases h
  · exact h2 h
  · exact h3 h.1

theorem mem_joinWith {sep : Bytes} {l : List Bytes} {x : UInt8} (h : x ∈ SigV4Spec.joinWith sep l) :
    x ∈ sep ∨ ∃ i ∈ l, x ∈ i := by
  cases l with
  | nil => simp [SigV4Spec.joinWith] at h
  | cons a rest =>
    rw [joinWith_cons_flatMap, List.mem_append, List.mem_flatMap] at h
    rcases h with h | ⟨i, hi, h⟩
    · exact Or.inr ⟨a, by simp, h⟩
    · rcases List.mem_append.mp h with h | h
      · exact Or.inl h
      · exact Or.inr ⟨i, by simp [hi], h⟩

theorem splitOn_joinWith {sep : UInt8} (items : List Bytes) (hne : items ≠ []) (h : ∀ i ∈ items, sep ∉ i) :
    splitOn sep (SigV4Spec.joinWith [sep] items) = items :=
  (splitOn_splits sep).split_join (fun _ => rfl) (fun _ _ _ => rfl) hne h

theorem joinWith_inj {sep : UInt8} {l₁ l₂ : List Bytes} (h₁ : ∀ i ∈ l₁, sep ∉ i ∧ i ≠ []) (h₂ : ∀ i ∈ l₂, sep ∉ i ∧ i ≠ [])
    (h : SigV4Spec.joinWith [sep] l₁ = SigV4Spec.joinWith [sep] l₂) : l₁ = l₂ := by
  -- no item is empty, so only the empty list joins to the empty string
  have nil_of : ∀ (l : List Bytes), (∀ i ∈ l, sep ∉ i ∧ i ≠ []) → SigV4Spec.joinWith [sep] l = [] → l = [] := by
    intro l hl he
    cases l with
    | nil => rfl
    | cons a rest =>
      rw [joinWith_cons_flatMap, List.append_eq_nil_iff] at he
      exact absurd he.1 (hl a (by simp)).2
  by_cases e1 : l₁ = []
  · subst e1
    exact (nil_of l₂ h₂ h.symm).symm
  · have e2 : l₂ ≠ [] := fun e => e1 (nil_of l₁ h₁ (by rw [h, e]; rfl))
    have := congrArg (splitOn sep) h
    rwa [splitOn_joinWith _ e1 (fun i hi => (h₁ i hi).1), splitOn_joinWith _ e2 (fun i hi => (h₂ i hi).1)] at this

/-- `name sep value` items determine the pairs when the names are free of the separator -/
theorem keyed_items_inj {sep : UInt8} : ∀ {l₁ l₂ : List (Bytes × Bytes)}, (∀ p ∈ l₁, sep ∉ p.1) → (∀ p ∈ l₂, sep ∉ p.1) →
    l₁.map (fun p => p.1 ++ [sep] ++ p.2) = l₂.map (fun p => p.1 ++ [sep] ++ p.2) → l₁ = l₂
  | [], [], _, _, _ => rfl
  | [], _ :: _, _, _, h => nomatch h
  | _ :: _, [], _, _, h => nomatch h
  | p :: ps, q :: qs, h₁, h₂, h => by
    obtain ⟨e, es⟩ := List.cons.inj h
    rw [keyed_item_inj (h₁ p List.mem_cons_self) (h₂ q List.mem_cons_self) (by simpa using e),
      keyed_items_inj (fun x hx => h₁ x (List.mem_cons_of_mem _ hx)) (fun x hx => h₂ x (List.mem_cons_of_mem _ hx)) es]

/-- what the canonical request says about a request: method, path, the canonical parameter list,
    each signed header with its canonical value, the payload line -/
structure SignedView where
  method : Bytes
  path : Bytes
  /-- encoded parameters in canonical order -/
  query : List (Bytes × Bytes)
  /-- (name, canonical value) of each signed header, sorted by name -/
  headers : List (Bytes × Bytes)
  payload : Bytes
  deriving DecidableEq

/-- the encoded parameters in canonical order. `SigV4Spec.canonicalQuery q` is by definition `joinWith [38]` of these written
    `name=value`: `lf_not_mem_canonicalQuery` and `canonicalQuery_injective` use that `rfl`. -/
def encodedQuery (q : List (Bytes × Bytes)) : List (Bytes × Bytes) :=
  SigV4Spec.sortPairs (q.map fun p => (SigV4Spec.uriEncode false p.1, SigV4Spec.uriEncode false p.2))

theorem mem_encodedQuery {q : List (Bytes × Bytes)} {x : Bytes × Bytes} :
    x ∈ encodedQuery q ↔ ∃ p ∈ q, (SigV4Spec.uriEncode false p.1, SigV4Spec.uriEncode false p.2) = x := by
  unfold encodedQuery
  rw [mem_sortPairs, List.mem_map]

def signedView (r : SigV4Spec.Request) : SignedView :=
  { method := r.method, path := r.path, query := encodedQuery r.query,
    headers := (SigV4Spec.sortStrs r.signedHeaders).map fun n =>
      (n, SigV4Spec.joinWith [44] (SigV4Spec.headerValues r.headers n)),
    payload := r.payload }

/-- no component may contain a line feed; header names contain no colon (HTTP guarantees both for
    names, `HeaderValue::to_str` guarantees it for values, `Method` for the method) -/
structure LineSafe (r : SigV4Spec.Request) : Prop where
  method : 10 ∉ r.method
  names : ∀ n ∈ r.signedHeaders, 10 ∉ n ∧ 58 ∉ n
  values : ∀ h ∈ r.headers, 10 ∉ h.2
  payload : 10 ∉ r.payload

theorem collapseSpaces_sublist (l : Bytes) : (SigV4Spec.collapseSpaces l).Sublist l := by
  induction l with
  | nil => exact List.Sublist.refl _
  | cons a rest ih =>
    cases rest with
    | nil => exact List.Sublist.refl _
    | cons b rest' =>
      simp only [SigV4Spec.collapseSpaces]
      split
      · exact ih.cons a
      · exact ih.cons_cons a

theorem mem_trimAll {x : UInt8} {v : Bytes} (h : x ∈ SigV4Spec.trimAll v) : x ∈ v :=
  ((collapseSpaces_sublist _).trans (trimBy_sublist SigV4Spec.isWs v)).subset h

theorem mem_sortStrs {n : Bytes} {l : List Bytes} (h : n ∈ SigV4Spec.sortStrs l) : n ∈ l := by
  rw [← sortBytes_eq] at h
  exact (sortBytes_perm l).mem_iff.mp h

/-- the `name:value` lines of the header block, without their line feeds -/
def headerLines (r : SigV4Spec.Request) : List Bytes :=
  (signedView r).headers.map fun p => p.1 ++ [58] ++ p.2

theorem canonicalHeaders_lines (r : SigV4Spec.Request) :
    SigV4Spec.canonicalHeaders r = (headerLines r).flatMap (· ++ [10]) := by
  unfold SigV4Spec.canonicalHeaders headerLines signedView
  simp only [List.map_map]
  induction SigV4Spec.sortStrs r.signedHeaders with
  | nil => rfl
  | cons n ns ih => simp only [List.flatMap_cons, List.map_cons, ih, Function.comp]

theorem no_lf_in_lines {r : SigV4Spec.Request} (hs : LineSafe r) : ∀ l ∈ headerLines r, (10 : UInt8) ∉ l := by
  intro l hl
  unfold headerLines signedView at hl
  simp only [List.map_map, List.mem_map, Function.comp] at hl
  obtain ⟨n, hn, rfl⟩ := hl
  have hn' := hs.names n (mem_sortStrs hn)
  intro hmem
  simp only [List.mem_append, List.mem_singleton] at hmem
  rcases hmem with (hmem | hmem) | hmem
  · exact hn'.1 hmem
  · cases hmem
  · rcases mem_joinWith hmem with h | ⟨i, hi, hx⟩
    · simp at h
    · unfold SigV4Spec.headerValues at hi
      rw [List.mem_map] at hi
      obtain ⟨hd, hhd, rfl⟩ := hi
      exact hs.values hd (List.mem_filter.mp hhd).1 (mem_trimAll hx)

/-- a byte the encoding never emits occurs in no encoded parameter -/
theorem encodedQuery_safe {q : List (Bytes × Bytes)} {p : Bytes × Bytes} (hp : p ∈ encodedQuery q) {x : UInt8}
    (h1 : SigV4Spec.unreserved x = false) (h2 : x ≠ 37) (h3 : x ≠ 47) : x ∉ p.1 ∧ x ∉ p.2 := by
  obtain ⟨y, _, rfl⟩ := mem_encodedQuery.mp hp
  exact ⟨not_mem_uriEncode _ _ _ h1 h2 h3, not_mem_uriEncode _ _ _ h1 h2 h3⟩

theorem lf_not_mem_canonicalQuery (q : List (Bytes × Bytes)) : (10 : UInt8) ∉ SigV4Spec.canonicalQuery q := by
  intro h
  rcases mem_joinWith h with h | ⟨i, hi, hx⟩
  · cases List.mem_singleton.mp h
  · obtain ⟨p, hp, rfl⟩ := List.mem_map.mp hi
    have hs := encodedQuery_safe (x := 10) hp (by decide) (by decide) (by decide)
    simp only [List.mem_append, List.mem_singleton] at hx
    rcases hx with (hx | hx) | hx
    · exact hs.1 hx
    · cases hx
    · exact hs.2 hx

/-- the query line determines the encoded parameters: `&` and `=` occur in none of them -/
theorem canonicalQuery_injective {q₁ q₂ : List (Bytes × Bytes)}
    (h : SigV4Spec.canonicalQuery q₁ = SigV4Spec.canonicalQuery q₂) : encodedQuery q₁ = encodedQuery q₂ := by
  have hitems : ∀ q, ∀ i ∈ (encodedQuery q).map (fun p => p.1 ++ [61] ++ p.2), (38 : UInt8) ∉ i ∧ i ≠ [] := by
    intro q i hi
    obtain ⟨p, hp, rfl⟩ := List.mem_map.mp hi
    have hs := encodedQuery_safe (x := 38) hp (by decide) (by decide) (by decide)
    constructor
    · simp only [List.mem_append, List.mem_singleton, not_or]
      exact ⟨⟨hs.1, by decide⟩, hs.2⟩
    · simp
  have hnames : ∀ q, ∀ p ∈ encodedQuery q, (61 : UInt8) ∉ p.1 :=
    fun q p hp => (encodedQuery_safe hp (by decide) (by decide) (by decide)).1
  exact keyed_items_inj (hnames q₁) (hnames q₂) (joinWith_inj (hitems q₁) (hitems q₂) h)

theorem splitOn_canonical (r : SigV4Spec.Request) (hs : LineSafe r) :
    splitOn 10 (SigV4Spec.canonicalRequest r) =
      r.method :: SigV4Spec.uriEncode true r.path :: SigV4Spec.canonicalQuery r.query ::
        (headerLines r ++ [[], SigV4Spec.signedHeadersLine r, r.payload]) := by
  have hpath : (10 : UInt8) ∉ SigV4Spec.uriEncode true r.path := not_mem_uriEncode _ _ _ (by decide) (by decide) (by decide)
  have hsigned : (10 : UInt8) ∉ SigV4Spec.signedHeadersLine r := by
    intro h
    rcases mem_joinWith h with h | ⟨i, hi, hx⟩
    · cases List.mem_singleton.mp h
    · exact (hs.names i (mem_sortStrs hi)).1 hx
  unfold SigV4Spec.canonicalRequest
  rw [canonicalHeaders_lines]
  simp only [List.append_assoc, List.cons_append, List.nil_append]
  have H := splitOn_splits 10
  rw [H.append_sep _ hs.method, H.append_sep _ hpath, H.append_sep _ (lf_not_mem_canonicalQuery _),
    H.lines _ (no_lf_in_lines hs)]
  -- the empty line between the header block and the list of names
  rw [H.cons_sep, H.append_sep _ hsigned, H.of_not_mem hs.payload]

theorem canon_injective {r₁ r₂ : SigV4Spec.Request} (h₁ : LineSafe r₁) (h₂ : LineSafe r₂)
    (h : SigV4Spec.canonicalRequest r₁ = SigV4Spec.canonicalRequest r₂) : signedView r₁ = signedView r₂ := by
  have hsplit := congrArg (splitOn 10) h
  rw [splitOn_canonical r₁ h₁, splitOn_canonical r₂ h₂, List.cons.injEq, List.cons.injEq, List.cons.injEq] at hsplit
  obtain ⟨hm, hp, hq, hrest⟩ := hsplit
  obtain ⟨hlines, htail⟩ := List.append_inj' hrest rfl
  simp only [List.cons.injEq, and_true, true_and] at htail
  have hnames : ∀ (r : SigV4Spec.Request), LineSafe r → ∀ p ∈ (signedView r).headers, (58 : UInt8) ∉ p.1 := by
    intro r hr p hp
    obtain ⟨n, hn, rfl⟩ := List.mem_map.mp hp
    exact (hr.names n (mem_sortStrs hn)).2
  have hheaders : (signedView r₁).headers = (signedView r₂).headers :=
    keyed_items_inj (hnames r₁ h₁) (hnames r₂ h₂) hlines
  unfold signedView at hheaders ⊢
  rw [SignedView.mk.injEq]
  exact ⟨hm, uriEncode_injective true hp, canonicalQuery_injective hq, hheaders, htail.2⟩

end S3V.SigV4
