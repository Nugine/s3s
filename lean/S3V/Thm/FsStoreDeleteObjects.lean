import S3V.Thm.FsStoreNames
import S3V.Thm.FsStoreTree
/-!
# C18: `delete_objects` refines the store (any keys: missing, repeated)
-/
namespace S3V.FsStore
open S3V.StoreSpec

theorem exceptMapM_ok {α β ε : Type} (f : α → Except ε β) (g : α → β) :
    ∀ (l : List α), (∀ a ∈ l, f a = .ok (g a)) → l.mapM f = .ok (l.map g) := by
  intro l
  induction l with
  | nil => intro _; rfl
  | cons a t ih =>
    intro h
    rw [List.mapM_cons, h a (by simp), ih fun x hx => h x (List.mem_cons_of_mem _ hx)]
    rfl

/-- the path a key names (for keys the backend accepts) -/
def pathOf (k : Bytes) : Path := (keyPath k).getD []

/-- `delete_objects` comparable: admissible bucket; when it exists the keys are canonical (or refused by both sides) and none
    names a directory left behind [fs:leftover-directory]. Keys that do not exist and keys named more than once are inside
    since c55c267 (every requested key is reported as deleted; before: fs:delete-objects-omits-missing-keys,
    fs:delete-objects-duplicate-key), and so is a request with a key both sides refuse (`InvalidArgument`). A bucket that does
    not exist is inside since 0f31b61, with any keys (`NoSuchBucket` on both sides, `InvalidArgument` when a key is refused;
    before: fs:delete-objects-in-missing-bucket) -/
def DeleteObjectsOk (s : State) (b : Bytes) (keys : List Bytes) : Prop :=
  bucketOk b = true ∧
  match s.tree b with
  | none => True
  | some t => ∀ k ∈ keys, CanonKey k ∧ t.node (pathOf k) ≠ some .dir

instance (s : State) (b : Bytes) (keys : List Bytes) : Decidable (DeleteObjectsOk s b keys) := by
  unfold DeleteObjectsOk; decide_pred

/-- resolving the keys of `delete_objects` under an admissible bucket: all of them, or `InvalidArgument` -/
theorem resolveKeys (b : Bytes) (hbd : bucketDir b = some b) : ∀ keys : List Bytes,
    keys.mapM (fun k => (objPath b k).map fun r => (r, k)) =
      if keys.all keyOk = true then .ok (keys.map fun k => (((b, pathOf k), k) : (Bytes × Path) × Bytes))
      else .error .InvalidArgument := by
  intro keys
  induction keys with
  | nil => rfl
  | cons k t ih =>
    rw [List.mapM_cons, ih]
    rcases key_cases k with hk | ⟨p, hk, _⟩
    · simp [objPath, hbd, hk, Except.map, bind, Except.bind]
    · by_cases hall : t.all keyOk = true
      · simp [objPath, hbd, hk, hall, Except.map, bind, Except.bind, pure, Except.pure, pathOf]
      · simp [objPath, hbd, hk, hall, Except.map, bind, Except.bind]

theorem pathOf_spec {k : Bytes} (hc : CanonKey k) (hs : (keyPath k).isSome = true) :
    keyPath k = some (pathOf k) ∧ joinWith [slash] (pathOf k) = k ∧ PathOk (pathOf k) := by
  unfold pathOf
  cases hkp : keyPath k with
  | none => rw [hkp] at hs; simp at hs
  | some p =>
    have := hc.2
    rw [hkp] at this
    exact ⟨rfl, this, keyPath_pathOk hkp⟩

/-- one round of the removal loop at a path that holds no directory: the entry, if there is one, is erased -/
theorem removeFiles_cons {s : State} {b : Bytes} {t : Tree} (ht : s.tree b = some t) {p : Path}
    (hf : t.node p ≠ some .dir) (k : Bytes) (rest : List (Path × Bytes)) (done : List Bytes) :
    removeFiles b ((p, k) :: rest) s done = removeFiles b rest (s.setTree b (alErase p t)) (k :: done) := by
  have hnode : s.node b p = t.node p := by simp [State.node, ht]
  cases hn : t.node p with
  | none => simp only [removeFiles, hnode, hn, setTree_erase_absent ht hn]
  | some n =>
    cases n with
    | dir => exact absurd hn hf
    | file c => simp only [removeFiles, hnode, hn, ht, Option.getD_some]

theorem node_alErase_ne_dir {t : Tree} {q : Path} (h : t.node q ≠ some .dir) (p : Path) :
    Tree.node (alErase p t) q ≠ some .dir := by
  by_cases heq : q = p
  · rw [heq, Tree.node, alLookup_alErase_self]; simp
  · rwa [Tree.node, alLookup_alErase_ne heq]

/-- the removal loop of `delete_objects` over any keys — missing ones, repeated ones — none of which names a directory:
    every key is reported, and the store loses exactly the named objects -/
theorem removeFiles_ok (b : Bytes) :
    ∀ (L : List Bytes) (s : State) (t : Tree) (done : List Bytes), Inv s → s.tree b = some t →
      (∀ k ∈ L, CanonKey k ∧ (keyPath k).isSome = true ∧ t.node (pathOf k) ≠ some .dir) →
      ∃ s', removeFiles b (L.map fun k => (pathOf k, k)) s done = (s', some (done.reverse ++ L)) ∧
        abs s' = { abs s with buckets := alInsert b (L.foldl (fun os k => alErase k os) (absTree s b t)) (abs s).buckets } ∧
        Inv s' := by
  intro L
  induction L with
  | nil =>
    intro s t done hi ht _
    refine ⟨s, by simp [removeFiles], ?_, hi⟩
    exact store_ext (abs_putBack ht).symm rfl rfl
  | cons k rest ih =>
    intro s t done hi ht hall
    obtain ⟨hc, hs, hf⟩ := hall k (by simp)
    obtain ⟨_, hjoin, hp⟩ := pathOf_spec hc hs
    obtain ⟨habs1, hi1⟩ := removeFile_core hi ht hp hjoin
    -- a key named again, or one an earlier item removed, finds nothing: erasing it once more changes nothing
    obtain ⟨s', h1, h2, h3⟩ := ih _ (alErase (pathOf k) t) (k :: done) hi1 (alLookup_alInsert_self _ _ _) fun k' hk' =>
      ⟨(hall k' (List.mem_cons_of_mem _ hk')).1, (hall k' (List.mem_cons_of_mem _ hk')).2.1,
        node_alErase_ne_dir (hall k' (List.mem_cons_of_mem _ hk')).2.2 _⟩
    refine ⟨s', ?_, ?_, h3⟩
    · rw [List.map_cons, removeFiles_cons ht hf, h1]
      simp
    · -- `absTree` reads the side files only, which `setTree` leaves alone
      have htree : absTree (s.setTree b (alErase (pathOf k) t)) b (alErase (pathOf k) t) = alErase k (absTree s b t) :=
        absTree_erase hi ht hp hjoin
      rw [h2, habs1, htree]
      simp only [List.foldl_cons, alInsert_alInsert]

theorem deleteObjects_refines (H : Hashes) (dl : Nat) {s : State} (hi : Inv s) {b : Bytes} {keys : List Bytes}
    (hg : DeleteObjectsOk s b keys) : Refines H dl s (.deleteObjects b keys) := by
  obtain ⟨hbo, hall⟩ := hg
  have hbd := bucketDir_of_bucketOk hbo
  -- a key both sides refuse: `InvalidArgument`, whatever the bucket
  by_cases hk : keys.all keyOk = true
  case neg => simp [Refines, step, StoreSpec.step, resolveKeys b hbd, hk, hbo, hi]
  rcases tree_cases s b with ht | ⟨t, ht⟩
  · simp [Refines, step, StoreSpec.step, resolveKeys b hbd, hk, hbd, hbo, ht, hi]
  simp only [ht.1] at hall
  have hall' : ∀ k ∈ keys, CanonKey k ∧ (keyPath k).isSome = true ∧ t.node (pathOf k) ≠ some .dir := fun k hkm =>
    ⟨(hall k hkm).1, by rw [← keyOk_eq_keyPath]; exact List.all_eq_true.mp hk k hkm, (hall k hkm).2⟩
  obtain ⟨s', h1, h2, h3⟩ := removeFiles_ok b keys s t [] hi ht.1 hall'
  refine .of_eq (r := .deleted keys) ?_ (by simp [StoreSpec.step, hbo, hk, ht]) ⟨h2, h3⟩
  simp only [step, resolveKeys b hbd, hk, if_true, hbd, ht.2.2, List.map_map]
  have : ((fun r : (Bytes × Path) × Bytes => (r.1.2, r.2)) ∘ fun k => ((b, pathOf k), k)) =
      fun k => (pathOf k, k) := rfl
  rw [this, h1]
  simp

end S3V.FsStore
