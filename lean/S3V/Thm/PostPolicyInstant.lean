import S3V.Spec.PostPolicy
import S3V.Thm.SigV4Calendar
import S3V.Thm.DtoTimestampText
import S3V.Thm.DtoTimestamp
/-!
# The two readers of the policy's `expiration` agree on the strict form

`PostPolicy.parseInstant` (specification, AWS document: exactly `YYYY-MM-DDTHH:MM:SS[.digits]Z`, the counting calendar
`SigV4Spec.civilToUnix`, years from 0, shared with SigV4) and `Dto.parseRfc3339` (model of `time`'s RFC 3339 parser, era
calendar `Dto.daysFromCivil`): every text the strict reader accepts is accepted by the code's parser, with the same second
(`parseInstant_implies_parseRfc3339`), no bound on any length. The two calendars are tied through `Thm/SigV4Calendar`;
`DtoSpec`, the specification of C14, keeps a counting calendar of its own (years from 1), tied in `Thm/DtoTimestamp`.

`expirationText`: the text `decodeWith` hands to its reader; `decodeWith_congr`, `formCompliantWith_congr`: two readers that
agree on it give the same policy and the same verdict (how `Props/C10PolicyStrict` passes from the code's reader to the
strict one).
-/
namespace S3V.PostPolicyThm
open S3V S3V.Dto

theorem localSeconds_eq_civilToUnix (y m d hh mm ss : Nat) (h1 : 1 ≤ m) (h2 : m ≤ 12) (h3 : 1 ≤ d) :
    Dto.localSeconds (y : Int) m d hh mm ss = SigV4Spec.civilToUnix y m d hh mm ss := by
  unfold Dto.localSeconds SigV4Spec.civilToUnix SigV4Spec.epochDays
  rw [← SigV4.daysFromCivil_eq_dto, SigV4.daysFromCivil_eq y m d h1 h2 h3]
  omega

theorem validFields_of_validCivil (y m d hh mm ss : Nat) (hy : y ≤ 9999)
    (h : SigV4Spec.validCivil y m d hh mm ss = true) : Dto.validFields (y : Int) m d hh mm ss = true := by
  unfold SigV4Spec.validCivil at h
  unfold Dto.validFields
  rw [← SigV4.monthDays_eq_dto]
  simp only [Bool.and_eq_true, decide_eq_true_eq] at h ⊢
  omega

theorem isDigitB_eq (c : UInt8) : PostPolicy.isDigitB c = isDigit c := rfl

/-- `PostPolicy.decVal s` unfolds to the fold that `digitsVal_of_all` returns -/
theorem nDigits_decVal (s : Bytes) (h : s.all isDigit = true) : NDigits s.length s (PostPolicy.decVal s) :=
  ⟨rfl, digitsVal_of_all (List.all_eq_true.mp h) 0⟩

/-- the tail the strict reader allows, `Z` or `.` digit+ `Z`: the `let tailOk` of `PostPolicy.parseInstant`, typed again -/
def strictTail (rest : Bytes) : Bool :=
  match rest with
  | [90] => true
  | 46 :: more => (match more.reverse with
      | 90 :: fr => PostPolicy.allDigits fr
      | _ => false)
  | _ => false

theorem parseSubsec_strictTail (rest : Bytes) (h : strictTail rest = true) :
    ∃ n, parseSubsec rest = some (n, [90]) := by
  unfold strictTail at h
  split at h
  · exact ⟨0, by decide⟩
  · rename_i more
    split at h
    · rename_i fr hrev
      have hmore : more = fr.reverse ++ [90] := by
        have := congrArg List.reverse hrev
        simpa using this
      subst hmore
      unfold PostPolicy.allDigits at h
      simp only [Bool.and_eq_true, decide_eq_true_eq, ne_eq] at h
      obtain ⟨hne, hall⟩ := h
      have hall' : fr.reverse.all isDigit = true := by
        rw [List.all_reverse]; exact hall
      cases hr : fr.reverse with
      | nil => simp at hr; exact absurd hr hne
      | cons c r =>
        rw [hr] at hall'
        simp only [List.all_cons, Bool.and_eq_true] at hall'
        obtain ⟨v, hv⟩ := subsecLoop_digits r hall'.2 90 (by decide) [] ((c.toNat - 48) * 100000000) 10000000
        exact ⟨v, by rw [List.cons_append, parseSubsec_dot hall'.1, hv]⟩
    · cases h
  · cases h

/-- The code accepts every strict text, with the same second, in UTC: whenever the specification's reader of
    `YYYY-MM-DDTHH:MM:SS[.digits]Z` yields the instant `u`, the model of `time`'s RFC 3339 parser succeeds with
    `unix = u` and offset 0. (Seconds = 60 is refused by the strict reader; year 0000 is read alike by both.) -/
theorem parseInstant_implies_parseRfc3339 {e : Bytes} {u : Int} : PostPolicy.parseInstant e = some u →
    ∃ t, Dto.parseRfc3339 e = some t ∧ t.unix = u ∧ t.off = 0 := by
  fun_cases PostPolicy.parseInstant e
  -- the leaves that refuse
  all_goals try exact fun h => absurd h.symm (Option.some_ne_none u)
  next y0 y1 y2 y3 m0 m1 d0 d1 h0 h1 mi0 mi1 s0 s1 rest _ _ hok _ _ _ _ _ _ hvalid =>
    intro h
    -- the two `let`s of the reader, spelled out
    replace hok : ([y0, y1, y2, y3, m0, m1, d0, d1, h0, h1, mi0, mi1, s0, s1].all PostPolicy.isDigitB &&
        strictTail rest) = true := hok
    simp only [List.all_cons, List.all_nil, Bool.and_true, Bool.and_eq_true, isDigitB_eq] at hok
    obtain ⟨⟨hy0, hy1, hy2, hy3, hm0, hm1, hd0, hd1, hh0, hh1, hmi0, hmi1, hs0, hs1⟩, htail⟩ := hok
    obtain ⟨n, hn⟩ := parseSubsec_strictTail rest htail
    have hv := hvalid
    unfold SigV4Spec.validCivil at hv
    simp only [Bool.and_eq_true, decide_eq_true_eq] at hv
    -- `1 ≤ m`, `m ≤ 12`, `1 ≤ d`, … , the seconds
    obtain ⟨⟨⟨⟨⟨⟨hmlo, hmhi⟩, hdlo⟩, _⟩, _⟩, _⟩, hss⟩ := hv
    have hY := nDigits_decVal [y0, y1, y2, y3] (by simp [hy0, hy1, hy2, hy3])
    have hY4 : PostPolicy.decVal [y0, y1, y2, y3] < 10000 := by simpa using digitsVal_lt _ _ _ hY.2
    have hvf := validFields_of_validCivil _ _ _ _ _ _ (by omega) hvalid
    have htime := parseTime_digits hY (nDigits_decVal [m0, m1] (by simp [hm0, hm1]))
      (nDigits_decVal [d0, d1] (by simp [hd0, hd1])) (nDigits_decVal [h0, h1] (by simp [hh0, hh1]))
      (nDigits_decVal [mi0, mi1] (by simp [hmi0, hmi1])) (nDigits_decVal [s0, s1] (by simp [hs0, hs1])) hss 84 hn
      parseOffset_Z
    rw [if_pos hvf, Int.sub_zero] at htime
    -- the year check of b7ef08a: a UTC text of the years 0000 … 9999 denotes an instant of those years
    have hrange := localSeconds_range_year0 _ _ _ _ _ _ (Int.natCast_nonneg _) hvf
    refine ⟨_, parseRfc3339_eq_some_iff.mpr ⟨htime, hrange⟩, ?_, rfl⟩
    rw [← Option.some.inj h]
    exact localSeconds_eq_civilToUnix _ _ _ _ _ _ hmlo hmhi hdlo

/-- The strict reader is the code's reader cut down to the texts the strict one accepts. Evaluation goes through this
    form: `PostPolicy.parseInstant` counts the days from year 0 one by one, the code's reader uses the era formula, and
    acceptance alone does not need the day count. -/
theorem parseInstant_eq_code : PostPolicy.parseInstant =
    fun e => if (PostPolicy.parseInstant e).isSome then (Dto.parseRfc3339 e).map (·.unix) else none := by
  funext e
  cases hv : PostPolicy.parseInstant e with
  | none => rfl
  | some v =>
    obtain ⟨t, ht, htu, -⟩ := parseInstant_implies_parseRfc3339 hv
    rw [ht, ← htu]
    rfl

/-- the converse fails (which is why `C10_post_policy_enforced` cannot be instantiated with `parseInstant` directly):
    the code's parser also reads spellings the document does not list — another separator byte, a lower-case `z`, a
    numeric offset, a leap second — kernel-checked witnesses -/
theorem parseRfc3339_more_lenient :
    -- `2099-01-01t00:00:00z`
    (Dto.parseRfc3339 [50, 48, 57, 57, 45, 48, 49, 45, 48, 49, 116, 48, 48, 58, 48, 48, 58, 48, 48, 122]).isSome = true ∧
    PostPolicy.parseInstant [50, 48, 57, 57, 45, 48, 49, 45, 48, 49, 116, 48, 48, 58, 48, 48, 58, 48, 48, 122] = none ∧
    -- `2099-01-01T00:00:00+01:00`
    (Dto.parseRfc3339 [50, 48, 57, 57, 45, 48, 49, 45, 48, 49, 84, 48, 48, 58, 48, 48, 58, 48, 48, 43, 48, 49, 58, 48, 48]).isSome = true ∧
    PostPolicy.parseInstant [50, 48, 57, 57, 45, 48, 49, 45, 48, 49, 84, 48, 48, 58, 48, 48, 58, 48, 48, 43, 48, 49, 58, 48, 48] = none ∧
    -- `2016-12-31T23:59:60Z`
    (Dto.parseRfc3339 [50, 48, 49, 54, 45, 49, 50, 45, 51, 49, 84, 50, 51, 58, 53, 57, 58, 54, 48, 90]).isSome = true ∧
    PostPolicy.parseInstant [50, 48, 49, 54, 45, 49, 50, 45, 51, 49, 84, 50, 51, 58, 53, 57, 58, 54, 48, 90] = none := by
  decide +kernel

/-- both readers on year 0000 (a leap year in the proleptic calendar) and on a long fraction -/
theorem parseInstant_examples :
    -- `0000-02-29T00:00:00Z`
    PostPolicy.parseInstant [48, 48, 48, 48, 45, 48, 50, 45, 50, 57, 84, 48, 48, 58, 48, 48, 58, 48, 48, 90] = some (-62162121600) ∧
    (Dto.parseRfc3339 [48, 48, 48, 48, 45, 48, 50, 45, 50, 57, 84, 48, 48, 58, 48, 48, 58, 48, 48, 90]).map (·.unix) =
      some (-62162121600) ∧
    -- `2099-01-01T00:00:00.0123456789Z`
    PostPolicy.parseInstant [50, 48, 57, 57, 45, 48, 49, 45, 48, 49, 84, 48, 48, 58, 48, 48, 58, 48, 48, 46, 48, 49, 50, 51,
      52, 53, 54, 55, 56, 57, 90] = some 4070908800 ∧
    (Dto.parseRfc3339 [50, 48, 57, 57, 45, 48, 49, 45, 48, 49, 84, 48, 48, 58, 48, 48, 58, 48, 48, 46, 48, 49, 50, 51,
      52, 53, 54, 55, 56, 57, 90]).map (·.unix) = some 4070908800 := by
  rw [parseInstant_eq_code]
  decide +kernel

/-- the text of the `expiration` member of the policy a form carries (base64 → JSON text → first member of that name),
    when there is one and it is a string -/
def expirationText (policyB64 : Bytes) : Option Bytes :=
  match Crypto.base64Decode policyB64 with
  | none => none
  | some text =>
    match Policy.JsonText.parse text with
    | some (.obj ms) =>
      match PostPolicy.member ms PostPolicy.sExpiration with
      | some (.str e) => some e
      | _ => none
    | _ => none

theorem decodeWith_congr (rd rd' : Bytes → Option Int) (policyB64 : Bytes)
    (h : ∀ e, expirationText policyB64 = some e → rd e = rd' e) :
    PostPolicy.decodeWith rd policyB64 = PostPolicy.decodeWith rd' policyB64 := by
  unfold PostPolicy.decodeWith
  unfold expirationText at h
  cases hb : Crypto.base64Decode policyB64 with
  | none => rfl
  | some text =>
    rw [hb] at h
    simp only at h ⊢
    cases hj : Policy.JsonText.parse text with
    | none => rfl
    | some j =>
      rw [hj] at h
      simp only at h ⊢
      cases j with
      | obj ms =>
        simp only at h
        simp only [PostPolicy.ofJsonWith]
        split
        · rename_i e cs he _
          rw [he] at h
          rw [h e rfl]
        · rfl
      | _ => rfl

theorem formCompliantWith_congr (rd rd' : Bytes → Option Int) (policyB64 : Bytes)
    (h : ∀ e, expirationText policyB64 = some e → rd e = rd' e) (now : Int) (fields : List (Bytes × Bytes))
    (bucket : Bytes) (fileLen : Nat) :
    PostPolicy.formCompliantWith rd now policyB64 fields bucket fileLen =
      PostPolicy.formCompliantWith rd' now policyB64 fields bucket fileLen := by
  unfold PostPolicy.formCompliantWith PostPolicy.formDefectWith
  rw [decodeWith_congr rd rd' policyB64 h]

end S3V.PostPolicyThm

#print axioms S3V.PostPolicyThm.localSeconds_eq_civilToUnix
#print axioms S3V.PostPolicyThm.validFields_of_validCivil
#print axioms S3V.PostPolicyThm.parseInstant_implies_parseRfc3339
#print axioms S3V.PostPolicyThm.parseRfc3339_more_lenient
#print axioms S3V.PostPolicyThm.parseInstant_examples
#print axioms S3V.PostPolicyThm.decodeWith_congr
