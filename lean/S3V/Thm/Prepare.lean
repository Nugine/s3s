import S3V.Model.Prepare
import S3V.Thm.SigV4Order
import S3V.Thm.RouteCompose
import S3V.Thm.Decimal
/-!
# Lemmas for the model of the middle of `ops::prepare`

* the router's view of the query depends on the multiset of decoded pairs only (`presOf_perm`, over the look-ups on
  the sorted query vector of `Thm/SigV4Order`: `SigV4.lookups_perm`);
* the gates of `afterResolve`, the block `'resolve` (`resolveOp_ok`), and the outcome of `prepare` as one equation
  (`prepare_outcome`) with its inversions (`prepare_s3`, `prepare_customRoute_iff`);
* two notions the statements of `Props/C01Prepare` are written in: `restOf` (the router's view of a request apart from the
  path) and `routeClaims` (whether the custom route claims the request).
-/
namespace S3V.Prepare
open S3V S3V.Gen S3V.Route S3V.Path S3V.PostPolicyModel

/-! ## the router's view of the query -/

theorem presOf_perm {l₁ l₂ : List (Bytes × Bytes)} (h : l₁.Perm l₂) (n : Bytes) :
    presOf (some (SigV4.sortByFirst l₁)) n = presOf (some (SigV4.sortByFirst l₂)) n := by
  obtain ⟨h1, h2⟩ := SigV4.lookups_perm h n
  simp only [presOf, h1, h2]

/-! ## the hand-over to the router is the one of `S3V.RouteCompose`

`Model/Prepare` has its own `pathKind` and `routerReq`; the statements speak of `RouteCompose.view (restOf r) path`. A lemma
about `prepare` rewrites with `routerReq_restOf` first and is stated over `view`. -/

theorem pathKind_eq (p : S3Path) : pathKind p = RouteCompose.pathKind p := by
  cases p <;> rfl

theorem routerReq_eq_view (method : Meth) (path : S3Path) (qs : Option (List (Bytes × Bytes))) (h : HKey → Bool) :
    routerReq method path qs h = RouteCompose.view ⟨method, queryView qs, h⟩ path := by
  simp only [routerReq, RouteCompose.view, pathKind_eq]

end S3V.Prepare

/-- the router's view of a request apart from the path, as `prepare` computes it. In namespace `S3V.C01` because the
    statements of `Props/C01Prepare` name it so; it stands here because `routerReq_restOf` is stated with it. -/
def S3V.C01.restOf {I E : Type} (r : S3V.Prepare.Request I E) : S3V.RouteCompose.RRest :=
  ⟨r.method, S3V.Prepare.queryView (S3V.Prepare.extractQs r.rawQuery), r.h⟩

namespace S3V.Prepare
open S3V S3V.Gen S3V.Route S3V.Path S3V.PostPolicyModel

theorem routerReq_restOf {I E : Type} (r : Request I E) (path : S3Path) :
    routerReq r.method path (extractQs r.rawQuery) r.h = RouteCompose.view (C01.restOf r) path :=
  routerReq_eq_view _ _ _ _

theorem fmtContentLength_eq (n : Nat) : fmtContentLength n = fmtDec n := fmtDec_ite n

/-! ## the gates after `'resolve` -/

section
variable {I E : Type} {ctx : Ctx I E} {cred : Option I} {path : S3Path} {qs : Option (List (Bytes × Bytes))}
  {cl : Option Nat} {body : BodyObs} {op op' : Op} {full full' : Bool}

/-- `afterResolve` hands on an operation exactly when the three gates pass, and then the one it was given, with its
    flag; every other leaf of the function is an error -/
theorem afterResolve_eq_s3 :
    afterResolve ctx cred path qs cl body op full = .s3 op' full' ↔
      (op' = op ∧ full' = full) ∧ eventsHack op qs = false ∧ accessCheck ctx cred path op = .ok () ∧
      (full = true → extractFullBody cl body = .ok ()) := by
  fun_cases afterResolve ctx cred path qs cl body op full
  all_goals simp_all
  -- the one leaf that answers `.s3 op full` is left, with the equations the other way round
  all_goals exact fun _ => eq_comm

theorem afterResolve_ne_customRoute : afterResolve ctx cred path qs cl body op full ≠ .customRoute := by
  fun_cases afterResolve ctx cred path qs cl body op full <;> simp_all

theorem afterResolve_s3_op (h : afterResolve ctx cred path qs cl body op full = .s3 op' full') :
    op' = op ∧ full' = full :=
  (afterResolve_eq_s3.mp h).1

theorem afterResolve_eq_s3_same :
    afterResolve ctx cred path qs cl body op full = .s3 op full ↔
      eventsHack op qs = false ∧ accessCheck ctx cred path op = .ok () ∧
      (full = true → extractFullBody cl body = .ok ()) :=
  afterResolve_eq_s3.trans (and_iff_right ⟨rfl, rfl⟩)

end

/-! ## the block `'resolve` -/

theorem viaRouter_ok {method : Meth} {path : S3Path} {qs : Option (List (Bytes × Bytes))} {h : HKey → Bool}
    {q : Op × Bool} : viaRouter method path qs h = .ok q ↔ resolve (routerReq method path qs h) = some q := by
  unfold viaRouter
  cases resolve (routerReq method path qs h) <;> simp

theorem gateResult_ok {g : Gate} {q : Op × Bool} : gateResult g = .ok q ↔ g = .pass ∧ q = (.PutObject, false) := by
  cases g <;> simp [gateResult, eq_comm]

theorem resolveOp_router {method : Meth} {mp : Option (Bytes → Gate)} (hform : mp = none ∨ method ≠ .POST)
    (path : S3Path) (qs : Option (List (Bytes × Bytes))) (h : HKey → Bool) :
    resolveOp method path qs h mp = viaRouter method path qs h := by
  cases mp with
  | none => rfl
  | some g =>
    have hm : method ≠ .POST := hform.resolve_left fun e => by cases e
    simp only [resolveOp, if_neg hm]

theorem resolveOp_form {method : Meth} (hm : method = .POST) (path : S3Path) (qs : Option (List (Bytes × Bytes)))
    (h : HKey → Bool) (gate : Bytes → Gate) :
    resolveOp method path qs h (some gate) =
      match path with
      | .root => .error .notImplemented
      | .bucket b => gateResult (gate b)
      | .object _ _ => .error .methodNotAllowed := by
  subst hm
  rfl

/-- the two ways the block hands on an operation: the POST form of a bucket whose gate passes (`PutObject`, no
    full body), or the router's answer for a request that is not a POST form -/
theorem resolveOp_ok {method : Meth} {path : S3Path} {qs : Option (List (Bytes × Bytes))} {h : HKey → Bool}
    {mp : Option (Bytes → Gate)} {op : Op} {full : Bool} (hr : resolveOp method path qs h mp = .ok (op, full)) :
    (∃ gate b, mp = some gate ∧ method = .POST ∧ path = .bucket b ∧ gate b = .pass ∧ op = .PutObject ∧
        full = false) ∨
    ((mp = none ∨ method ≠ .POST) ∧ resolve (routerReq method path qs h) = some (op, full)) := by
  by_cases hform : mp = none ∨ method ≠ .POST
  · rw [resolveOp_router hform] at hr
    exact Or.inr ⟨hform, viaRouter_ok.mp hr⟩
  · cases mp with
    | none => exact absurd (Or.inl rfl) hform
    | some gate =>
      have hm : method = .POST := Decidable.of_not_not fun hne => hform (Or.inr hne)
      rw [resolveOp_form hm] at hr
      cases path with
      | root => cases hr
      | object b k => cases hr
      | bucket b =>
        obtain ⟨hg, hq⟩ := gateResult_ok.mp hr
        cases hq
        exact Or.inl ⟨gate, b, rfl, hm, rfl, hg, rfl, rfl⟩

/-! ## case lemmas for `prepare` -/

section cases
variable {I E : Type} (ctx : Ctx I E) (path : S3Path) (r : Request I E)

/-- whether the configured custom route claims the request, shown the rewritten Content-Length header -/
def routeClaims (s : SigResult I) : Bool :=
  match ctx.route with
  | some isMatch =>
    isMatch (rewrite r.clHeader r.contentLength r.decodedContentLength (s.transformedBody || s.multipart.isSome)).1
  | none => false

theorem prepare_sig_error {e : E} (h : r.sig = .error e) :
    prepare ctx path r = ⟨.error (.sig e), r.clHeader, r.contentLength⟩ := by
  simp only [prepare, h]

theorem prepare_fields {s : SigResult I} (h : r.sig = .ok s) :
    (prepare ctx path r).clHeader =
      (rewrite r.clHeader r.contentLength r.decodedContentLength (s.transformedBody || s.multipart.isSome)).1 ∧
    (prepare ctx path r).contentLength =
      (rewrite r.clHeader r.contentLength r.decodedContentLength (s.transformedBody || s.multipart.isSome)).2 := by
  simp only [prepare, h, and_self]

theorem prepare_fields_changed {s : SigResult I} (h : r.sig = .ok s)
    (hc : (s.transformedBody || s.multipart.isSome) = true) :
    (prepare ctx path r).clHeader = r.clHeader.map (fun _ => fmtDec (r.decodedContentLength.getD 0)) ∧
    (prepare ctx path r).contentLength = r.contentLength.map (fun _ => 0) := by
  obtain ⟨h1, h2⟩ := prepare_fields ctx path r h
  rw [h1, h2]
  simp only [rewrite, hc, if_true, fmtContentLength_eq, and_self]

/-- the outcome of `prepare` past the signature check: the custom route first, then the block `'resolve`, then the
    three gates of `afterResolve` -/
theorem prepare_outcome {s : SigResult I} (h : r.sig = .ok s) :
    (prepare ctx path r).outcome =
      if routeClaims ctx r s = true then .customRoute
      else match resolveOp r.method path (extractQs r.rawQuery) r.h s.multipart with
        | .error c => .error (.code c)
        | .ok (op, full) =>
          afterResolve ctx s.credentials path (extractQs r.rawQuery) (prepare ctx path r).contentLength r.body
            op full := by
  simp only [prepare, h, routeClaims]
  cases resolveOp r.method path (extractQs r.rawQuery) r.h s.multipart with
  | error c => rfl
  | ok p => cases p; rfl

theorem prepare_routed {s : SigResult I} (h : r.sig = .ok s) (hr : routeClaims ctx r s = true) :
    (prepare ctx path r).outcome = .customRoute := by
  rw [prepare_outcome ctx path r h, if_pos hr]

theorem prepare_not_routed {s : SigResult I} (h : r.sig = .ok s) (hr : routeClaims ctx r s = false) :
    (prepare ctx path r).outcome =
      match resolveOp r.method path (extractQs r.rawQuery) r.h s.multipart with
      | .error c => .error (.code c)
      | .ok (op, full) =>
        afterResolve ctx s.credentials path (extractQs r.rawQuery) (prepare ctx path r).contentLength r.body
          op full := by
  rw [prepare_outcome ctx path r h, if_neg (by rw [hr]; exact Bool.false_ne_true)]

theorem prepare_s3 {op : Op} {full : Bool} (h : (prepare ctx path r).outcome = .s3 op full) :
    ∃ s, r.sig = .ok s ∧ routeClaims ctx r s = false ∧
      resolveOp r.method path (extractQs r.rawQuery) r.h s.multipart = .ok (op, full) ∧
      afterResolve ctx s.credentials path (extractQs r.rawQuery) (prepare ctx path r).contentLength r.body
        op full = .s3 op full := by
  cases hs : r.sig with
  | error e => rw [prepare_sig_error ctx path r hs] at h; cases h
  | ok s =>
    refine ⟨s, rfl, ?_⟩
    cases hr : routeClaims ctx r s with
    | true => rw [prepare_routed ctx path r hs hr] at h; cases h
    | false =>
      rw [prepare_not_routed ctx path r hs hr] at h
      cases hres : resolveOp r.method path (extractQs r.rawQuery) r.h s.multipart with
      | error c => rw [hres] at h; cases h
      | ok q =>
        rw [hres] at h
        obtain ⟨rfl, rfl⟩ := afterResolve_s3_op h
        exact ⟨rfl, rfl, h⟩

theorem prepare_customRoute_iff :
    (prepare ctx path r).outcome = .customRoute ↔ ∃ s, r.sig = .ok s ∧ routeClaims ctx r s = true := by
  refine ⟨fun h => ?_, fun ⟨s, hs, hr⟩ => prepare_routed ctx path r hs hr⟩
  cases hs : r.sig with
  | error e => rw [prepare_sig_error ctx path r hs] at h; cases h
  | ok s =>
    refine ⟨s, rfl, ?_⟩
    cases hr : routeClaims ctx r s with
    | true => rfl
    | false =>
      -- not claimed: the outcome is an error of `'resolve` or whatever `afterResolve` answers, never the route
      rw [prepare_not_routed ctx path r hs hr] at h
      cases hres : resolveOp r.method path (extractQs r.rawQuery) r.h s.multipart with
      | error c => rw [hres] at h; cases h
      | ok q => rw [hres] at h; exact absurd h afterResolve_ne_customRoute

/-- `prepare` reads the raw query only through the router's view of it and the `events` test -/
theorem prepare_congr_query (q₁ q₂ : Option Bytes) (hv : queryView (extractQs q₁) = queryView (extractQs q₂))
    (he : ∀ op, eventsHack op (extractQs q₁) = eventsHack op (extractQs q₂)) :
    prepare ctx path { r with rawQuery := q₁ } = prepare ctx path { r with rawQuery := q₂ } := by
  simp only [prepare, resolveOp, viaRouter, routerReq, afterResolve, hv, he]

end cases

end S3V.Prepare
