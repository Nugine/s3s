import S3V.Thm.FsPathNames
import S3V.Thm.BytesText
/-!
# Lemmas: every entry of the may-touch table `plan` is allowed by C17 (`Allowed`)

`P e enc op t`: the entry `t` is anchored at a dot-free location (`anchor`) and every node it covers is `Allowed` (`allowed`).
`entry_*`: `P` of the entry at a place obtained in one of the ways a plan obtains places; `forall_*`: a predicate on touches carried
over one construct of `plan`; `plan_<op>`: the walk of one table; `plan_allowed` joins them. `verifyUpload_elim`,
`plan_uploadOps_elim`: the heads of the five upload tables for any predicate on plans (here through `forall_upload`; in `Props/C17`
with `OnlyRecordRead`).
-/
namespace S3V.FsPath

theorem components_parentPath {e : Env} (hr : RootOk e.root) {p : Bytes} {ns : List Bytes}
    (hc : components p = components e.root ++ ns.map .normal) (hg : ∀ n ∈ ns, Good n) (hne : ns ≠ [])
    (ha : isAbsolute p = true) : components (parentPath p) = components e.root ++ ns.dropLast.map .normal := by
  obtain ⟨rs, hl, hrs⟩ := hr.shape
  have hd : (components p).dropLast = .rootDir :: (rs ++ ns.dropLast).map .normal := by
    rw [hc, hl, List.cons_append, List.dropLast_cons_of_ne_nil (by simp [hne]),
      List.dropLast_append_of_ne_nil (by simpa using hne), List.map_append, List.map_dropLast]
  unfold parentPath
  rw [hd, ha, List.map_cons, map_osStr_normal]
  show components (render ([47] :: (rs ++ ns.dropLast)) true) = _
  rw [(components_render_abs (List.forall_mem_append.mpr ⟨hrs, fun n hn => hg n (List.dropLast_subset _ hn)⟩)).1,
    List.map_append, hl]
  rfl

theorem covers_path {e : Env} {p : Bytes} {q : List Comp} (h : covers e (.path p) q = true) :
    q = components p := by
  simp only [covers, beq_iff_eq] at h
  exact h.symm

theorem covers_subtree {e : Env} {p : Bytes} {q : List Comp} (h : covers e (.subtree p) q = true) :
    components p <+: q := by
  simp only [covers] at h
  exact List.isPrefixOf_iff_prefix.mp h

theorem covers_dirChain {e : Env} {p : Bytes} {q : List Comp} (h : covers e (.dirChain p) q = true) :
    components e.root <+: q ∧ (components e.root).length < q.length ∧ q <+: components p := by
  simp only [covers, Bool.and_eq_true, decide_eq_true_eq] at h
  exact ⟨List.isPrefixOf_iff_prefix.mp h.1.1, h.1.2, List.isPrefixOf_iff_prefix.mp h.2⟩

theorem covers_children {e : Env} {dir pre : Bytes} {q : List Comp}
    (h : covers e (.childrenPrefixed dir pre) q = true) :
    ∃ name, pre <+: name ∧ q = components dir ++ [.normal name] := by
  simp only [covers] at h
  split at h
  · rename_i name hl
    simp only [Bool.and_eq_true, beq_iff_eq] at h
    refine ⟨name, bytes_isPrefixOf_iff.mp h.2, ?_⟩
    rw [← h.1]
    have hne : q ≠ [] := by intro e; rw [e] at hl; cases hl
    have hlast : q.getLast hne = .normal name := by
      rw [List.getLast?_eq_some_getLast hne] at hl
      exact Option.some.inj hl
    rw [← hlast]
    exact (List.dropLast_concat_getLast hne).symm
  · cases h

/-- a node on the `create_dir_all` chain of a path inside a bucket is inside that bucket -/
theorem chain_inBucket {e : Env} {p : Bytes} {bn : Bytes} {rest q : List Comp}
    (hc : components p = components e.root ++ .normal bn :: rest)
    (h : covers e (.dirChain p) q = true) : (components e.root ++ [.normal bn]) <+: q := by
  obtain ⟨h1, h2, h3⟩ := covers_dirChain h
  obtain ⟨q', rfl⟩ := h1
  rw [hc] at h3
  have h4 : q' <+: .normal bn :: rest := (List.prefix_append_right_inj _).mp h3
  cases q' with
  | nil => simp at h2
  | cons c q'' =>
    have := List.cons_prefix_cons.mp h4
    rw [this.1]
    exact (List.prefix_append_right_inj _).mpr (List.cons_prefix_cons.mpr ⟨rfl, List.nil_prefix⟩)

theorem chain_root_empty {e : Env} {p : Bytes} {q : List Comp} (hc : components p = components e.root)
    (h : covers e (.dirChain p) q = true) : False := by
  obtain ⟨_, h2, h3⟩ := covers_dirChain h
  rw [hc] at h3
  have := h3.length_le
  omega

/-! ## the predicate on touches

`entry_x`: the table entry anchored at a path that was obtained in way `x` (the directory of a bucket, the path of an object,
the root's child of a bookkeeping name, the root itself) satisfies `P`. -/

/-- the touch names a dot-free absolute location, and every node it denotes is one the property allows `op` to
    access in that way -/
structure P (e : Env) (enc : Bytes → Bytes) (op : Op) (t : Touch) : Prop where
  anchor : TgtOk t.tgt
  allowed : ∀ q, covers e t.tgt q = true → Allowed e enc op t.acc q

variable {e : Env} {enc : Bytes → Bytes} {op : Op}

/-- where a bucket is named in `op`, and how it may be accessed -/
def BucketAcc (op : Op) (b : Bytes) (acc : Acc) : Prop :=
  b ∈ writeBuckets op ∨ (b ∈ readBuckets op ∧ (acc = .read ∨ acc = .list))

theorem BucketAcc.write {b : Bytes} {acc : Acc} (h : b ∈ writeBuckets op) : BucketAcc op b acc := .inl h
theorem BucketAcc.read {b : Bytes} (h : b ∈ readBuckets op) : BucketAcc op b .read := .inr ⟨h, .inl rfl⟩
theorem BucketAcc.list {b : Bytes} (h : b ∈ readBuckets op) : BucketAcc op b .list := .inr ⟨h, .inr rfl⟩

theorem allowedB {b : Bytes} {q : List Comp} {acc : Acc} (hb : BucketAcc op b acc) (h : InBucket e b q) :
    Allowed e enc op acc q := by
  rcases hb with hb | ⟨hb, ha⟩
  · exact .inl ⟨b, hb, h⟩
  · exact .inr (.inl ⟨b, hb, h, ha⟩)

theorem P.of_path (hr : RootOk e.root) {p : Bytes} {ext : List Comp} {acc : Acc}
    (hpc : components p = components e.root ++ ext) (hext : AllNormal ext)
    (h : Allowed e enc op acc (components e.root ++ ext)) : P e enc op ⟨acc, .path p⟩ :=
  ⟨noDots_under hr hpc hext, fun q hq => by rw [covers_path hq, hpc]; exact h⟩

theorem entry_bucket (hr : RootOk e.root) {b p : Bytes} {acc : Acc} (hb : BucketAcc op b acc)
    (h : getBucketPath e b = .ok p) : P e enc op ⟨acc, .path p⟩ := by
  obtain ⟨bn, hbc, _, hpc, _⟩ := getBucketPath_shape e hr h
  exact .of_path hr hpc (allNormal_map [bn]) (allowedB hb ⟨bn, hbc, List.prefix_refl _⟩)

theorem entry_bucketSubtree (hr : RootOk e.root) {b p : Bytes} {acc : Acc} (hb : BucketAcc op b acc)
    (h : getBucketPath e b = .ok p) : P e enc op ⟨acc, .subtree p⟩ := by
  obtain ⟨bn, hbc, _, hpc, _⟩ := getBucketPath_shape e hr h
  refine ⟨noDots_under hr hpc (allNormal_map [bn]), fun q hq => ?_⟩
  have := covers_subtree hq
  rw [hpc] at this
  exact allowedB hb ⟨bn, hbc, this⟩

theorem entry_obj (hr : RootOk e.root) {b k p : Bytes} {acc : Acc} (hb : BucketAcc op b acc)
    (h : getObjectPath e b k = .ok p) : P e enc op ⟨acc, .path p⟩ := by
  obtain ⟨bn, ks, hbc, _, _, _, _, _, hpc, _⟩ := getObjectPath_shape e hr h
  exact .of_path hr hpc (allNormal_map (bn :: ks)) <| allowedB hb
    ⟨bn, hbc, (List.prefix_append_right_inj _).mpr (List.cons_prefix_cons.mpr ⟨rfl, List.nil_prefix⟩)⟩

theorem entry_objChain (hr : RootOk e.root) {b k p : Bytes} {acc : Acc} (hb : BucketAcc op b acc)
    (h : getObjectPath e b k = .ok p) : P e enc op ⟨acc, .dirChain p⟩ := by
  obtain ⟨bn, ks, hbc, _, _, _, _, _, hpc, _⟩ := getObjectPath_shape e hr h
  refine ⟨noDots_under hr hpc (allNormal_map (bn :: ks)), fun q hq => ?_⟩
  exact allowedB hb ⟨bn, hbc, chain_inBucket hpc hq⟩

theorem entry_objChainParent (hr : RootOk e.root) {b k p : Bytes} {acc : Acc} (hb : BucketAcc op b acc)
    (h : getObjectPath e b k = .ok p) : P e enc op ⟨acc, .dirChain (parentPath p)⟩ := by
  obtain ⟨bn, ks, hbc, hbg, hne, hg, _, _, hpc, hpa⟩ := getObjectPath_shape e hr h
  have hpp := components_parentPath hr hpc (List.forall_mem_cons.mpr ⟨hbg, hg⟩) (List.cons_ne_nil _ _) hpa
  refine ⟨noDots_under hr hpp (allNormal_map _), fun q hq => ?_⟩
  rw [List.dropLast_cons_of_ne_nil hne] at hpp
  exact allowedB hb ⟨bn, hbc, chain_inBucket hpp hq⟩

theorem entry_name (hr : RootOk e.root) {n p : Bytes} {acc : Acc} (hg : DotName n)
    (ho : OwnName enc op acc n) (h : resolveAbsPath e n = .ok p) : P e enc op ⟨acc, .path p⟩ := by
  exact .of_path hr (resolve_good_shape e hr hg.good h).1 (allNormal_map [n]) (.inr (.inr (.inl ⟨n, ho, hg.dot, rfl⟩)))

/-- the parent of a root child is the root, and `dirChain` only denotes nodes strictly below the root: the entry denotes no
    node at all, so `allowed` holds of nothing -/
theorem entry_nameChainParent (hr : RootOk e.root) {n p : Bytes} {acc : Acc} (hg : Good n)
    (h : resolveAbsPath e n = .ok p) : P e enc op ⟨acc, .dirChain (parentPath p)⟩ := by
  obtain ⟨hc, ha⟩ := resolve_good_shape e hr hg h
  have hpp := components_parentPath hr (ns := [n]) hc (fun _ hm => List.mem_singleton.mp hm ▸ hg) (by simp) ha
  refine ⟨noDots_under hr hpp (allNormal_map _), fun q hq => ?_⟩
  exact (chain_root_empty (by simpa using hpp) hq).elim

theorem entry_rootList (hr : RootOk e.root) (h : listsRoot op = true) : P e enc op ⟨.list, .path e.root⟩ := by
  refine ⟨noDots_root hr, fun q hq => ?_⟩
  rw [covers_path hq]
  exact .inr (.inr (.inr (.inl ⟨h, rfl, rfl⟩)))

theorem entry_rootChildren (hr : RootOk e.root) :
    P e enc .listBuckets ⟨.read, .childrenPrefixed e.root []⟩ := by
  refine ⟨noDots_root hr, fun q hq => ?_⟩
  obtain ⟨name, _, hqn⟩ := covers_children hq
  exact .inr (.inr (.inr (.inr ⟨rfl, rfl, name, hqn⟩)))

private theorem head_of_prefix {pre n : Bytes} {c : UInt8} (hp : pre.head? = some c) (h : pre <+: n) : n.head? = some c := by
  obtain ⟨ys, rfl⟩ := List.head?_eq_some_iff.mp hp
  obtain ⟨t, rfl⟩ := h
  rfl

theorem entry_partFiles (hr : RootOk e.root) {x : Bytes} {acc : Acc}
    (ho : ∀ n, uploadPartPrefix x <+: n → OwnName enc op acc n) :
    P e enc op ⟨acc, .childrenPrefixed e.root (uploadPartPrefix x)⟩ := by
  refine ⟨noDots_root hr, fun q hq => ?_⟩
  obtain ⟨name, hpre, hqn⟩ := covers_children hq
  exact .inr (.inr (.inl ⟨name, ho name hpre, head_of_prefix (by simp [uploadPartPrefix, sUploadId]) hpre, hqn⟩))

/-! `forall_nil`, `forall_cons`, `forall_append`, `forall_map` are `List.forall_mem_*` in the direction and with the arguments in
    which the walks below chain them as terms; the others carry a predicate on touches over one construct of `plan` each. -/

theorem forall_withPath {Q : Touch → Prop} {r : Except Err Bytes} {sofar : List Touch} {k : Bytes → Plan}
    (h1 : ∀ t ∈ sofar, Q t) (h2 : ∀ p, r = .ok p → ∀ t ∈ (k p).touches, Q t) :
    ∀ t ∈ (withPath r sofar k).touches, Q t := by
  cases r with
  | error x => exact h1
  | ok p => exact h2 p rfl

theorem forall_ok {Q : Touch → Prop} {l : List Touch} (h : ∀ t ∈ l, Q t) : ∀ t ∈ (Plan.ok l).touches, Q t := h

theorem forall_ite {Q : Touch → Prop} {c : Prop} [Decidable c] {a b : Plan}
    (ha : c → ∀ t ∈ a.touches, Q t) (hb : ¬c → ∀ t ∈ b.touches, Q t) :
    ∀ t ∈ (if c then a else b).touches, Q t := by
  split
  · exact ha ‹_›
  · exact hb ‹_›

theorem forall_nil {Q : Touch → Prop} : ∀ t ∈ ([] : List Touch), Q t :=
  fun _ h => absurd h List.not_mem_nil

theorem forall_cons {Q : Touch → Prop} {a : Touch} {l : List Touch} (h1 : Q a) (h2 : ∀ t ∈ l, Q t) :
    ∀ t ∈ a :: l, Q t :=
  List.forall_mem_cons.mpr ⟨h1, h2⟩

theorem forall_append {Q : Touch → Prop} {l1 l2 : List Touch} (h1 : ∀ t ∈ l1, Q t) (h2 : ∀ t ∈ l2, Q t) :
    ∀ t ∈ l1 ++ l2, Q t :=
  List.forall_mem_append.mpr ⟨h1, h2⟩

theorem forall_map {Q : Touch → Prop} {pps : List Bytes} {f : Bytes → Touch} (h : ∀ pp ∈ pps, Q (f pp)) :
    ∀ t ∈ pps.map f, Q t :=
  List.forall_mem_map.mpr h

theorem forall_fileWrite {Q : Touch → Prop} {tmp dest par : Bytes}
    (h1 : ∀ acc, Q ⟨acc, .path tmp⟩) (h2 : Q ⟨.create, .dirChain par⟩) (h3 : ∀ acc, Q ⟨acc, .path dest⟩) :
    ∀ t ∈ fileWrite tmp dest par, Q t :=
  forall_cons (h1 _) <| forall_cons (h1 _) <| forall_cons (h1 _) <| forall_cons h2 <| forall_cons (h3 _) <|
    forall_cons (h3 _) forall_nil

/-- `check_upload_exists` in front of `k`: whatever holds of a refusal that has touched nothing beyond `sofar`, and — once the
    record of the upload has been read — of `k`'s table if the record allows the request and of the `NoSuchUpload` refusal
    (41e1cf2) if it does not, holds of the table -/
theorem verifyUpload_elim {R : Plan → Prop} {u b key : Bytes} {sofar : List Touch} {k : List Touch → Plan}
    (hfail : ∀ x, R (.fail sofar x))
    (hok : ∀ info, uploadInfoPath e u = .ok info → (e.uploadRec u).allows b key = true → R (k (sofar ++ [rd info])))
    (hno : ∀ info, uploadInfoPath e u = .ok info → (e.uploadRec u).allows b key = false →
      R (.fail (sofar ++ [rd info]) .noSuchUpload)) :
    R (verifyUpload e u b key sofar k) := by
  unfold verifyUpload withPath
  cases hi : uploadInfoPath e u with
  | error x => exact hfail x
  | ok info =>
    show R (if _ then _ else _)
    split
    · exact hok info hi ‹_›
    · exact hno info hi (Bool.eq_false_iff.mpr ‹_›)

/-- the tables of the five operations on an upload, up to the point where its record decides: refusals that have touched
    nothing, then the head that parses the id and reads the record -/
theorem plan_uploadOps_elim {R : Plan → Prop} {b k uid : Bytes} (hstop : ∀ x, R (.fail [] x))
    (hhead : ∀ cont : Bytes → List Touch → Plan, R (match parseUuid uid with
      | none => .fail [] .noSuchUpload
      | some u => verifyUpload e u b k [] (cont u))) :
    (∀ part hasBody c, R (plan e enc (.uploadPart b k uid part hasBody c))) ∧
    (∀ ap sb sk part c, R (plan e enc (.uploadPartCopy ap sb sk b k uid part c))) ∧
    R (plan e enc (.listParts b k uid)) ∧
    (∀ parts c, R (plan e enc (.completeMultipartUpload b k uid parts c))) ∧
    R (plan e enc (.abortMultipartUpload b k uid)) := by
  have test : ∀ {c : Prop} [Decidable c] {x : Err} {pl : Plan}, R pl → R (if c then .fail [] x else pl) := fun h => by
    split
    · exact hstop _
    · exact h
  refine ⟨fun _ _ _ => test (test (hhead _)), fun _ _ _ _ _ => test (hhead _), hhead _, fun parts _ => ?_, hhead _⟩
  cases parts with
  | none => exact hstop _
  | some ps => exact test (hhead _)

/-! ## the operations

Each lemma walks the table of one operation for a variable `op`, of which it assumes the clauses of `writeBuckets`, `readBuckets`,
`OwnName` and `listsRoot` that the entries of that table need; `plan_allowed` puts the operation in, and there each clause is the
definition of the specification read off at that operation. -/

theorem completeCheck_forall (e : Env) {Q : Touch → Prop} (u : Bytes) (ps : List Int) :
    (∀ n ∈ ps, ∀ pp, uploadPartPath e u n = .ok pp → ∀ a, Q ⟨a, .path pp⟩) →
    ∀ (acc : List Touch) (pps : List Bytes), (∀ t ∈ acc, Q t) → (∀ pp ∈ pps, ∀ a, Q ⟨a, .path pp⟩) →
      (∀ pl, completeCheck e u ps acc pps = .error pl → ∀ t ∈ pl.touches, Q t) ∧
      (∀ t2 pps', completeCheck e u ps acc pps = .ok (t2, pps') →
        (∀ t ∈ t2, Q t) ∧ ∀ pp ∈ pps', ∀ a, Q ⟨a, .path pp⟩) := by
  induction ps with
  | nil => exact fun _ acc pps ha hpps => ⟨nofun, fun _ _ h => by cases h; exact ⟨ha, hpps⟩⟩
  | cons n rest ih =>
    intro hp acc pps ha hpps
    simp only [completeCheck]
    cases hpp : uploadPartPath e u n with
    | error x => exact ⟨fun _ h => by cases h; exact ha, nofun⟩
    | ok pp =>
      have hq := hp n List.mem_cons_self pp hpp
      refine ih (fun m hm => hp m (List.mem_cons_of_mem _ hm)) _ _
        (forall_append ha (forall_cons (hq _) forall_nil)) ?_
      intro pp' hpp' a
      rcases List.mem_append.mp hpp' with h | h
      · exact hpps pp' h a
      · cases List.mem_singleton.mp h
        exact hq a

section ops
variable (e) (enc) (hr : RootOk e.root) (he : EncNoSlash enc)
include hr

theorem plan_createBucket (b : Bytes) (hb : b ∈ writeBuckets op) :
    ∀ t ∈ (plan e enc (.createBucket b)).touches, P e enc op t := by
  refine forall_withPath forall_nil fun p hp => ?_
  have h1 : ∀ acc, P e enc op ⟨acc, .path p⟩ := fun _ => entry_bucket hr (BucketAcc.write hb) hp
  exact forall_cons (h1 _) (forall_cons (h1 _) forall_nil)

theorem plan_deleteBucket (b : Bytes) (hb : b ∈ writeBuckets op) :
    ∀ t ∈ (plan e enc (.deleteBucket b)).touches, P e enc op t := by
  have hb : ∀ acc, BucketAcc op b acc := fun _ => BucketAcc.write hb
  refine forall_withPath forall_nil fun p hp => ?_
  exact forall_cons (entry_bucket hr (hb _) hp) <| forall_cons (entry_bucketSubtree hr (hb _) hp) <|
    forall_cons (entry_bucketSubtree hr (hb _) hp) forall_nil

theorem plan_headBucket (b : Bytes) (hb : b ∈ readBuckets op) :
    ∀ t ∈ (plan e enc (.headBucket b)).touches, P e enc op t := by
  refine forall_withPath forall_nil fun p hp => ?_
  exact forall_cons (entry_bucket hr (BucketAcc.read hb) hp) forall_nil

theorem plan_listBuckets : ∀ t ∈ (plan e enc .listBuckets).touches, P e enc .listBuckets t :=
  forall_cons (entry_rootList hr rfl) (forall_cons (entry_rootChildren hr) forall_nil)

theorem plan_listObjects (b : Bytes) (hb : b ∈ readBuckets op) :
    ∀ t ∈ (plan e enc (.listObjects b)).touches, P e enc op t := by
  refine forall_withPath forall_nil fun p hp => ?_
  exact forall_cons (entry_bucket hr (BucketAcc.read hb) hp) <| forall_cons (entry_bucketSubtree hr (BucketAcc.list hb) hp) <|
    forall_cons (entry_bucketSubtree hr (BucketAcc.read hb) hp) forall_nil

theorem plan_deleteObject (b k : Bytes) (hb : b ∈ writeBuckets op) :
    ∀ t ∈ (plan e enc (.deleteObject b k)).touches, P e enc op t := by
  have hb : ∀ acc, BucketAcc op b acc := fun _ => BucketAcc.write hb
  refine forall_withPath forall_nil fun p hp => ?_
  have h1 : ∀ acc, P e enc op ⟨acc, .path p⟩ := fun _ => entry_obj hr (hb _) hp
  refine forall_withPath (forall_cons (h1 _) forall_nil) fun bp hbp => ?_
  exact forall_cons (h1 _) <| forall_cons (entry_bucket hr (hb _) hbp) <| forall_cons (h1 _) <|
    forall_cons (h1 _) forall_nil

theorem deleteObjectsPlan_allowed (b : Bytes) (hb : b ∈ writeBuckets op) (ks : List Bytes) :
    ∀ (paths : List Bytes), (∀ p ∈ paths, ∀ a, P e enc op ⟨a, .path p⟩) →
      ∀ t ∈ (deleteObjectsPlan e b ks paths).touches, P e enc op t := by
  induction ks with
  | nil =>
    intro paths hp
    refine forall_withPath forall_nil fun bp hbp => ?_
    refine forall_cons (entry_bucket hr (BucketAcc.write hb) hbp) ?_
    intro t ht
    obtain ⟨p, hpm, ht⟩ := List.mem_flatMap.mp ht
    exact forall_cons (hp p hpm _) (forall_cons (hp p hpm _) forall_nil) t ht
  | cons k rest ih =>
    intro paths hp
    refine forall_withPath forall_nil fun p hpk => ih _ ?_
    intro p' hp' a
    rcases List.mem_append.mp hp' with h | h
    · exact hp p' h a
    · cases List.mem_singleton.mp h
      exact entry_obj hr (BucketAcc.write hb) hpk

/-- the head of every operation on an upload: an id that is no UUID names no upload (4609ab3) and nothing is touched; otherwise
    the record of the upload is read, and the operation goes on only if the record allows it -/
theorem forall_upload {uid b key : Bytes} {k : Bytes → List Touch → Plan}
    (hown : ∀ u, parseUuid uid = some u → OwnName enc op .read (uploadInfoName u))
    (h : ∀ u, parseUuid uid = some u → ∀ t1 : List Touch, (∀ t ∈ t1, P e enc op t) →
      ∀ t ∈ (k u t1).touches, P e enc op t) :
    ∀ t ∈ (match parseUuid uid with
      | none => Plan.fail [] .noSuchUpload
      | some u => verifyUpload e u b key [] (k u)).touches, P e enc op t := by
  cases hpu : parseUuid uid with
  | none => exact forall_nil
  | some u =>
    have ht1 : ∀ info, uploadInfoPath e u = .ok info → ∀ t ∈ [] ++ [rd info], P e enc op t := fun info hinfo =>
      forall_append forall_nil (forall_cons
        (entry_name hr (good_uploadInfoName (parseUuid_noSlash hpu)) (hown u hpu) hinfo) forall_nil)
    exact verifyUpload_elim (R := fun pl => ∀ t ∈ pl.touches, P e enc op t) (fun _ => forall_nil)
      (fun info hinfo _ => h u hpu _ (ht1 info hinfo)) (fun info hinfo _ => ht1 info hinfo)

theorem forall_partWrite {uid u : Bytes} {part : Int} {c : Nat} (hpu : parseUuid uid = some u)
    (hown : ∀ acc n, OwnUploadName uid part c acc n → OwnName enc op acc n)
    {t1 : List Touch} (ht1 : ∀ t ∈ t1, P e enc op t) {pp : Bytes} (hpp : uploadPartPath e u part = .ok pp) :
    ∀ t ∈ (withPath (tmpPath e c) t1 fun tmp => .ok (t1 ++ fileWrite tmp pp (parentPath pp))).touches,
      P e enc op t := by
  have hu := parseUuid_noSlash hpu
  refine forall_withPath ht1 fun tmp htmp => forall_append ht1 (forall_fileWrite ?_ ?_ ?_)
  · exact fun _ => entry_name hr (good_tmpName c) (hown _ _ ⟨u, hpu, .inr (.inr rfl)⟩) htmp
  · exact entry_nameChainParent hr (good_uploadPartName hu part).good hpp
  · exact fun _ => entry_name hr (good_uploadPartName hu part) (hown _ _ ⟨u, hpu, .inr (.inl rfl)⟩) hpp

theorem plan_uploadPart (b k uid : Bytes) (part : Int) (hasBody : Bool) (c : Nat)
    (hown : ∀ acc n, OwnUploadName uid part c acc n → OwnName enc op acc n) :
    ∀ t ∈ (plan e enc (.uploadPart b k uid part hasBody c)).touches, P e enc op t := by
  refine forall_ite (fun _ => forall_nil) fun _ => ?_
  refine forall_ite (fun _ => forall_nil) fun _ => ?_
  refine forall_upload e enc hr (fun u hpu => hown _ _ ⟨u, hpu, .inl ⟨rfl, rfl⟩⟩) fun u hpu t1 ht1 => ?_
  exact forall_withPath ht1 fun pp hpp => forall_partWrite e enc hr hpu hown ht1 hpp

theorem plan_uploadPartCopy (ap : Bool) (sb sk b k uid : Bytes) (part : Int) (c : Nat)
    (hsb : sb ∈ readBuckets op) (hown : ∀ acc n, OwnUploadName uid part c acc n → OwnName enc op acc n) :
    ∀ t ∈ (plan e enc (.uploadPartCopy ap sb sk b k uid part c)).touches, P e enc op t := by
  have hsb := BucketAcc.read hsb
  refine forall_ite (fun _ => forall_nil) fun _ => ?_
  refine forall_upload e enc hr (fun u hpu => hown _ _ ⟨u, hpu, .inl ⟨rfl, rfl⟩⟩) fun u hpu t1 ht1 => ?_
  refine forall_ite (fun _ => ht1) fun _ => ?_
  refine forall_withPath ht1 fun src hsrc => ?_
  refine forall_withPath ht1 fun pp hpp => ?_
  have ht2 := forall_append ht1 (forall_cons (entry_obj (enc := enc) hr hsb hsrc) forall_nil)
  refine forall_withPath ht2 fun sbp hsbp => ?_
  have ht3 := forall_append ht2 (forall_cons (entry_bucket (enc := enc) hr hsb hsbp) forall_nil)
  exact forall_partWrite e enc hr hpu hown ht3 hpp

theorem plan_listParts (b k uid : Bytes) (hl : listsRoot op = true)
    (hown : ∀ u, parseUuid uid = some u → ∀ n, n = uploadInfoName u ∨ uploadPartPrefix u <+: n → OwnName enc op .read n) :
    ∀ t ∈ (plan e enc (.listParts b k uid)).touches, P e enc op t := by
  refine forall_upload e enc hr (fun u hpu => hown u hpu _ (.inl rfl)) fun u hpu t1 ht1 => ?_
  exact forall_append ht1 <| forall_cons (entry_rootList hr hl) <| forall_cons
    (entry_partFiles hr fun n h => hown u hpu n (.inr h)) forall_nil

include he

theorem plan_getObject (b k : Bytes) (hb : b ∈ readBuckets op)
    (hown : ∀ n, n = metadataName enc b k none ∨ n = internalInfoName enc b k → OwnName enc op .read n) :
    ∀ t ∈ (plan e enc (.getObject b k)).touches, P e enc op t := by
  have hb := BucketAcc.read hb
  refine forall_withPath forall_nil fun p hp => ?_
  have h1 := forall_cons (entry_obj (enc := enc) hr hb hp) forall_nil
  refine forall_withPath h1 fun bp hbp => ?_
  have h2 := forall_append h1 (forall_cons (entry_bucket (enc := enc) hr hb hbp) forall_nil)
  refine forall_withPath h2 fun m hm => ?_
  have h3 := forall_append h2 (forall_cons
    (entry_name hr (good_metadataName he b k (by simp)) (hown _ (.inl rfl)) hm) forall_nil)
  refine forall_withPath h3 fun i hi => ?_
  exact forall_append h3 (forall_cons
    (entry_name hr (good_internalInfoName he b k) (hown _ (.inr rfl)) hi) forall_nil)

theorem plan_headObject (b k : Bytes) (hb : b ∈ readBuckets op)
    (hown : OwnName enc op .read (metadataName enc b k none)) :
    ∀ t ∈ (plan e enc (.headObject b k)).touches, P e enc op t := by
  have hb := BucketAcc.read hb
  refine forall_withPath forall_nil fun p hp => ?_
  have h1 := forall_cons (entry_obj (enc := enc) hr hb hp) forall_nil
  refine forall_withPath h1 fun bp hbp => ?_
  have h2 := forall_append h1 (forall_cons (entry_bucket (enc := enc) hr hb hbp) forall_nil)
  refine forall_withPath h2 fun m hm => ?_
  exact forall_append h2 (forall_cons
    (entry_name hr (good_metadataName he b k (by simp)) hown hm) forall_nil)

theorem plan_copyObject (ap : Bool) (sb sk b k : Bytes) (hsb : sb ∈ readBuckets op) (hb : b ∈ writeBuckets op)
    (hos : ∀ n, n = metadataName enc sb sk none ∨ n = internalInfoName enc sb sk → OwnName enc op .read n)
    (hod : ∀ acc n, n = metadataName enc b k none ∨ n = internalInfoName enc b k → OwnName enc op acc n) :
    ∀ t ∈ (plan e enc (.copyObject ap sb sk b k)).touches, P e enc op t := by
  have hsb := BucketAcc.read hsb
  have hb : ∀ acc, BucketAcc op b acc := fun _ => BucketAcc.write hb
  refine forall_ite (fun _ => forall_nil) fun _ => ?_
  refine forall_withPath forall_nil fun src hsrc => ?_
  refine forall_withPath forall_nil fun dst hdst => ?_
  have h1 := forall_cons (entry_obj (enc := enc) hr hsb hsrc) forall_nil
  refine forall_withPath h1 fun sbp hsbp => ?_
  have h2 := forall_append h1 (forall_cons (entry_bucket (enc := enc) hr hsb hsbp) forall_nil)
  refine forall_withPath h2 fun bp hbp => ?_
  have hdst' : ∀ acc, P e enc op ⟨acc, .path dst⟩ := fun _ => entry_obj hr (hb _) hdst
  have h3 := forall_append h2 <| forall_cons (entry_bucket (enc := enc) hr (hb .read) hbp) <|
    forall_cons (entry_objChainParent hr (hb .create) hdst) <| forall_cons (hdst' .create) <|
      forall_cons (hdst' .write) forall_nil
  refine forall_withPath h3 fun sm hsm => ?_
  refine forall_withPath h3 fun dm hdm => ?_
  have hdm' : ∀ acc, P e enc op ⟨acc, .path dm⟩ := fun _ =>
    entry_name hr (good_metadataName he b k (by simp)) (hod _ _ (.inl rfl)) hdm
  have h4 := forall_append h3 <| forall_cons
    (entry_name hr (good_metadataName he sb sk (by simp)) (hos _ (.inl rfl)) hsm) <|
    forall_cons (hdm' .read) <| forall_cons (hdm' .create) <| forall_cons (hdm' .write) <|
      forall_cons (hdm' .delete) forall_nil
  refine forall_withPath h4 fun si hsi => ?_
  refine forall_withPath h4 fun di hdi => ?_
  have hdi' : ∀ acc, P e enc op ⟨acc, .path di⟩ := fun _ =>
    entry_name hr (good_internalInfoName he b k) (hod _ _ (.inr rfl)) hdi
  exact forall_append h4 <| forall_cons
    (entry_name hr (good_internalInfoName he sb sk) (hos _ (.inr rfl)) hsi) <|
    forall_cons (hdi' _) <| forall_cons (hdi' _) <| forall_cons (hdi' _) <| forall_cons (hdi' _) forall_nil

theorem plan_putObject (b k : Bytes) (hasBody hasMeta scOk lenPos : Bool) (c : Nat)
    (hb : b ∈ writeBuckets op)
    (hown : ∀ acc n, n = metadataName enc b k none ∨ n = internalInfoName enc b k ∨ n = tmpName c → OwnName enc op acc n) :
    ∀ t ∈ (plan e enc (.putObject b k hasBody hasMeta scOk lenPos c)).touches, P e enc op t := by
  have hb : ∀ acc, BucketAcc op b acc := fun _ => BucketAcc.write hb
  refine forall_ite (fun _ => forall_nil) fun _ => ?_
  refine forall_ite (fun _ => forall_nil) fun _ => ?_
  refine forall_withPath forall_nil fun bp hbp => ?_
  have h0 := forall_cons (entry_bucket (enc := enc) hr (hb .read) hbp) forall_nil
  refine forall_ite (fun _ => ?_) fun _ => ?_
  · refine forall_ite (fun _ => h0) fun _ => ?_
    refine forall_withPath h0 fun p hp => ?_
    exact forall_append h0 (forall_cons (entry_objChain hr (hb _) hp) forall_nil)
  · refine forall_withPath h0 fun p hp => ?_
    refine forall_withPath h0 fun tmp htmp => ?_
    have h1 := forall_append h0 <| forall_fileWrite
      (fun _ => entry_name hr (good_tmpName c) (hown _ _ (.inr (.inr rfl))) htmp)
      (entry_objChainParent hr (hb _) hp) (fun _ => entry_obj hr (hb _) hp)
    refine forall_withPath h1 fun m hm => ?_
    have hm' : ∀ acc, P e enc op ⟨acc, .path m⟩ := fun _ =>
      entry_name hr (good_metadataName he b k (by simp)) (hown _ _ (.inl rfl)) hm
    -- what follows the metadata file, whichever way that was handled
    have after : ∀ t1 : List Touch, (∀ t ∈ t1, P e enc op t) →
        ∀ t ∈ (withPath (internalInfoPath e enc b k) t1 fun i => .ok (t1 ++ [cr i, wr i])).touches,
          P e enc op t := fun t1 ht1 =>
      forall_withPath ht1 fun i hi =>
        have hi' : ∀ acc, P e enc op ⟨acc, .path i⟩ := fun _ =>
          entry_name hr (good_internalInfoName he b k) (hown _ _ (.inr (.inl rfl))) hi
        forall_append ht1 (forall_cons (hi' _) (forall_cons (hi' _) forall_nil))
    split <;> exact after _ (forall_append h1 (forall_cons (hm' _) (forall_cons (hm' _) forall_nil)))

theorem plan_createMultipartUpload (b k : Bytes) (hasMeta : Bool) (u : Bytes) (hu : (47 : UInt8) ∉ u)
    (hb : b ∈ readBuckets op)
    (hown : ∀ acc n, n = uploadInfoName u ∨ n = metadataName enc b k (some u) → OwnName enc op acc n) :
    ∀ t ∈ (plan e enc (.createMultipartUpload b k hasMeta u)).touches, P e enc op t := by
  have hb := BucketAcc.read hb
  refine forall_withPath forall_nil fun _ _ => ?_
  refine forall_withPath forall_nil fun bp hbp => ?_
  have h0 := forall_cons (entry_bucket (enc := enc) hr hb hbp) forall_nil
  refine forall_withPath h0 fun info hinfo => ?_
  have hinfo' : ∀ acc, P e enc op ⟨acc, .path info⟩ := fun _ =>
    entry_name hr (good_uploadInfoName hu) (hown _ _ (.inl rfl)) hinfo
  have h1 := forall_append h0 (forall_cons (hinfo' .create) (forall_cons (hinfo' .write) forall_nil))
  refine forall_ite (fun _ => ?_) fun _ => h1
  refine forall_withPath h1 fun m hm => ?_
  have hm' : ∀ acc, P e enc op ⟨acc, .path m⟩ := fun _ =>
    entry_name hr (good_metadataName he b k (by intro x hx; cases hx; exact hu)) (hown _ _ (.inr rfl)) hm
  exact forall_append h1 (forall_cons (hm' _) (forall_cons (hm' _) forall_nil))

theorem plan_completeMultipartUpload (b k uid : Bytes) (parts : Option (List Int)) (c : Nat)
    (hb : b ∈ writeBuckets op)
    (hown : ∀ u, parseUuid uid = some u → ∀ acc n,
      n = uploadInfoName u ∨ n = metadataName enc b k (some u) ∨ n = metadataName enc b k none ∨
        n = internalInfoName enc b k ∨ n = tmpName c ∨ (∃ i ∈ parts.getD [], n = uploadPartName u i) → OwnName enc op acc n) :
    ∀ t ∈ (plan e enc (.completeMultipartUpload b k uid parts c)).touches, P e enc op t := by
  have hb : ∀ acc, BucketAcc op b acc := fun _ => BucketAcc.write hb
  cases parts with
  | none => exact forall_nil
  | some ps =>
    -- the path resolved from one of the names `hown` lists (`h` says which), whatever is done to it
    have own {u n p : Bytes} (hpu : parseUuid uid = some u) (hg : DotName n) h (hp : resolveAbsPath e n = .ok p)
        (acc : Acc) : P e enc op ⟨acc, .path p⟩ := entry_name hr hg (hown u hpu acc n h) hp
    refine forall_ite (fun _ => forall_nil) fun _ => ?_
    refine forall_upload e enc hr (fun u hpu => hown u hpu _ _ (.inl rfl)) fun u hpu t1 ht1 => ?_
    have hu := parseUuid_noSlash hpu
    -- the six kinds of name, in the order of `hown`
    have ownRec {p : Bytes} := own (p := p) hpu (good_uploadInfoName hu) (.inl rfl)
    have ownUpMeta {p : Bytes} :=
      own (p := p) hpu (good_metadataName he b k (by intro x hx; cases hx; exact hu)) (.inr (.inl rfl))
    have ownMeta {p : Bytes} := own (p := p) hpu (good_metadataName he b k (by simp)) (.inr (.inr (.inl rfl)))
    have ownInfo {p : Bytes} := own (p := p) hpu (good_internalInfoName he b k) (.inr (.inr (.inr (.inl rfl))))
    have ownTmp {p : Bytes} := own (p := p) hpu (good_tmpName c) (.inr (.inr (.inr (.inr (.inl rfl)))))
    have ownPart {p : Bytes} (n : Int) (hn : n ∈ ps) :=
      own (p := p) hpu (good_uploadPartName hu n) (.inr (.inr (.inr (.inr (.inr ⟨n, hn, rfl⟩)))))
    refine forall_withPath ht1 fun p hp => ?_
    have hp' : ∀ acc, P e enc op ⟨acc, .path p⟩ := fun _ => entry_obj hr (hb _) hp
    refine forall_ite (fun _ => ht1) fun _ => ?_
    have hchk := completeCheck_forall e u ps (fun n hn pp hpp => ownPart n hn hpp) t1 [] ht1 nofun
    split
    · next pl hcc => exact hchk.1 pl hcc
    · next t2 pps hcc =>
      obtain ⟨ht2, hpps⟩ := hchk.2 t2 pps hcc
      refine forall_withPath ht2 fun tmp htmp => ?_
      have htmp' := ownTmp htmp
      have ht3 := forall_append (forall_append
        (forall_append ht2 (forall_cons (htmp' .create) (forall_cons (htmp' .write) forall_nil)))
        (forall_map (f := rd) fun pp hpp => hpps pp hpp .read)) <|
        forall_cons (htmp' .delete) <| forall_cons (entry_objChainParent hr (hb .create) hp) <|
          forall_cons (hp' .create) <| forall_cons (hp' .write) forall_nil
      refine forall_withPath ht3 fun um hum => ?_
      have hum' := ownUpMeta hum
      have ht4 := forall_append ht3 (forall_cons (hum' .read) forall_nil)
      refine forall_withPath ht4 fun m hm => ?_
      have hm' := ownMeta hm
      have ht5 := forall_append ht4 <| forall_cons (hm' .read) <| forall_cons (hm' .create) <|
        forall_cons (hm' .write) <| forall_cons (hm' .delete) <| forall_cons (hum' .delete) forall_nil
      refine forall_withPath ht5 fun i hi => ?_
      have hi' := ownInfo hi
      have ht6 := forall_append (forall_append ht5 (forall_cons (hi' .create) (forall_cons (hi' .write) forall_nil)))
        (forall_map (f := rm) fun pp hpp => hpps pp hpp .delete)
      refine forall_withPath ht6 fun info hinfo => ?_
      exact forall_append ht6 <| forall_cons (ownRec hinfo _) <|
        forall_cons (hp' _) forall_nil

theorem plan_abortMultipartUpload (b k uid : Bytes) (hl : listsRoot op = true)
    (hown : ∀ {acc : Acc} {u n : Bytes}, parseUuid uid = some u →
      n = uploadInfoName u ∨ n = metadataName enc b k (some u) ∨ uploadPartPrefix u <+: n → OwnName enc op acc n) :
    ∀ t ∈ (plan e enc (.abortMultipartUpload b k uid)).touches, P e enc op t := by
  refine forall_upload e enc hr (fun u hpu => hown hpu (.inl rfl)) fun u hpu t1 ht1 => ?_
  have hu := parseUuid_noSlash hpu
  refine forall_withPath ht1 fun um hum => ?_
  have hum' : P e enc op (rm um) :=
    entry_name hr (good_metadataName he b k (by intro x hx; cases hx; exact hu)) (hown hpu (.inr (.inl rfl))) hum
  refine forall_withPath (forall_append ht1 (forall_cons hum' forall_nil)) fun info hinfo => ?_
  exact forall_append ht1 <| forall_cons hum' <| forall_cons (entry_rootList hr hl) <|
    forall_cons (entry_partFiles hr fun n h => hown hpu (.inr (.inr h))) <|
      forall_cons (entry_name hr (good_uploadInfoName hu) (hown hpu (.inl rfl)) hinfo) forall_nil

theorem plan_allowed (op : Op) (hop : OpOk op) : ∀ t ∈ (plan e enc op).touches, P e enc op t := by
  cases op with
  | createBucket b => exact plan_createBucket e enc hr b (.head _)
  | deleteBucket b => exact plan_deleteBucket e enc hr b (.head _)
  | headBucket b => exact plan_headBucket e enc hr b (.head _)
  | getBucketLocation b => exact plan_headBucket e enc hr b (.head _)
  | listBuckets => exact plan_listBuckets e enc hr
  | listObjects b => exact plan_listObjects e enc hr b (.head _)
  | listObjectsV2 b => exact plan_listObjects e enc hr b (.head _)
  | getObject b k => exact plan_getObject e enc hr he b k (.head _) fun _ h => ⟨rfl, h⟩
  | headObject b k => exact plan_headObject e enc hr he b k (.head _) ⟨rfl, rfl⟩
  | deleteObject b k => exact plan_deleteObject e enc hr b k (.head _)
  | deleteObjects b ks => exact deleteObjectsPlan_allowed e enc hr b (.head _) ks [] nofun
  | copyObject ap sb sk b k =>
    exact plan_copyObject e enc hr he ap sb sk b k (.head _) (.head _) (fun _ h => .inl ⟨rfl, h⟩) fun _ _ h => .inr h
  | putObject b k hb hm so lp c => exact plan_putObject e enc hr he b k hb hm so lp c (.head _) fun _ _ h => h
  | createMultipartUpload b k hm u => exact plan_createMultipartUpload e enc hr he b k hm u hop (.head _) fun _ _ h => h
  | uploadPart b k uid part hb c => exact plan_uploadPart e enc hr b k uid part hb c fun _ _ h => h
  | uploadPartCopy ap sb sk b k uid part c =>
    exact plan_uploadPartCopy e enc hr ap sb sk b k uid part c (.head _) fun _ _ h => h
  | listParts b k uid => exact plan_listParts e enc hr b k uid rfl fun u hu _ h => ⟨u, hu, rfl, h⟩
  | completeMultipartUpload b k uid parts c =>
    exact plan_completeMultipartUpload e enc hr he b k uid parts c (.head _) fun u hu _ _ h => ⟨u, hu, h⟩
  | abortMultipartUpload b k uid => exact plan_abortMultipartUpload e enc hr he b k uid rfl fun hu h => ⟨_, hu, h⟩

end ops

end S3V.FsPath
