import S3V.Thm.XmlWf
/-!
What a document must be for the generic XML decoder (`decode` / `decodeDoc`) to accept it: the expected root and
nothing after it, known elements only, no single-valued member twice, every required member, nothing but white space
outside the root. The first and the last clause are one theorem (`decodeDoc_named_clean`) about any event list that is
clean outside all elements; it rests on the layer under the decoder, which `XmlComment` builds on as well:
`Deserializer::read_event` one round at a time (`Emits`, `deEventsAt_cons`, `deEventsAt_induct`), and the fact that a
decoder takes complete elements from the cursor (`Consumes`, `decode_consumes`).

The model spells an `Except` chain as nested `match`es, so a hypothesis `h : … = .ok _` lies on one path through them.
The proofs about an accepted run walk the arms (`fun_cases`, `fun_induction`; `split` where one `match` is left after
an equation was rewritten) and close every arm that answers an error by `cases h`; their comments name the arms that
are left, in the order of the `next`s.
-/
namespace S3V.Xml
open S3V

/-- character data: a text piece or a CDATA section -/
def Ev.isText : Ev → Bool
  | .text _ => true
  | .cdata _ => true
  | _ => false

/-- the `continue` arm drops the character data in front -/
theorem skipText_eq : ∀ evs : List Ev, skipText evs = evs.dropWhile Ev.isText
  | [] => rfl
  | .text _ :: r => by rw [skipText, skipText_eq r]; rfl
  | .cdata _ :: r => by rw [skipText, skipText_eq r]; rfl
  | .start _ _ :: _ | .stop _ :: _ | .bad _ :: _ => by simp [skipText, Ev.isText]

theorem skipText_split (evs : List Ev) : ∃ pre, evs = pre ++ skipText evs ∧ pre.all Ev.isText = true :=
  ⟨evs.takeWhile Ev.isText, by rw [skipText_eq, List.takeWhile_append_dropWhile], List.all_takeWhile⟩

theorem expectStart_ok {name a : Bytes} {evs r : List Ev} (h : expectStart name evs = .ok (a, r)) :
    ∃ pre, evs = pre ++ .start name a :: r ∧ pre.all Ev.isText = true := by
  obtain ⟨pre, h1, h2⟩ := skipText_split evs
  revert h
  fun_cases expectStart name evs <;> intro h <;> cases h
  next heq => exact ⟨pre, heq ▸ h1, h2⟩

theorem expectEnd_ok {name : Bytes} {evs r : List Ev} (h : expectEnd name evs = .ok r) :
    ∃ pre, evs = pre ++ .stop name :: r ∧ pre.all Ev.isText = true := by
  obtain ⟨pre, h1, h2⟩ := skipText_split evs
  revert h
  fun_cases expectEnd name evs <;> intro h <;> cases h
  next heq => exact ⟨pre, heq ▸ h1, h2⟩

theorem expectEof_ok {evs : List Ev} (h : expectEof evs = .ok ()) : evs.all Ev.isText = true := by
  obtain ⟨pre, h1, h2⟩ := skipText_split evs
  revert h
  fun_cases expectEof evs <;> intro h <;> cases h
  next heq => rw [h1, heq, List.append_nil]; exact h2

/-! ### which member an element name selects, and what the member's arm did when it accepted -/

/-- a member of another name, and a member bound to an attribute (it has no arm), hand the element on to the members
behind them -/
theorem decodeField_skip (X : Ext) {name tag : Bytes} {pres : Pres} {sh : Shape} {s : Sch} (h : sh = .attr ∨ name ≠ tag)
    {rest : Flds} {a : Bytes} {evs : List Ev} {slot : FVal} {accRest : List FVal} :
    decodeField X (.cons tag pres sh s rest) name a evs (slot :: accRest)
      = (match decodeField X rest name a evs accRest with
         | .error e => .error e
         | .ok (acc', r) => .ok (slot :: acc', r)) := by
  by_cases hn : name = tag
  · rw [h.resolve_right (not_not_intro hn)]
    simp only [decodeField, if_pos hn]
    cases decodeField X rest name a evs accRest <;> rfl
  · cases sh <;> simp only [decodeField, if_neg hn] <;> cases decodeField X rest name a evs accRest <;> rfl

/-- what the arm of a member read from child elements does to the member's slot: `sl` before, `sl'` after -/
def ArmOk (X : Ext) (s : Sch) (a : Bytes) (evs : List Ev) (sl sl' : FVal) (r : List Ev) : Shape → Prop
  | .single => sl.isAbsent = true ∧ ∃ v, decode X s a evs = .ok (v, r) ∧ sl' = .one v
  | .wrapped m => sl.isAbsent = true ∧
      ∃ l, forEach (listItem (fun a evs => decode X s a evs) m) (evs.length + 1) evs [] = .ok (l, r) ∧ sl' = .many l
  | .flat => ∃ v, decode X s a evs = .ok (v, r) ∧ sl' = sl.push v
  | .attr => False

theorem ArmOk.not_attr {X : Ext} {s : Sch} {a : Bytes} {evs : List Ev} {sl sl' : FVal} {r : List Ev} {sh : Shape}
    (h : ArmOk X s a evs sl sl' r sh) : sh ≠ .attr := by
  intro e
  rw [e] at h
  exact h

theorem decodeField_arm (X : Ext) {tag : Bytes} {pres : Pres} {sh : Shape} {s : Sch} {rest : Flds} {a : Bytes}
    {evs r : List Ev} {sl sl' : FVal} {acc : List FVal} (h : ArmOk X s a evs sl sl' r sh) :
    decodeField X (.cons tag pres sh s rest) tag a evs (sl :: acc) = .ok (sl' :: acc, r) := by
  cases sh with
  | attr => exact h.elim
  | single => obtain ⟨ha, v, hd, rfl⟩ := h; simp [decodeField, ha, hd]
  | wrapped m => obtain ⟨ha, l, hd, rfl⟩ := h; simp [decodeField, ha, hd]
  | flat => obtain ⟨v, hd, rfl⟩ := h; simp [decodeField, hd]

/-- a successful dispatch at the head member: the name goes on to the other members (a member bound to an attribute
has no arm) and this slot stays, or it is this member's name and its arm ran -/
theorem decodeField_cons_ok {X : Ext} {tag : Bytes} {pres : Pres} {sh : Shape} {s : Sch} {rest : Flds} {name a : Bytes}
    {evs : List Ev} {sl : FVal} {acc acc' : List FVal} {r : List Ev}
    (h : decodeField X (.cons tag pres sh s rest) name a evs (sl :: acc) = .ok (acc', r)) :
    ((sh = .attr ∨ name ≠ tag) ∧ ∃ a'', decodeField X rest name a evs acc = .ok (a'', r) ∧ acc' = sl :: a'') ∨
    (name = tag ∧ ∃ sl', acc' = sl' :: acc ∧ ArmOk X s a evs sl sl' r sh) := by
  generalize hfs : Flds.cons tag pres sh s rest = fs at h
  generalize hacc : sl :: acc = acc0 at h
  revert h
  fun_cases decodeField X fs name a evs acc0 <;> intro h
  all_goals try cases h
  all_goals cases hfs
  all_goals cases hacc
  -- the arms of a single-valued member, a wrapped list, a flattened list; a member bound to an attribute, and a member of
  -- another name, hand the name on
  next hd ha => exact .inr ⟨rfl, _, rfl, ha, _, hd, rfl⟩
  next hd ha => exact .inr ⟨rfl, _, rfl, ha, _, hd, rfl⟩
  next hd => exact .inr ⟨rfl, _, rfl, _, hd, rfl⟩
  next hd => exact .inl ⟨.inl rfl, _, hd, rfl⟩
  next hn hd => exact .inl ⟨.inr hn, _, hd, rfl⟩

/-! ### clause: nothing but white space outside the root (code since d51737b)

`Deserializer::read_event` keeps the nesting depth and refuses character data outside the document element. On
the event level: in what `deEvents` hands out, every character-data event at depth 0 is a white-space text
(`TopClean`). What a decoder consumes is a sequence of complete elements and character data (`Consumes`, by
mutual induction on the schema), so the cursor is back at depth 0 behind the root's end tag. -/

/-- a text piece that is white space only (space, tab, CR, LF); a CDATA section is not -/
def Ev.isWsText : Ev → Bool
  | .text raw => raw.all isWs
  | _ => false

/-- nesting depth behind the events `evs` when it is `d` in front of them (`End` saturates like the code) -/
def depthAfter : Nat → List Ev → Nat
  | d, [] => d
  | d, .start _ _ :: t => depthAfter (d + 1) t
  | d, .stop _ :: t => depthAfter (d - 1) t
  | d, _ :: t => depthAfter d t

/-- `TopClean d evs`: with `d` elements open in front of `evs`, every character-data event of `evs` that stands
outside all elements is a white-space text (no CDATA section there) -/
def TopClean : Nat → List Ev → Prop
  | _, [] => True
  | d, .start _ _ :: t => TopClean (d + 1) t
  | d, .stop _ :: t => TopClean (d - 1) t
  | d, .text raw :: t => (d = 0 → raw.all isWs = true) ∧ TopClean d t
  | d, .cdata _ :: t => d ≠ 0 ∧ TopClean d t
  | d, .bad _ :: t => TopClean d t

/-! ### `read_event`, one round at a time -/

/-- tokens at which `read_event` returns an error whatever the depth: a reader error, a start tag whose attributes
`check_attributes` refuses, and (since the repair of `xml-illformed-accepted:pi-target`) a processing instruction with
an illegal target. `XmlComment` shows that such a token ends every run (`deEventsAt_stops`). -/
def QEv.stopsRun : QEv → Bool
  | .err => true
  | .pi c => !piTargetOk c
  | .start _ r => !startOk r
  | .empty _ r => !startOk r
  | _ => false

/-- what one round of `read_event` hands out at depth `d`, and the depth behind it -/
inductive Emits (d : Nat) : List Ev → Nat → Prop
  | skip : Emits d [] d
  | start {n r : Bytes} : startOk r = true → Emits d [.start n r] (d + 1)
  | stop {n : Bytes} : Emits d [.stop n] (d - 1)
  | empty {n r : Bytes} : startOk r = true → Emits d [.start n r, .stop n] d
  | text {raw : Bytes} : (d = 0 → raw.all isWs = true) → hasCdataEnd raw = false → Emits d [.text raw] d
  | cdata {c : Bytes} : d ≠ 0 → Emits d [.cdata c] d

theorem deEventsAt_cons (d : Nat) (t : QEv) (q : List QEv) :
    (∃ e, deEventsAt d (t :: q) = [.bad e]) ∨
    ∃ evs d', Emits d evs d' ∧ t.stopsRun = false ∧ deEventsAt d (t :: q) = evs ++ deEventsAt d' q := by
  cases t with
  | start n r =>
    by_cases h : startOk r = true
    · exact .inr ⟨[.start n r], _, .start h, by simp [QEv.stopsRun, h], by simp [deEventsAt, h]⟩
    · exact .inl ⟨.invalidXml, by simp [deEventsAt, h]⟩
  | stop n => exact .inr ⟨[.stop n], _, .stop, rfl, by simp [deEventsAt]⟩
  | empty n r =>
    by_cases h : startOk r = true
    · exact .inr ⟨[.start n r, .stop n], _, .empty h, by simp [QEv.stopsRun, h], by simp [deEventsAt, h]⟩
    · exact .inl ⟨.invalidXml, by simp [deEventsAt, h]⟩
  | text raw =>
    by_cases h1 : d = 0 ∧ raw.all isWs = false
    · exact .inl ⟨.invalidContent, by simp [deEventsAt, h1]⟩
    · by_cases h2 : hasCdataEnd raw = true
      · exact .inl ⟨.invalidContent, by simp [deEventsAt, h2]⟩
      · refine .inr ⟨[.text raw], _, .text (fun hd => ?_) (by simpa using h2), rfl,
          by simp only [deEventsAt, if_neg h1, if_neg h2]; rfl⟩
        cases hw : raw.all isWs with
        | true => rfl
        | false => exact absurd ⟨hd, hw⟩ h1
  | cdata c =>
    by_cases h : d = 0
    · exact .inl ⟨.invalidContent, by simp [deEventsAt, h]⟩
    · exact .inr ⟨[.cdata c], _, .cdata h, rfl, by simp [deEventsAt, h]⟩
  | err => exact .inl ⟨.invalidXml, by simp [deEventsAt]⟩
  | pi c =>
    by_cases h : piTargetOk c = true
    · exact .inr ⟨[], _, .skip, by simp [QEv.stopsRun, h], by simp [deEventsAt, h]⟩
    · exact .inl ⟨.invalidContent, by simp [deEventsAt, h]⟩
  | comment => exact .inr ⟨[], _, .skip, rfl, by simp [deEventsAt]⟩
  | decl => exact .inr ⟨[], _, .skip, rfl, by simp [deEventsAt]⟩
  | doctype => exact .inr ⟨[], _, .skip, rfl, by simp [deEventsAt]⟩

theorem deEventsAt_induct {P : Nat → List Ev → Prop} (nil : ∀ d, P d []) (bad : ∀ d e, P d [.bad e])
    (step : ∀ d evs d' rest, Emits d evs d' → P d' rest → P d (evs ++ rest)) :
    ∀ (q : List QEv) (d : Nat), P d (deEventsAt d q)
  | [], d => nil d
  | t :: q, d => by
    rcases deEventsAt_cons d t q with ⟨e, h⟩ | ⟨evs, d', hem, -, h⟩
    · rw [h]; exact bad d e
    · rw [h]; exact step d evs d' _ hem (deEventsAt_induct nil bad step q d')

theorem deEventsAt_topClean : ∀ (q : List QEv) (d : Nat), TopClean d (deEventsAt d q) := by
  refine deEventsAt_induct (P := TopClean) (fun _ => trivial) (fun _ _ => trivial) ?_
  intro d evs d' rest hem ih
  cases hem with
  | skip => exact ih
  | start _ => exact ih
  | stop => exact ih
  | empty _ => simpa [TopClean] using ih
  | text hw _ => exact ⟨hw, ih⟩
  | cdata hd => exact ⟨hd, ih⟩

/-! ### depth and cleanliness over appended sequences and over character data -/

theorem depthAfter_append (a b : List Ev) (d : Nat) : depthAfter d (a ++ b) = depthAfter (depthAfter d a) b := by
  induction a generalizing d with
  | nil => rfl
  | cons e a ih => cases e <;> exact ih _

theorem topClean_append (a b : List Ev) (d : Nat) (h : TopClean d (a ++ b)) : TopClean (depthAfter d a) b := by
  induction a generalizing d with
  | nil => exact h
  | cons e a ih =>
    cases e with
    | text _ | cdata _ => exact ih _ h.2
    | _ => exact ih _ h

/-- character data leaves the depth as it is (`h` on the tail is `h` itself: `true && x` computes to `x`) -/
theorem depthAfter_texts (pre : List Ev) (d : Nat) (h : pre.all Ev.isText = true) : depthAfter d pre = d := by
  induction pre with
  | nil => rfl
  | cons e t ih =>
    cases e with
    | text _ | cdata _ => exact ih h
    | _ => exact nomatch h

/-- character data outside all elements, in a clean sequence, is white-space text -/
theorem topClean_texts (pre rest : List Ev) (h : pre.all Ev.isText = true) (hc : TopClean 0 (pre ++ rest)) :
    pre.all Ev.isWsText = true := by
  induction pre with
  | nil => rfl
  | cons e t ih =>
    cases e with
    | text raw => rw [List.all_cons, ih h hc.2, Bool.and_true]; exact hc.1 rfl
    | cdata _ => exact absurd rfl hc.1
    | _ => exact nomatch h

/-! ### the decoders take complete elements and character data -/

/-- `Consumes evs post`: `post` is what is left of `evs` after a sequence of complete elements and character data
has been taken from its front — the depth behind the taken part is the depth in front of it. At every depth: `End`
saturates, so `stop; start` keeps depth 1 but not depth 0. -/
def Consumes (evs post : List Ev) : Prop := ∃ c, evs = c ++ post ∧ ∀ d, depthAfter d c = d

theorem Consumes.refl (evs : List Ev) : Consumes evs evs := ⟨[], rfl, fun _ => rfl⟩

theorem Consumes.trans {a b c : List Ev} (h1 : Consumes a b) (h2 : Consumes b c) : Consumes a c := by
  obtain ⟨x, hx, hbx⟩ := h1
  obtain ⟨y, hy, hby⟩ := h2
  refine ⟨x ++ y, by rw [hx, hy, List.append_assoc], fun d => ?_⟩
  rw [depthAfter_append, hbx, hby]

theorem Consumes.texts {pre rest : List Ev} (h : pre.all Ev.isText = true) : Consumes (pre ++ rest) rest :=
  ⟨pre, rfl, fun d => depthAfter_texts pre d h⟩

theorem Consumes.skipText (evs : List Ev) : Consumes evs (skipText evs) := by
  obtain ⟨pre, h1, h2⟩ := skipText_split evs
  have := Consumes.texts (rest := Xml.skipText evs) h2
  rwa [← h1] at this

/-- only the depth is counted: the names of the start tag and the end tag need not agree -/
theorem Consumes.elem {n a m : Bytes} {body rest : List Ev} (h : Consumes body (.stop m :: rest)) :
    Consumes (.start n a :: body) rest := by
  obtain ⟨c, hc, hb⟩ := h
  refine ⟨.start n a :: (c ++ [.stop m]), by simp [hc], fun d => ?_⟩
  simp only [depthAfter, depthAfter_append, hb, Nat.add_sub_cancel]

theorem Consumes.expectEnd {name : Bytes} {evs r : List Ev} (h : expectEnd name evs = .ok r) :
    Consumes evs (.stop name :: r) := by
  obtain ⟨pre, h1, h2⟩ := expectEnd_ok h
  rw [h1]; exact Consumes.texts h2

theorem topClean_consumes {evs post : List Ev} {d : Nat} (h : Consumes evs post) (hc : TopClean d evs) :
    TopClean d post := by
  obtain ⟨c, hcc, hb⟩ := h
  have := topClean_append c post d (hcc ▸ hc)
  rwa [hb] at this

/-- `Deserializer::text` takes character data only -/
theorem textLoop_consumes (evs : List Ev) (single joined : Option Bytes) (raw : Bytes) (r : List Ev)
    (h : textLoop single joined evs = .ok (raw, r)) : Consumes evs r := by
  revert h
  fun_induction textLoop single joined evs <;> intro h
  all_goals try cases h
  -- at an end tag the loop stops, and nothing is taken
  any_goals exact Consumes.refl _
  -- a text piece or a CDATA section is taken and the loop goes on
  all_goals next ih => exact (Consumes.texts (pre := [_]) rfl).trans (ih h)

/-- `for_each_element` takes complete elements (and the character data between them) when its callback does -/
theorem forEach_consumes {α : Type} (f : Bytes → Bytes → List Ev → α → R α)
    (hf : ∀ n a evs acc acc' r, f n a evs acc = .ok (acc', r) → Consumes evs r)
    (fuel : Nat) (evs : List Ev) (acc acc' : α) (rest : List Ev)
    (h : forEach f fuel evs acc = .ok (acc', rest)) : Consumes evs rest := by
  revert h
  fun_induction forEach f fuel evs acc <;> intro h
  all_goals try cases h
  -- an element: the start tag, what the callback takes, the end tag; then the loop goes on
  next hs _ _ hcb _ hend ih =>
    exact (hs ▸ Consumes.skipText _).trans
      ((Consumes.elem ((hf _ _ _ _ _ _ hcb).trans (Consumes.expectEnd hend))).trans (ih h))
  -- an end tag or the end of input: the loop stops behind the character data
  next => exact Consumes.skipText _

/-! ### the accepted path of `decode`, one kind of schema at a time -/

theorem decode_scalar (X : Ext) {s : Sch} (hs : isScalar s = true) (a : Bytes) (evs : List Ev) :
    decode X s a evs =
      match textOf evs with
      | .error e => .error e
      | .ok (raw, r) =>
        match decodeScalarText X s raw with
        | .error e => .error e
        | .ok v => .ok (v, r) := by
  cases s with
  | struct fs => cases hs
  | union vs => cases hs
  | _ =>
    rw [decode.eq_3 X _ _ _ (by intros; contradiction) (by intros; contradiction)]  -- the arm of the scalars
    rfl

theorem decode_scalar_ok (X : Ext) {s : Sch} {a : Bytes} {evs post : List Ev} {v : Val} (hs : isScalar s = true)
    (h : decode X s a evs = .ok (v, post)) : ∃ raw, textOf evs = .ok (raw, post) := by
  rw [decode_scalar X hs] at h
  split at h
  · cases h
  next raw r ht =>
  split at h
  · cases h
  · cases h
    exact ⟨raw, ht⟩

theorem decode_scalar_consumes (X : Ext) {s : Sch} {a : Bytes} {evs post : List Ev} {v : Val}
    (hs : isScalar s = true) (h : decode X s a evs = .ok (v, post)) : Consumes evs post := by
  obtain ⟨raw, hr⟩ := decode_scalar_ok X hs h
  exact textLoop_consumes evs none none raw post hr

theorem decode_struct_ok {X : Ext} {fs : Flds} {a : Bytes} {evs rest : List Ev} {v : Val}
    (h : decode X (.struct fs) a evs = .ok (v, rest)) :
    (fs.isNil = true ∧ v = .struct [] ∧ rest = evs) ∨
    ∃ acc0 acc fvs, fs.initAcc a = .ok acc0 ∧
      forEach (fun name a evs acc => decodeField X fs name a evs acc) (evs.length + 1) evs acc0 = .ok (acc, rest) ∧
      fs.finish acc = .ok fvs ∧ v = .struct fvs := by
  generalize hs : Sch.struct fs = s at h
  revert h
  fun_cases decode X s a evs <;> intro h <;> cases hs <;> cases h
  -- a struct without members; the three steps of a struct with members; the arm of the scalars is no struct's
  next hn => exact .inl ⟨hn, rfl, rfl⟩
  next hf hi hl => exact .inr ⟨_, _, _, hi, hl, hf, rfl⟩
  next hu _ _ _ => exact (hu fs rfl).elim

theorem decode_union_ok {X : Ext} {vs : Vars} {a0 : Bytes} {evs post : List Ev} {v : Val}
    (h : decode X (.union vs) a0 evs = .ok (v, post)) :
    ∃ n a r r1, skipText evs = .start n a :: r ∧ decodeVariant X vs n a r = .ok (v, r1) ∧ expectEnd n r1 = .ok post := by
  generalize hs : Sch.union vs = s at h
  revert h
  fun_cases decode X s a0 evs <;> intro h <;> cases hs <;> cases h
  -- the arm of a union that answers; the arm of the scalars is no union's
  next heq hv hend => exact ⟨_, _, _, _, heq, hv, hend⟩
  next hu _ _ => exact (hu vs rfl).elim

theorem listItem_ok {dec : Bytes → List Ev → R Val} {m name a : Bytes} {evs r : List Ev} {l l' : List Val}
    (h : listItem dec m name a evs l = .ok (l', r)) : name = m ∧ ∃ v, dec a evs = .ok (v, r) ∧ l' = l ++ [v] := by
  revert h
  fun_cases listItem dec m name a evs l <;> intro h <;> cases h
  next hn _ hd => exact ⟨hn, _, hd, rfl⟩

mutual
  theorem decode_consumes (X : Ext) : ∀ (s : Sch) (a : Bytes) (evs : List Ev) (v : Val) (post : List Ev),
      decode X s a evs = .ok (v, post) → Consumes evs post
    | .struct fs, a, evs, v, post, h => by
      rcases decode_struct_ok h with ⟨_, _, rfl⟩ | ⟨acc0, acc, fvs, _, hl, _, _⟩
      · exact Consumes.refl _
      · exact forEach_consumes _
          (fun n a evs acc acc' r hh => decodeField_consumes X fs n a evs acc acc' r hh) _ _ _ _ _ hl
    | .union vs, _, evs, v, post, h => by
      obtain ⟨n, a, r, r1, heq, hv, hend⟩ := decode_union_ok h
      have hskip := Consumes.skipText evs
      rw [heq] at hskip
      exact hskip.trans (Consumes.elem (n := n) (a := a)
        ((decodeVariant_consumes X vs n a r v r1 hv).trans (Consumes.expectEnd hend)))
    | .str, _, _, _, _, h | .enm, _, _, _, _, h | .i32, _, _, _, _, h | .i64, _, _, _, _, h | .bool, _, _, _, _, h
    | .ts _, _, _, _, _, h => decode_scalar_consumes X rfl h
  theorem decodeField_consumes (X : Ext) : ∀ (fs : Flds) (name a : Bytes) (evs : List Ev) (acc acc' : List FVal)
      (r : List Ev), decodeField X fs name a evs acc = .ok (acc', r) → Consumes evs r
    | .nil, _, _, _, _, _, _, h => by simp [decodeField] at h
    | .cons tag pres shape s rest, name, a, evs, [], _, _, h => by cases shape <;> simp [decodeField] at h
    | .cons tag pres shape s rest, name, a, evs, slot :: accRest, acc', r, h => by
      rcases decodeField_cons_ok h with ⟨_, a'', h1, _⟩ | ⟨_, sl', _, harm⟩
      · exact decodeField_consumes X rest name a evs accRest a'' r h1
      · cases shape with
        | attr => exact harm.elim
        | single =>
          obtain ⟨_, v, hd, _⟩ := harm
          exact decode_consumes X s a evs v r hd
        | flat =>
          obtain ⟨v, hd, _⟩ := harm
          exact decode_consumes X s a evs v r hd
        | wrapped m =>
          obtain ⟨_, l, hd, _⟩ := harm
          refine forEach_consumes _ ?_ _ _ _ _ _ hd
          intro n a' evs' l0 l1 r' hh
          obtain ⟨_, v', hd', _⟩ := listItem_ok hh
          exact decode_consumes X s a' evs' v' _ hd'
  theorem decodeVariant_consumes (X : Ext) : ∀ (vars : Vars) (name a : Bytes) (evs : List Ev) (v : Val)
      (r : List Ev), decodeVariant X vars name a evs = .ok (v, r) → Consumes evs r
    | .nil, _, _, _, _, _, h => by simp [decodeVariant] at h
    | .cons t s rest, name, a, evs, v, r, h => by
      by_cases hn : name = t
      · simp only [decodeVariant, if_pos hn] at h
        split at h
        · cases h
        next v1 r1 hd =>
        cases h
        exact decode_consumes X s a evs v1 _ hd
      · simp only [decodeVariant, if_neg hn] at h
        exact decodeVariant_consumes X rest name a evs v r h
end

/-! ### clause: expected root, nothing but white space around it -/

/-- **an accepted document is its root element with nothing but white space around it.** On every event list that is
clean outside all elements (`deEvents q` is: `deEventsAt_topClean`), an accepted document is
`ws* <root …> content text* </root> ws*` and the end of input, where `content` is what the type's decoder accepts and
`ws` is a white-space-only text piece: no second element, no stray end tag, no error event, no other character data
and no CDATA section outside the root. -/
theorem decodeDoc_named_clean (X : Ext) {root : Bytes} {s : Sch} {evs : List Ev} {v : Val} (hclean : TopClean 0 evs)
    (h : decodeDoc X (.named root) s evs = .ok v) :
    ∃ pre a body post mid tail,
      evs = pre ++ .start root a :: body ∧ pre.all Ev.isWsText = true ∧
      decode X s a body = .ok (v, post) ∧
      post = mid ++ .stop root :: tail ∧ mid.all Ev.isText = true ∧ tail.all Ev.isWsText = true := by
  generalize hr : DeRoot.named root = rt at h
  revert h
  fun_cases decodeDoc X rt s evs <;> intro h <;> cases h <;> cases hr
  next a body post tail _ heof hdec hs hend =>
  obtain ⟨pre, rfl, hp⟩ := expectStart_ok hs
  obtain ⟨mid, hm, hmt⟩ := expectEnd_ok hend
  refine ⟨pre, a, body, post, mid, tail, rfl, topClean_texts pre _ hp hclean, hdec, hm, hmt, ?_⟩
  -- the texts in front, the root element with what `decode` takes and the texts before the end tag: a complete element
  have hc : Consumes (pre ++ .start root a :: body) tail :=
    (Consumes.texts hp).trans
      (Consumes.elem ((decode_consumes X s a body v post hdec).trans (by rw [hm]; exact Consumes.texts hmt)))
  exact topClean_texts tail [] (expectEof_ok heof) (by simpa using topClean_consumes hc hclean)

/-! ### clause: known elements -/

theorem decodeVariant_known (X : Ext) : ∀ (vars : Vars) (name a : Bytes) (evs : List Ev) (r : Val × List Ev),
    decodeVariant X vars name a evs = .ok r → name ∈ vars.tags
  | .nil, _, _, _, _, h => by simp [decodeVariant] at h
  | .cons t s rest, name, a, evs, r, h => by
    by_cases hn : name = t
    · simp [Vars.tags, hn]
    · simp only [decodeVariant, if_neg hn] at h
      have := decodeVariant_known X rest name a evs r h
      simp [Vars.tags, this]

/-! ### clause: no repeated single-valued member -/

/-- the member an element name is dispatched to (the first one with that name that is read from child elements),
with its current slot -/
def firstSlot : Flds → List FVal → Bytes → Option (Shape × FVal)
  | .cons tag _ shape _ rest, slot :: acc, name =>
    match shape with
    | .attr => firstSlot rest acc name
    | _ => if name = tag then some (shape, slot) else firstSlot rest acc name
  | _, _, _ => none

theorem firstSlot_attr {tag : Bytes} {pres : Pres} {s : Sch} {rest : Flds} {slot : FVal} {acc : List FVal}
    {name : Bytes} : firstSlot (.cons tag pres .attr s rest) (slot :: acc) name = firstSlot rest acc name := rfl

theorem firstSlot_elem {tag : Bytes} {pres : Pres} {shape : Shape} {s : Sch} {rest : Flds} {slot : FVal}
    {acc : List FVal} {name : Bytes} (hs : shape ≠ .attr) :
    firstSlot (.cons tag pres shape s rest) (slot :: acc) name
      = if name = tag then some (shape, slot) else firstSlot rest acc name := by
  cases shape <;> first | rfl | exact absurd rfl hs

theorem firstSlot_not_attr : ∀ (fs : Flds) (acc : List FVal) (name : Bytes) (shape : Shape) (slot : FVal),
    firstSlot fs acc name = some (shape, slot) → shape ≠ .attr := by
  intro fs acc name shape slot
  fun_induction firstSlot fs acc name <;> intro h
  next ih => exact ih h
  next hs => cases h; exact hs
  next ih => exact ih h
  next => cases h

/-- a second element for a member that is not a flattened list is refused -/
theorem decodeField_repeated (X : Ext) : ∀ (fs : Flds) (acc : List FVal) (name a : Bytes) (evs : List Ev)
    (shape : Shape) (slot : FVal), firstSlot fs acc name = some (shape, slot) → shape ≠ .flat →
    slot.isAbsent = false → decodeField X fs name a evs acc = .error .duplicateField := by
  intro fs acc name a evs shape slot
  fun_induction firstSlot fs acc name <;> intro h hflat habs
  -- a member bound to an attribute is passed over; the member of that name: its arm finds the slot filled; another member is
  -- passed over; no member left
  next ih => rw [decodeField_skip X (.inl rfl), ih h hflat habs]
  next hsa =>
    cases h
    cases shape with
    | attr => exact absurd rfl hsa
    | flat => exact absurd rfl hflat
    | single => simp [decodeField, habs]
    | wrapped m => simp [decodeField, habs]
  next hn _ ih => rw [decodeField_skip X (.inr hn), ih h hflat habs]
  next => cases h

/-- **a successful dispatch rewrites exactly the slot `firstSlot` names**: it has a value afterwards, and every other name
finds what it found before. So the member is left with a value, and no dispatch ever removes one: the slot is still filled
when the name comes again (and then `decodeField_repeated` refuses it, unless the member is a flattened list). -/
theorem decodeField_ok_slot (X : Ext) : ∀ (fs : Flds) (acc : List FVal) (name a : Bytes) (evs : List Ev)
    (acc' : List FVal) (r : List Ev), decodeField X fs name a evs acc = .ok (acc', r) →
    ∃ shape slot slot', firstSlot fs acc name = some (shape, slot) ∧ firstSlot fs acc' name = some (shape, slot') ∧
      slot'.isAbsent = false ∧ ∀ name', name' ≠ name → firstSlot fs acc' name' = firstSlot fs acc name'
  | .nil, _, _, _, _, _, _, h => by simp [decodeField] at h
  | .cons tag pres sh s rest, [], name, a, evs, _, _, h => by cases sh <;> simp [decodeField] at h
  | .cons tag pres sh s rest, sl :: acc, name, a, evs, acc', r, h => by
    rcases decodeField_cons_ok h with ⟨hs, a'', h1, rfl⟩ | ⟨rfl, sl', rfl, harm⟩
    · -- the dispatch goes on to the other members: this member's slot stays as it is
      obtain ⟨shape, slot, slot', h0, h0', hfill, hother⟩ := decodeField_ok_slot X rest acc name a evs a'' r h1
      by_cases hsa : sh = .attr
      · subst hsa
        exact ⟨shape, slot, slot', h0, h0', hfill, hother⟩
      · have hn := hs.resolve_left hsa
        refine ⟨shape, slot, slot', ?_, ?_, hfill, fun name' hn' => ?_⟩
        · rw [firstSlot_elem hsa, if_neg hn]; exact h0
        · rw [firstSlot_elem hsa, if_neg hn]; exact h0'
        · rw [firstSlot_elem hsa, firstSlot_elem hsa, hother name' hn']
    · -- the head slot is rewritten: a value is put in (single / wrapped) or pushed to it (flat); the others are unchanged
      have hsa := harm.not_attr
      refine ⟨sh, sl, sl', by rw [firstSlot_elem hsa, if_pos rfl], by rw [firstSlot_elem hsa, if_pos rfl], ?_,
        fun name' hn' => by rw [firstSlot_elem hsa, firstSlot_elem hsa, if_neg hn', if_neg hn']⟩
      cases sh with
      | attr => exact harm.elim
      | single => obtain ⟨_, v, _, rfl⟩ := harm; rfl
      | wrapped m => obtain ⟨_, l, _, rfl⟩ := harm; rfl
      | flat => obtain ⟨v, _, rfl⟩ := harm; cases sl <;> rfl

/-- `decodeField_ok_slot` read per name: the member dispatched to is left with a value, and a member that had one keeps one -/
theorem decodeField_ok_filled (X : Ext) (fs : Flds) (acc : List FVal) (name a : Bytes) (evs : List Ev)
    (acc' : List FVal) (r : List Ev) (h : decodeField X fs name a evs acc = .ok (acc', r)) :
    (∃ shape slot, firstSlot fs acc' name = some (shape, slot) ∧ slot.isAbsent = false) ∧
    (∀ name' shape slot, firstSlot fs acc name' = some (shape, slot) → slot.isAbsent = false →
      ∃ slot', firstSlot fs acc' name' = some (shape, slot') ∧ slot'.isAbsent = false) := by
  obtain ⟨sh, sl, sl', h0, h0', hfill, hother⟩ := decodeField_ok_slot X fs acc name a evs acc' r h
  refine ⟨⟨sh, sl', h0', hfill⟩, fun name' shape slot hfs habs => ?_⟩
  by_cases hn : name' = name
  · subst hn
    rw [h0] at hfs
    cases hfs
    exact ⟨sl', h0', hfill⟩
  · exact ⟨slot, by rw [hother name' hn]; exact hfs, habs⟩

theorem firstSlot_mem : ∀ (fs : Flds) (acc : List FVal) (name : Bytes) (p : Shape × FVal),
    firstSlot fs acc name = some p → name ∈ fs.elemTags := by
  intro fs acc name p
  fun_induction firstSlot fs acc name <;> intro h
  -- a member bound to an attribute has no arm; the member of that name; another member; no member left
  next ih => exact ih h
  next pres shape s rest _ _ _ hs => cases shape <;> first | exact absurd rfl hs | simp [Flds.elemTags]
  next pres shape s rest _ _ _ _ hs ih => cases shape <;> first | exact absurd rfl hs | simp [Flds.elemTags, ih h]
  next => cases h

/-- the element-name dispatch of a struct deserialiser succeeds only for the element name of a member that is read
from child elements (`Flds.elemTags`: a member bound to an attribute is not one — a child element of its name is as
unknown as any other) -/
theorem decodeField_known (X : Ext) (fs : Flds) (name a : Bytes) (evs : List Ev) (acc : List FVal)
    (r : List FVal × List Ev) (h : decodeField X fs name a evs acc = .ok r) : name ∈ fs.elemTags :=
  have ⟨_, _, _, h0, _⟩ := decodeField_ok_slot X fs acc name a evs r.1 r.2 h
  firstSlot_mem fs acc name _ h0

/-! ### clause: required members present -/

/-- every required member has a value: what `Flds.finish` checks before it builds the struct -/
def ReqPresent : Flds → List FVal → Prop
  | .cons _ pres _ _ rest, fv :: fvs => (pres = .req → fv.isAbsent = false) ∧ ReqPresent rest fvs
  | _, _ => True

theorem FVal.isAbsent_iff {fv : FVal} : fv.isAbsent = true ↔ fv = .absent := by
  cases fv <;> simp [FVal.isAbsent]

theorem finish_required (fs : Flds) (acc v : List FVal) (h : fs.finish acc = .ok v) : ReqPresent fs v := by
  revert v
  fun_induction Flds.finish fs acc <;> intro v h <;> cases h
  -- a defaulted member that was absent; a member kept as it is: it is not both required and absent; no member left
  next ih => exact ⟨nofun, ih _ ‹_›⟩
  next hreq _ ih => exact ⟨fun hp => Bool.eq_false_iff.mpr fun ha => hreq hp (FVal.isAbsent_iff.mp ha), ih _ ‹_›⟩
  next => cases ‹Flds› <;> trivial

/-- a struct is accepted only with all its required members — those read from child elements and those bound to
attributes alike -/
theorem decode_struct_required (X : Ext) {fs : Flds} {a : Bytes} {evs rest : List Ev} {v : Val}
    (h : decode X (.struct fs) a evs = .ok (v, rest)) : ∃ fvs, v = .struct fvs ∧ ReqPresent fs fvs := by
  rcases decode_struct_ok h with ⟨hn, rfl, _⟩ | ⟨acc0, acc, fvs, _, _, hf, rfl⟩
  · cases fs with
    | nil => exact ⟨[], rfl, by simp [ReqPresent]⟩
    | cons _ _ _ _ _ => simp [Flds.isNil] at hn
  · exact ⟨fvs, rfl, finish_required fs acc fvs hf⟩

end S3V.Xml
