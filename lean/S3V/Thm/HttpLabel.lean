import S3V.Model.HttpLabel
import S3V.Spec.HttpLabel
import S3V.Thm.Prepare
import S3V.Thm.OpAll
/-!
# Lemmas for `S3V/Props/C02Label.lean`: what the label statements of an operation bind on a path of the kind it
unwraps (regenerated tables), and that `prepare` hands on only operations for which that is the case
-/
namespace S3V.HttpLabel
open S3V S3V.Gen S3V.Route S3V.RouteThm S3V.Path S3V.Prepare S3V.HttpLabelSpec S3V.PostPolicyModel

/-! ## what the label statements bind -/

/-- the label statements and the URI pattern of an operation, by the kind it unwraps: one fact of the regenerated tables -/
theorem labelShape : ∀ op : Op,
    (unwrapsKind op = .object ∧ implLabelStmts op = [(.object, [mBucket, mKey])] ∧
      smithyUriPath op = [.label mBucket false, .label mKey true]) ∨
    (unwrapsKind op = .bucket ∧ implLabelStmts op = [(.bucket, [mBucket])] ∧ smithyUriPath op = [.label mBucket false]) ∨
    (unwrapsKind op = .root ∧ implLabelStmts op = [] ∧ labels (smithyUriPath op) = []) :=
  Op.forall_of_all (by decide +kernel)

theorem deserLabels_noForm (op : Op) (p : Option S3Path) :
    deserLabels op false p = runStmts (implLabelStmts op) p := rfl

/-- the POST form: `deserialize_http_multipart` binds `bucket` from the path -/
theorem deserLabels_form (b : Bytes) : deserLabels formOp true (some (.bucket b)) = some [(mBucket, b)] := rfl

/-- the path components the URI pattern is matched against (path-style form) -/
def components : S3Path → List Bytes
  | .root => []
  | .bucket b => [b]
  | .object b k => [b, k]

theorem assign_of_no_labels {V : Type} (segs : List UriSeg) (vs : List V) (h : labels segs = []) :
    assign segs vs = [] := by
  fun_induction assign segs vs
  next => cases h
  next ih => exact ih h
  next => rfl

/-- the operations the block `'resolve` of `prepare` can answer on a path, with the form flag their
    `deserialize_http` will find: an answer of the router's arm for that kind of path, or `formOp` on a bucket -/
inductive Fits : Op → S3Path → Bool → Prop
  | router {op : Op} {p : S3Path}
      (h : unwrapsKind op = pathKind p ∨ unwrapsKind op = .root ∧ pathKind p ≠ .object) : Fits op p false
  | form (b : Bytes) : Fits formOp (.bucket b) true

/-- the label statements of an operation that fits the path do not panic and bind the label members of its Smithy
    URI pattern to the components of the path, position by position -/
theorem deserLabels_of_fits {op : Op} {p : S3Path} {form : Bool} (h : Fits op p form) :
    deserLabels op form (some p) = some (assign (smithyUriPath op) (components p)) := by
  cases h with
  | form b => rfl
  | router h =>
    rw [deserLabels_noForm]
    rcases labelShape op with ⟨hk, h1, h2⟩ | ⟨hk, h1, h2⟩ | ⟨hk, h1, h2⟩
    · rw [hk] at h
      cases p with
      | object b k => rw [h1, h2]; rfl
      | root => exact h.elim nofun nofun
      | bucket b => exact h.elim nofun nofun
    · rw [hk] at h
      cases p with
      | bucket b => rw [h1, h2]; rfl
      | root => exact h.elim nofun nofun
      | object b k => exact h.elim nofun nofun
    · rw [h1, assign_of_no_labels _ _ h2]
      rfl

theorem Fits.object {op : Op} {b k : Bytes} {form : Bool} (h : Fits op (.object b k) form) :
    smithyUriPath op = [.label mBucket false, .label mKey true] := by
  cases h with
  | router h =>
    rcases labelShape op with ⟨_, _, h2⟩ | ⟨hk, _⟩ | ⟨hk, _⟩
    · exact h2
    · exact nomatch hk.symm.trans (h.resolve_right fun hh => hh.2 rfl)
    · exact nomatch hk.symm.trans (h.resolve_right fun hh => hh.2 rfl)

theorem deserLabels_target {op : Op} (b : Bytes) {k : Bytes}
    (h : unwrapsKind op = RouteCompose.keyKind k ∨ unwrapsKind op = .root ∧ RouteCompose.keyKind k ≠ .object) :
    deserLabels op false (some (RouteCompose.target b k)) = some (labelValues op b k) ∧
    (labelValues op b k = [(mBucket, b), (mKey, k)] ∧ k ≠ [] ∨ labelValues op b k = [(mBucket, b)] ∧ k = [] ∨
      labelValues op b k = [] ∧ k = []) := by
  rw [deserLabels_noForm, labelValues]
  rcases labelShape op with ⟨hk, h1, h2⟩ | ⟨hk, h1, h2⟩ | ⟨hk, h1, h2⟩
  · -- a `Key` label: the key is not empty
    have hke : k ≠ [] := fun e => by simp [hk, RouteCompose.keyKind, e] at h
    rw [RouteCompose.target, if_neg hke, h1, h2]
    exact ⟨rfl, Or.inl ⟨rfl, hke⟩⟩
  · have hke : k = [] := Decidable.byContradiction fun e => by simp [hk, RouteCompose.keyKind, e] at h
    subst hke
    rw [h1, h2]
    exact ⟨rfl, Or.inr (Or.inl ⟨rfl, rfl⟩)⟩
  · have hke : k = [] := Decidable.byContradiction fun e => by simp [hk, RouteCompose.keyKind, e] at h
    subst hke
    rw [h1, assign_of_no_labels _ _ h2]
    exact ⟨rfl, Or.inr (Or.inr ⟨rfl, rfl⟩)⟩

/-! ## `prepare` hands on only operations that fit the path -/

/-- the hypothesis under which `req.s3ext.multipart` is read: the signature check parses a form only for a POST
    request (`v4_check`: `if self.req_method == Method::POST { if multipart/form-data { v4_check_post_signature } }`;
    model `S3V.SigDispatch`) -/
def FormOnlyForPost {I E : Type} (r : Request I E) : Prop :=
  ∀ s, r.sig = .ok s → s.multipart.isSome = true → r.method = .POST

theorem fits_of_prepare {I E : Type} {ctx : Ctx I E} {p : S3Path} {r : Request I E} {op : Op} {full : Bool}
    (hpost : FormOnlyForPost r) (h : (prepare ctx p r).outcome = .s3 op full) : Fits op p (hasForm r) := by
  obtain ⟨s, hs, _, hres, _⟩ := prepare_s3 ctx p r h
  have hf : hasForm r = s.multipart.isSome := by simp only [hasForm, hs]
  rw [hf]
  rcases resolveOp_ok hres with ⟨gate, b, hmp, _, rfl, _, rfl, _⟩ | ⟨hnf, hres⟩
  · rw [hmp]
    exact .form b
  · have hno : s.multipart.isSome = false := Bool.eq_false_iff.mpr fun hsome =>
      hnf.elim (fun h1 => by rw [h1] at hsome; cases hsome) fun h1 => h1 (hpost s hs hsome)
    rw [hno]
    exact .router (resolve_answer hres).2

/-! ## `callLabels` at a classified path -/

theorem callLabels_of_classify {I E : Type} {cfg : HostCfg} {host : Option Bytes} {e : Bytes} {p : S3Path}
    (hc : classify cfg host e = .ok p) (ctx : Ctx I E) (r : Request I E) :
    callLabels cfg host e ctx r = .ok (reached ctx r p) := by
  simp only [callLabels, hc, Except.map]

theorem callLabels_reached {I E : Type} {cfg : HostCfg} {host : Option Bytes} {e : Bytes} {p : S3Path}
    (hc : classify cfg host e = .ok p) {ctx : Ctx I E} {r : Request I E} {op : Op} {full : Bool}
    (ho : (prepare ctx p r).outcome = .s3 op full) :
    callLabels cfg host e ctx r = .ok (some (op, deserLabels op (hasForm r) (some p))) := by
  rw [callLabels_of_classify hc, reached, ho]

/-- whatever operation is reached on a classified path fits the path, and its labels are what its statements bind -/
theorem callLabels_fits {I E : Type} {cfg : HostCfg} {host : Option Bytes} {e : Bytes} {p : S3Path}
    (hc : classify cfg host e = .ok p) (ctx : Ctx I E) (r : Request I E) (hpost : FormOnlyForPost r) :
    ∃ x, callLabels cfg host e ctx r = .ok x ∧
      ∀ op ls, x = some (op, ls) → Fits op p (hasForm r) ∧ ls = deserLabels op (hasForm r) (some p) := by
  refine ⟨_, callLabels_of_classify hc ctx r, fun op ls hx => ?_⟩
  unfold reached at hx
  split at hx
  · next ho =>
    cases hx
    exact ⟨fits_of_prepare hpost ho, rfl⟩
  · cases hx

/-- … so its labels are its URI pattern matched against the components -/
theorem callLabels_components {I E : Type} {cfg : HostCfg} {host : Option Bytes} {e : Bytes} {p : S3Path}
    (hc : classify cfg host e = .ok p) (ctx : Ctx I E) (r : Request I E) (hpost : FormOnlyForPost r) :
    ∃ x, callLabels cfg host e ctx r = .ok x ∧
      ∀ op ls, x = some (op, ls) → ls = some (assign (smithyUriPath op) (components p)) := by
  obtain ⟨x, hx, hall⟩ := callLabels_fits hc ctx r hpost
  exact ⟨x, hx, fun op ls h => (hall op ls h).2.trans (deserLabels_of_fits (hall op ls h).1)⟩

theorem callLabels_object {I E : Type} {cfg : HostCfg} {host : Option Bytes} {e b k : Bytes}
    (hc : classify cfg host e = .ok (.object b k)) (ctx : Ctx I E) (r : Request I E) (hpost : FormOnlyForPost r) :
    ∃ x, callLabels cfg host e ctx r = .ok x ∧
      ∀ op ls, x = some (op, ls) →
        ls = some [(mBucket, b), (mKey, k)] ∧ ls = some (labelValues op b k) ∧
        smithyUriPath op = [.label mBucket false, .label mKey true] := by
  obtain ⟨x, hx, hall⟩ := callLabels_fits hc ctx r hpost
  refine ⟨x, hx, fun op ls h => ?_⟩
  obtain ⟨hf, hl⟩ := hall op ls h
  have hu := hf.object
  rw [hl, deserLabels_of_fits hf, labelValues, hu]
  exact ⟨rfl, rfl, rfl⟩

theorem callLabels_bucket {I E : Type} {cfg : HostCfg} {host : Option Bytes} {e b : Bytes}
    (hc : classify cfg host e = .ok (.bucket b)) (ctx : Ctx I E) (r : Request I E) (hpost : FormOnlyForPost r) :
    ∃ x, callLabels cfg host e ctx r = .ok x ∧
      ∀ op ls, x = some (op, ls) →
        (ls = some [(mBucket, b)] ∨ (ls = some [] ∧ labels (smithyUriPath op) = [])) ∧
        ls = some (assign (smithyUriPath op) [b]) := by
  obtain ⟨x, hx, hall⟩ := callLabels_components hc ctx r hpost
  refine ⟨x, hx, fun op ls h => ⟨?_, hall op ls h⟩⟩
  rw [hall op ls h, components]
  rcases labelShape op with ⟨_, _, h2⟩ | ⟨_, _, h2⟩ | ⟨_, _, h2⟩
  · rw [h2]; exact .inl rfl
  · rw [h2]; exact .inl rfl
  · rw [assign_of_no_labels _ _ h2]; exact .inr ⟨rfl, h2⟩

theorem callLabels_root {I E : Type} {cfg : HostCfg} {host : Option Bytes} {e : Bytes}
    (hc : classify cfg host e = .ok .root) (ctx : Ctx I E) (r : Request I E) (hpost : FormOnlyForPost r) :
    ∃ x, callLabels cfg host e ctx r = .ok x ∧ ∀ op ls, x = some (op, ls) → ls = some [] := by
  obtain ⟨x, hx, hall⟩ := callLabels_components hc ctx r hpost
  refine ⟨x, hx, fun op ls h => (hall op ls h).trans (congrArg some ?_)⟩
  cases smithyUriPath op with
  | nil => rfl
  | cons s _ => cases s <;> rfl

end S3V.HttpLabel
