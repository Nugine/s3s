import S3V.Model.FsStoreApi
import S3V.Thm.ListLemmas
/-!
# C18 lemmas: association lists, their `filterMap` views, and lists mapped over their values
-/
namespace S3V.FsStore

section AL
variable {α β : Type} [DecidableEq α]

@[simp] theorem alLookup_nil (k : α) : alLookup k ([] : List (α × β)) = none := rfl

theorem alLookup_cons (k a : α) (b : β) (t : List (α × β)) :
    alLookup k ((a, b) :: t) = if a = k then some b else alLookup k t := rfl

theorem alLookup_eq_find (k : α) (l : List (α × β)) : alLookup k l = (l.find? fun e => e.1 = k).map (·.2) := by
  induction l with
  | nil => rfl
  | cons e t ih =>
    obtain ⟨a, b⟩ := e
    by_cases h : a = k <;> simp [alLookup_cons, h, ih]

theorem alErase_eq_filter (k : α) (l : List (α × β)) : alErase k l = l.filter fun e => e.1 ≠ k := by
  induction l with
  | nil => rfl
  | cons e t ih =>
    obtain ⟨a, b⟩ := e
    by_cases h : a = k <;> simp [alErase, h, ih]

theorem alLookup_eq_none_iff {k : α} {l : List (α × β)} : alLookup k l = none ↔ ∀ e ∈ l, e.1 ≠ k := by
  simp [alLookup_eq_find, List.find?_eq_none]

theorem alLookup_mem {k : α} {v : β} {l : List (α × β)} (h : alLookup k l = some v) : (k, v) ∈ l := by
  rw [alLookup_eq_find, Option.map_eq_some_iff] at h
  obtain ⟨e, he, rfl⟩ := h
  have hk : e.1 = k := by simpa using List.find?_some he
  exact hk ▸ List.mem_of_find?_eq_some he

theorem alLookup_append (k : α) (l m : List (α × β)) :
    alLookup k (l ++ m) = (alLookup k l).or (alLookup k m) := by
  simp only [alLookup_eq_find, List.find?_append]
  cases l.find? fun e => e.1 = k <;> rfl

theorem alErase_mem {k : α} {l : List (α × β)} {e : α × β} (h : e ∈ alErase k l) : e ∈ l := by
  rw [alErase_eq_filter] at h
  exact (List.mem_filter.mp h).1

theorem alLookup_alErase_self (k : α) (l : List (α × β)) : alLookup k (alErase k l) = none := by
  rw [alLookup_eq_none_iff, alErase_eq_filter]
  intro e he
  simpa using (List.mem_filter.mp he).2

theorem alErase_absent {k : α} {l : List (α × β)} (h : alLookup k l = none) : alErase k l = l := by
  rw [alErase_eq_filter, List.filter_eq_self]
  intro e he
  simpa using alLookup_eq_none_iff.mp h e he

theorem alLookup_alInsert_self (k : α) (v : β) (l : List (α × β)) :
    alLookup k (alInsert k v l) = some v := by
  induction l with
  | nil => simp [alInsert, alLookup_cons]
  | cons e t ih =>
    obtain ⟨a, b⟩ := e
    by_cases h : a = k
    · simp [alInsert, h, alLookup_cons]
    · simp [alInsert, h, alLookup_cons, ih]

theorem alLookup_alInsert_ne {k a : α} (h : a ≠ k) (v : β) (l : List (α × β)) :
    alLookup a (alInsert k v l) = alLookup a l := by
  induction l with
  | nil => simp [alInsert, alLookup_cons, Ne.symm h]
  | cons e t ih =>
    obtain ⟨a', b⟩ := e
    by_cases h' : a' = k
    · subst h'
      simp [alInsert, alLookup_cons, Ne.symm h]
    · simp only [alInsert, h', if_false, alLookup_cons, ih]

theorem alLookup_alErase_ne {k a : α} (h : a ≠ k) (l : List (α × β)) :
    alLookup a (alErase k l) = alLookup a l := by
  induction l with
  | nil => rfl
  | cons e t ih =>
    obtain ⟨a', b⟩ := e
    by_cases h' : a' = k
    · subst h'
      simp [alErase, alLookup_cons, Ne.symm h, ih]
    · simp only [alErase, h', if_false, alLookup_cons, ih]

theorem alHas_eq (k : α) (l : List (α × β)) : alHas k l = (alLookup k l).isSome := rfl

theorem alInsert_mem {k : α} {v : β} {l : List (α × β)} {e : α × β} (h : e ∈ alInsert k v l) :
    e = (k, v) ∨ e ∈ l := by
  induction l with
  | nil => simp [alInsert] at h; exact Or.inl h
  | cons x t ih =>
    obtain ⟨a, b⟩ := x
    by_cases h' : a = k
    · simp only [alInsert, h', if_true, List.mem_cons] at h
      exact h.imp id (List.mem_cons_of_mem _)
    · simp only [alInsert, h', if_false, List.mem_cons] at h
      rcases h with h | h
      · exact .inr (h ▸ List.mem_cons_self ..)
      · exact (ih h).imp id (List.mem_cons_of_mem _)

theorem alInsert_same {k : α} {v : β} {l : List (α × β)} (h : alLookup k l = some v) :
    alInsert k v l = l := by
  induction l with
  | nil => simp at h
  | cons e t ih =>
    obtain ⟨a, b⟩ := e
    by_cases h' : a = k
    · subst h'
      simp only [alLookup_cons, if_true, Option.some.injEq] at h
      subst h
      simp [alInsert]
    · simp only [alLookup_cons, h', if_false] at h
      simp only [alInsert, h', if_false, ih h]

/-- a value put under a key, or the key removed: what the operations do with a side file -/
def alSet (k : α) (v : Option β) (l : List (α × β)) : List (α × β) :=
  v.elim (alErase k l) fun x => alInsert k x l

theorem alLookup_alSet_self (k : α) (v : Option β) (l : List (α × β)) : alLookup k (alSet k v l) = v := by
  cases v with
  | none => exact alLookup_alErase_self k l
  | some x => exact alLookup_alInsert_self k x l

theorem alLookup_alSet_ne {k a : α} (h : a ≠ k) (v : Option β) (l : List (α × β)) :
    alLookup a (alSet k v l) = alLookup a l := by
  cases v with
  | none => exact alLookup_alErase_ne h l
  | some x => exact alLookup_alInsert_ne h x l

theorem alSet_mem {k : α} {v : Option β} {l : List (α × β)} {e : α × β} (h : e ∈ alSet k v l) :
    (∃ x, v = some x ∧ e = (k, x)) ∨ e ∈ l := by
  cases v with
  | none => exact .inr (alErase_mem h)
  | some x => exact (alInsert_mem h).imp (fun he => ⟨x, rfl, he⟩) id

theorem alLookup_map_val {γ : Type} (g : α → β → γ) (k : α) (l : List (α × β)) :
    alLookup k (l.map fun e => (e.1, g e.1 e.2)) = (alLookup k l).map (g k) := by
  induction l with
  | nil => rfl
  | cons e t ih =>
    obtain ⟨a, b⟩ := e
    by_cases h : a = k
    · subst h; simp [alLookup_cons]
    · simp [alLookup_cons, h, ih]

end AL

/-! ## `filterMap` views of association lists (the shape of `abs` on a directory tree) -/

def keysNodup {α β : Type} (l : List (α × β)) : Prop := (l.map (·.1)).Nodup

section View
variable {α β γ δ : Type} [DecidableEq α] [DecidableEq γ]

omit [DecidableEq α] [DecidableEq γ] in
theorem keysNodup_cons {a : α} {b : β} {t : List (α × β)} (h : keysNodup ((a, b) :: t)) :
    (∀ b', (a, b') ∉ t) ∧ keysNodup t := by
  unfold keysNodup at h ⊢
  simp only [List.map_cons, List.nodup_cons] at h
  refine ⟨fun b' hb => h.1 ?_, h.2⟩
  exact List.mem_map.mpr ⟨(a, b'), hb, rfl⟩

/-- what the lemmas below ask of a view `f` of `l` at key `a`: an entry under `a` shows under `c` if it shows at all, and no
    entry under another key shows under `c` -/
structure ShowsAt (f : α × β → Option (γ × δ)) (l : List (α × β)) (a : α) (c : γ) : Prop where
  own : ∀ b' cd, (a, b') ∈ l → f (a, b') = some cd → cd.1 = c
  other : ∀ a' b' c' d', (a', b') ∈ l → a' ≠ a → f (a', b') = some (c', d') → c' ≠ c

omit [DecidableEq α] [DecidableEq γ] in
theorem ShowsAt.tail {f : α × β → Option (γ × δ)} {e : α × β} {t : List (α × β)} {a : α} {c : γ}
    (h : ShowsAt f (e :: t) a c) : ShowsAt f t a c :=
  ⟨fun b' cd hm => h.own b' cd (List.mem_cons_of_mem _ hm), fun a' b' c' d' hm => h.other a' b' c' d' (List.mem_cons_of_mem _ hm)⟩

/-- inserting under key `a` shows as inserting under key `c` in the view, when the view is injective on keys. `f'` is the view
    through the state after the change, `f` the view before it: the new entry shows (`hf`), what it replaces showed under the same
    key (`hold`), every other entry looks as before (`hagree`) and shows under another key (`hs.other`; `hs.own` is not used: it follows from `hold`) -/
theorem filterMap_alInsert (f' f : α × β → Option (γ × δ)) (a : α) (b : β) (c : γ) (d : δ) (l : List (α × β))
    (hnd : keysNodup l)
    (hf : f' (a, b) = some (c, d))
    (hold : ∀ b', (a, b') ∈ l → ∃ d', f (a, b') = some (c, d'))
    (hagree : ∀ a' b', (a', b') ∈ l → a' ≠ a → f' (a', b') = f (a', b')) (hs : ShowsAt f l a c) :
    (alInsert a b l).filterMap f' = alInsert c d (l.filterMap f) := by
  induction l with
  | nil => simp [alInsert, hf]
  | cons e t ih =>
    obtain ⟨a', b'⟩ := e
    obtain ⟨hfresh, hnd'⟩ := keysNodup_cons hnd
    by_cases h : a' = a
    · subst h
      obtain ⟨d', hd'⟩ := hold b' (by simp)
      have htail : t.filterMap f' = t.filterMap f := by
        apply filterMap_congr_mem
        intro e he
        obtain ⟨a'', b''⟩ := e
        apply hagree a'' b'' (List.mem_cons_of_mem _ he)
        intro h; subst h; exact hfresh b'' he
      simp [alInsert, hf, hd', htail]
    · have ih' := ih hnd' (fun b'' h => hold b'' (List.mem_cons_of_mem _ h))
        (fun a'' b'' h => hagree a'' b'' (List.mem_cons_of_mem _ h)) hs.tail
      have hag := hagree a' b' (by simp) h
      simp only [alInsert, h, if_false, List.filterMap_cons, hag]
      cases hfe : f (a', b') with
      | none => simpa using ih'
      | some cd =>
        obtain ⟨c', d'⟩ := cd
        have hne := hs.other a' b' c' d' (by simp) h hfe
        simp [alInsert, hne, ih']

/-- erasing under key `a` shows as erasing under key `c` in the view -/
theorem filterMap_alErase (f : α × β → Option (γ × δ)) (a : α) (c : γ) (l : List (α × β)) (hs : ShowsAt f l a c) :
    (alErase a l).filterMap f = alErase c (l.filterMap f) := by
  rw [alErase_eq_filter, alErase_eq_filter, List.filterMap_filter, List.filter_filterMap]
  apply filterMap_congr_mem
  rintro ⟨a', b'⟩ he
  by_cases h : a' = a
  · subst h
    cases hfe : f (a', b') with
    | none => simp
    | some cd => simp [Option.filter, hs.own b' cd he hfe]
  · cases hfe : f (a', b') with
    | none => simp [h]
    | some cd => simp [h, Option.filter, hs.other a' b' cd.1 cd.2 he h hfe]

/-- looking up `c` in the view is looking up `a` and viewing what is found -/
theorem alLookup_filterMap (f : α × β → Option (γ × δ)) (a : α) (c : γ) (l : List (α × β))
    (hnd : keysNodup l) (hs : ShowsAt f l a c) :
    alLookup c (l.filterMap f) = (alLookup a l).bind fun b => (f (a, b)).map (·.2) := by
  induction l with
  | nil => rfl
  | cons e t ih =>
    obtain ⟨a', b'⟩ := e
    obtain ⟨hfresh, hnd'⟩ := keysNodup_cons hnd
    have ih' := ih hnd' hs.tail
    by_cases h : a' = a
    · subst h
      simp only [alLookup_cons, if_true, Option.bind_some, List.filterMap_cons]
      cases hfe : f (a', b') with
      | none =>
        simp only [Option.map_none]
        -- nothing else in `t` has key `a'`, and other keys do not map to `c`
        apply alLookup_eq_none_iff.mpr
        intro e he
        obtain ⟨e', he', hfe'⟩ := List.mem_filterMap.mp he
        obtain ⟨a'', b''⟩ := e'
        obtain ⟨c', d'⟩ := e
        have hne : a'' ≠ a' := by intro h; subst h; exact hfresh b'' he'
        exact hs.other a'' b'' c' d' (List.mem_cons_of_mem _ he') hne hfe'
      | some cd =>
        have := hs.own b' cd (by simp) hfe
        obtain ⟨c', d'⟩ := cd
        simp at this; subst this
        simp [alLookup_cons]
    · simp only [alLookup_cons, h, if_false, List.filterMap_cons]
      cases hfe : f (a', b') with
      | none => simpa using ih'
      | some cd =>
        obtain ⟨c', d'⟩ := cd
        have hne := hs.other a' b' c' d' (by simp) h hfe
        simp [alLookup_cons, hne, ih']

end View

section Keys
variable {α β γ : Type} [DecidableEq α]

theorem alLookup_of_mem_nodup {k : α} {v : β} {l : List (α × β)} (hnd : keysNodup l) (h : (k, v) ∈ l) :
    alLookup k l = some v := by
  induction l with
  | nil => simp at h
  | cons x t ih =>
    obtain ⟨a, b⟩ := x
    obtain ⟨hfresh, hnd'⟩ := keysNodup_cons hnd
    simp only [List.mem_cons] at h
    rcases h with h | h
    · simp at h; simp [alLookup_cons, h.1, h.2]
    · by_cases h' : a = k
      · subst h'; exact absurd h (hfresh v)
      · simp only [alLookup_cons, h', if_false]; exact ih hnd' h

theorem keysNodup_alInsert {k : α} {v : β} {l : List (α × β)} (h : keysNodup l) : keysNodup (alInsert k v l) := by
  induction l with
  | nil => simp [alInsert, keysNodup]
  | cons x t ih =>
    obtain ⟨a, b⟩ := x
    obtain ⟨hfresh, hnd'⟩ := keysNodup_cons h
    by_cases h' : a = k
    · subst h'
      simp only [alInsert, if_true]
      unfold keysNodup at h ⊢
      simpa using h
    · simp only [alInsert, h', if_false]
      unfold keysNodup
      simp only [List.map_cons, List.nodup_cons]
      refine ⟨?_, ih hnd'⟩
      intro hm
      obtain ⟨e, he, hea⟩ := List.mem_map.mp hm
      rcases alInsert_mem he with he | he
      · subst he; exact h' hea.symm
      · obtain ⟨a', b'⟩ := e
        simp at hea; subst hea
        exact hfresh b' he

theorem keysNodup_alErase {k : α} {l : List (α × β)} (h : keysNodup l) : keysNodup (alErase k l) := by
  rw [alErase_eq_filter]
  exact (List.filter_sublist.map _).nodup h

theorem keysNodup_append_single {k : α} {v : β} {l : List (α × β)} (h : keysNodup l) (hk : alLookup k l = none) :
    keysNodup (l ++ [(k, v)]) := by
  unfold keysNodup at h ⊢
  rw [List.map_append, List.nodup_append]
  refine ⟨h, by simp, ?_⟩
  intro a ha b hb
  simp at hb; subst hb
  obtain ⟨e, he, hea⟩ := List.mem_map.mp ha
  intro heq
  exact alLookup_eq_none_iff.mp hk e he (hea.trans heq)

theorem alInsert_alInsert (k : α) (v w : β) (l : List (α × β)) :
    alInsert k w (alInsert k v l) = alInsert k w l := by
  induction l with
  | nil => simp [alInsert]
  | cons x t ih =>
    obtain ⟨a, b⟩ := x
    by_cases h' : a = k
    · simp [alInsert, h']
    · simp [alInsert, h', ih]

/-- inserting under `k`, seen through a map of the values: the old values of `k` do not matter, so the map may change at `k` -/
theorem map_alInsert_congr (g' g : α → β → γ) (k : α) (v : β) (l : List (α × β)) (hnd : keysNodup l)
    (h : ∀ e ∈ l, e.1 ≠ k → g' e.1 e.2 = g e.1 e.2) :
    (alInsert k v l).map (fun e => (e.1, g' e.1 e.2)) = alInsert k (g' k v) (l.map fun e => (e.1, g e.1 e.2)) := by
  -- a map over the values is a view that shows every entry under its own key
  rw [← List.filterMap_eq_map, ← List.filterMap_eq_map]
  exact filterMap_alInsert _ _ k v k _ l hnd rfl (fun _ _ => ⟨_, rfl⟩)
    (fun a' b' hm hne => congrArg (fun x => some (a', x)) (h (a', b') hm hne))
    ⟨fun _ _ _ heq => by cases heq; rfl, fun _ _ _ _ _ hne heq => by cases heq; exact hne⟩

theorem map_eq_alInsert_map (g' g : α → β → γ) (k : α) (v : β) (l : List (α × β)) (hnd : keysNodup l)
    (hk : alLookup k l = some v) (h : ∀ e ∈ l, e.1 ≠ k → g' e.1 e.2 = g e.1 e.2) :
    (l.map fun e => (e.1, g' e.1 e.2)) = alInsert k (g' k v) (l.map fun e => (e.1, g e.1 e.2)) := by
  rw [← map_alInsert_congr g' g k v l hnd h, alInsert_same hk]

theorem alErase_map_congr (g' g : α → β → γ) (k : α) (l : List (α × β))
    (h : ∀ e ∈ l, e.1 ≠ k → g' e.1 e.2 = g e.1 e.2) :
    (alErase k l).map (fun e => (e.1, g' e.1 e.2)) = alErase k (l.map fun e => (e.1, g e.1 e.2)) := by
  rw [alErase_eq_filter, alErase_eq_filter, List.filter_map]
  exact List.map_congr_left fun e he => by
    rw [h e (List.mem_filter.mp he).1 (of_decide_eq_true (List.mem_filter.mp he).2)]

theorem alErase_map_val (g : α → β → γ) (k : α) (l : List (α × β)) :
    (alErase k l).map (fun e => (e.1, g e.1 e.2)) = alErase k (l.map fun e => (e.1, g e.1 e.2)) :=
  alErase_map_congr g g k l fun _ _ _ => rfl

end Keys
end S3V.FsStore
