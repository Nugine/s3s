import S3V.Thm.ChunkedSpec
/-!
# Lemmas: the headers and chunks written by the document's encoder are well-formed

`hexOfNat` (lower-case hex without leading zeros) is read back by the size-token reader for every
size below 2^32; an encoded chunk is `Chunk.WF` as soon as the signature function returns 64 bytes
without a line feed (64 hex digits in reality); the encoder's chunks verify along the chain.
-/
namespace S3V.ChunkedSpec
open S3V S3V.Chunked

/-- a nibble is written as a hex digit with that value, never as `;` or a line feed: the three facts
    come from one evaluation over the 16 nibbles -/
theorem hexNib_spec : ∀ d : Fin 16,
    hexDigit? (hexNib d.val) = some d.val ∧ hexNib d.val ≠ 59 ∧ hexNib d.val ≠ 10 := by decide

theorem hexDigit?_hexNib {d : Nat} (h : d < 16) : hexDigit? (hexNib d) = some d :=
  (hexNib_spec ⟨d, h⟩).1

theorem hexOfNat_all (n : Nat) : ∀ c ∈ hexOfNat n, (hexDigit? c).isSome ∧ c ≠ 59 ∧ c ≠ 10 := by
  have hnib : ∀ d, d < 16 → (hexDigit? (hexNib d)).isSome ∧ hexNib d ≠ 59 ∧ hexNib d ≠ 10 :=
    fun d h => ⟨by rw [hexDigit?_hexNib h]; rfl, (hexNib_spec ⟨d, h⟩).2⟩
  fun_induction hexOfNat n
  next n h => exact fun c hc => List.mem_singleton.mp hc ▸ hnib n h
  next n _ ih =>
    intro c hc
    rcases List.mem_append.mp hc with hc | hc
    · exact ih c hc
    · exact List.mem_singleton.mp hc ▸ hnib _ (Nat.mod_lt _ (by decide))

theorem hexOfNat_of_lt {n : Nat} (h : n < 16) : hexOfNat n = [hexNib n] := by
  rw [hexOfNat, dif_pos h]

theorem hexOfNat_length_le (k n : Nat) (h : n < 16 ^ (k + 1)) : (hexOfNat n).length ≤ k + 1 := by
  fun_induction hexOfNat n generalizing k
  next => exact Nat.le_add_left 1 k
  next n hn ih =>
    -- sixteen or more: not below `16 ^ 1`, and the quotient has one digit less
    cases k with
    | zero => exact absurd h hn
    | succ k =>
      rw [List.length_append]
      exact Nat.succ_le_succ (ih k (by rw [Nat.div_lt_iff_lt_mul (by omega)]; rwa [Nat.pow_succ] at h))

/-- on hex digits `ds` shorter than `k` the reader answers `some`, except on `ds = []` with `acc = none`, where the value so far
    counts as 0 (`getD 0`): the first digit of `hexOfNat` -/
theorem sizeOfToken_snoc {c : UInt8} {d : Nat} (hd : hexDigit? c = some d) :
    ∀ (ds : Bytes) (k : Nat) (acc : Option Nat), (∀ x ∈ ds, (hexDigit? x).isSome) → ds.length < k →
      sizeOfToken (ds ++ [c]) k acc = some ((sizeOfToken ds k acc).getD 0 * 16 + d) := by
  intro ds
  induction ds with
  | nil =>
    intro k acc _ hlen
    obtain ⟨k, rfl⟩ := Nat.exists_eq_succ_of_ne_zero (Nat.ne_of_gt hlen)
    simp only [List.nil_append, sizeOfToken, hd]
  | cons x xs ih =>
    intro k acc hall hlen
    obtain ⟨hx, hxs⟩ := List.forall_mem_cons.mp hall
    obtain ⟨e, he⟩ := Option.isSome_iff_exists.mp hx
    obtain ⟨k, rfl⟩ := Nat.exists_eq_succ_of_ne_zero (Nat.ne_of_gt (Nat.zero_lt_of_lt hlen))
    simp only [List.cons_append, sizeOfToken, he]
    exact ih k _ hxs (Nat.lt_of_succ_lt_succ hlen)

theorem sizeOfToken_hexOfNat (n k : Nat) (hlen : (hexOfNat n).length ≤ k) :
    sizeOfToken (hexOfNat n) k none = some n := by
  fun_induction hexOfNat n generalizing k
  next n h =>
    obtain ⟨k, rfl⟩ := Nat.exists_eq_succ_of_ne_zero (Nat.ne_of_gt hlen)
    rw [sizeOfToken, hexDigit?_hexNib h]
    exact congrArg some (Nat.zero_add n)
  next n h ih =>
    rw [List.length_append] at hlen
    rw [sizeOfToken_snoc (hexDigit?_hexNib (Nat.mod_lt n (by decide))) _ k none
      (fun x hx => (hexOfNat_all _ x hx).1) hlen, ih k (Nat.le_of_lt hlen)]
    exact congrArg some (by rw [Option.getD_some]; omega)

theorem parseHeader_canonical {n : Nat} (hn : n < 2 ^ 32) {s : Bytes} (hs : s.length = 64) :
    parseHeader (hexOfNat n ++ tag ++ s ++ crlf) = some (n, s) := by
  have hline : hexOfNat n ++ tag ++ s ++ crlf = hexOfNat n ++ 59 :: (tag.drop 1 ++ (s ++ crlf)) := by
    rw [List.append_assoc, List.append_assoc]
    rfl
  have htok : (hexOfNat n ++ tag ++ s ++ crlf).takeWhile (· != 59) = hexOfNat n := by
    rw [hline, List.takeWhile_append_of_pos fun x hx => bne_iff_ne.mpr (hexOfNat_all n x hx).2.1]
    exact List.append_nil _
  have hafter : (hexOfNat n ++ tag ++ s ++ crlf).drop (hexOfNat n).length = tag ++ (s ++ crlf) := by
    rw [List.append_assoc, List.append_assoc, List.drop_left]
  have h1 : (tag ++ (s ++ crlf)).length = 17 + 64 + 2 := by
    rw [List.length_append, List.length_append, hs]
    rfl
  have h2 : (tag ++ (s ++ crlf)).take 17 = tag := List.take_left' rfl
  have h3 : (tag ++ (s ++ crlf)).drop 81 = crlf := by
    rw [← List.append_assoc]
    exact List.drop_left' (by rw [List.length_append, hs]; rfl)
  have h4 : ((tag ++ (s ++ crlf)).drop 17).take 64 = s := by
    rw [List.drop_left' (show tag.length = 17 from rfl), List.take_left' hs]
  simp only [parseHeader, htok, hafter]
  -- `2 ^ 32 = 16 ^ 8`: at most eight digits, all of them significant to the reader
  rw [if_pos ⟨h1, h2, h3⟩, sizeOfToken_hexOfNat n 8 (hexOfNat_length_le 7 n hn), h4]
  rfl

theorem wf_canonical {n : Nat} {s data : Bytes} (hn : n < 2 ^ 32) (hs : s.length = 64)
    (hnl : (10 : UInt8) ∉ s) (hd : data.length = n) :
    (Chunk.mk (hexOfNat n ++ tag ++ s ++ crlf) s data).WF := by
  refine ⟨⟨hexOfNat n ++ tag ++ s ++ [13], ?_, ?_⟩, ?_⟩
  · rw [List.append_assoc (hexOfNat n ++ tag ++ s)]
    rfl
  · simp only [List.mem_append, not_or, List.mem_singleton]
    refine ⟨⟨⟨?_, by decide⟩, hnl⟩, by decide⟩
    intro h
    exact (hexOfNat_all _ _ h).2.2 rfl
  · rw [hd]
    exact parseHeader_canonical hn hs

theorem encodeChunk_wf (sig : Bytes → Bytes → Bytes) (prev data : Bytes) (hlen : data.length < 2 ^ 32)
    (hs : (sig prev data).length = 64) (hnl : (10 : UInt8) ∉ sig prev data) :
    (encodeChunk sig prev data).WF :=
  wf_canonical hlen hs hnl rfl

theorem encodeChunks_verified (sig : Bytes → Bytes → Bytes)
    (hsig : ∀ p d, (sig p d).length = 64 ∧ (10 : UInt8) ∉ sig p d) :
    ∀ (pieces : List Bytes) (prev : Bytes), (∀ d ∈ pieces, d ≠ [] ∧ d.length < 2 ^ 32) →
      (∀ c ∈ encodeChunks sig prev pieces, c.WF ∧ c.data ≠ []) ∧
      Verified sig prev (encodeChunks sig prev pieces) ∧
      dataOf (encodeChunks sig prev pieces) = pieces.flatten := by
  intro pieces
  induction pieces with
  | nil => intro prev _; simp [encodeChunks, Verified, dataOf]
  | cons d ds ih =>
    intro prev h
    obtain ⟨hd, hds⟩ := List.forall_mem_cons.mp h
    obtain ⟨i1, i2, i3⟩ := ih (encodeChunk sig prev d).sgn hds
    have hwf := encodeChunk_wf sig prev d hd.2 (hsig prev d).1 (hsig prev d).2
    refine ⟨List.forall_mem_cons.mpr ⟨⟨hwf, hd.1⟩, i1⟩, ⟨rfl, i2⟩, ?_⟩
    rw [encodeChunks, dataOf_cons, i3]
    rfl

end S3V.ChunkedSpec
