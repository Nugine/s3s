import S3V.Spec.Store
import S3V.Thm.FsStoreOrder
/-!
# C18: the store's listing alone — its normal form (`listing_eq`: the keys under the prefix past the marker, in byte order,
each mapped to its entry, consecutive equal common prefixes counted once, cut at the limit), and what it lists without a
delimiter (exact members, strictly ascending)
-/
namespace S3V.FsStore
open S3V.StoreSpec

theorem dedupCps_key (k : Bytes) (sz : Nat) (E : List Entry) :
    dedupCps (.key k sz :: E) = .key k sz :: dedupCps E := by
  cases E with
  | nil => rfl
  | cons f t => simp [dedupCps, Entry.isCp]

theorem dedupCps_cp (g : Bytes) (f : Entry) (E : List Entry) :
    dedupCps (.cp g :: f :: E) = if f = .cp g then dedupCps (f :: E) else .cp g :: dedupCps (f :: E) := by
  simp [dedupCps, Entry.isCp, eq_comm]

theorem dedupCps_keys (l : List (Bytes × Nat)) :
    dedupCps (l.map fun e => Entry.key e.1 e.2) = l.map fun e => Entry.key e.1 e.2 := by
  induction l with
  | nil => rfl
  | cons x t ih => rw [List.map_cons, dedupCps_key, ih]

/-- the number of entries a listing shows at most: `max-keys`, 1000 (the S3 default) when absent, 0 for a negative one -/
def listLimit : Option Int → Nat
  | none => 1000
  | some n => n.toNat

def entryKey? : Entry → Option (Bytes × Nat)
  | .key k sz => some (k, sz)
  | .cp _ => none

def entryCp? : Entry → Option Bytes
  | .cp q => some q
  | .key _ _ => none

/-- the answer made of the entries of a listing: the first `limit` of them, keys and common prefixes apart -/
def answerOf (entries : List Entry) (limit : Nat) : Resp :=
  .listed ((entries.take limit).filterMap entryKey?) (entries.take limit).length (decide (entries.length > limit))
    ((entries.take limit).filterMap entryCp?)

theorem answerOf_keys (L : List (Bytes × Nat)) {lim : Nat} (hL : L.length ≤ lim) :
    answerOf (L.map fun e => Entry.key e.1 e.2) lim = .listed L L.length false [] := by
  have hk : (L.map fun e => Entry.key e.1 e.2).filterMap entryKey? = L := by
    rw [List.filterMap_map]; exact List.filterMap_some
  have hc : (L.map fun e => Entry.key e.1 e.2).filterMap entryCp? = [] := by
    rw [List.filterMap_map]; exact List.filterMap_eq_nil_iff.mpr fun _ _ => rfl
  rw [answerOf, List.take_of_length_le (by simpa using hL), hk, hc]
  simp [Nat.not_lt.mpr hL]

/-- the keys of a bucket under a prefix with their sizes, in byte order: what the store lists before the marker is applied -/
def specUnder (objs : List (Bytes × Obj)) (pfx : Option Bytes) : List (Bytes × Nat) :=
  sortByKey ((objs.filter fun e => (pfx.getD []).isPrefixOf e.1).map fun e => (e.1, e.2.content.length))

/-- the keys under the prefix that come after the marker, in byte order, with their sizes: what the listing maps to entries -/
def specAfter (objs : List (Bytes × Obj)) (pfx after : Option Bytes) : List (Bytes × Nat) :=
  match after with
  | none => specUnder objs pfx
  | some m => (specUnder objs pfx).filter fun e => bytesLt m e.1

theorem listing_eq (objs : List (Bytes × Obj)) (pfx delim after : Option Bytes) (maxKeys : Option Int) :
    listing objs pfx delim after maxKeys =
      answerOf (dedupCps ((specAfter objs pfx after).map fun e => entryOf (pfx.getD []) delim e.1 e.2)) (listLimit maxKeys) := by
  cases after <;> cases maxKeys <;> rfl

theorem specAfter_sublist (objs : List (Bytes × Obj)) (pfx after : Option Bytes) :
    (specAfter objs pfx after).Sublist (specUnder objs pfx) := by
  cases after with
  | none => exact .refl _
  | some m => exact List.filter_sublist

theorem specAfter_prefix (objs : List (Bytes × Obj)) (pfx after : Option Bytes) :
    ∀ e ∈ specAfter objs pfx after, (pfx.getD []).isPrefixOf e.1 = true := by
  intro e he
  have he := (specAfter_sublist objs pfx after).subset he
  rw [specUnder, sortByKey_mem, List.mem_map] at he
  obtain ⟨f, hf, rfl⟩ := he
  exact (List.mem_filter.mp hf).2

theorem specAfter_length_le (objs : List (Bytes × Obj)) (pfx after : Option Bytes) :
    (specAfter objs pfx after).length ≤ objs.length := by
  refine Nat.le_trans (specAfter_sublist objs pfx after).length_le ?_
  simp only [specUnder, sortByKey_length, List.length_map]
  exact List.length_filter_le _ _

theorem listing_plain (objs : List (Bytes × Obj)) (pfx after : Option Bytes) (maxKeys : Option Int)
    (hlim : objs.length ≤ listLimit maxKeys) :
    listing objs pfx none after maxKeys =
      .listed (specAfter objs pfx after) (specAfter objs pfx after).length false [] := by
  have hfun : (fun e : Bytes × Nat => entryOf (pfx.getD []) none e.1 e.2) = fun e => Entry.key e.1 e.2 := by
    funext e; rfl
  -- no delimiter: every entry is a key; below the limit: nothing is cut
  rw [listing_eq, hfun, dedupCps_keys]
  exact answerOf_keys _ (Nat.le_trans (specAfter_length_le objs pfx after) hlim)

theorem mem_specAfter {objs : List (Bytes × Obj)} (hnd : keysNodup objs) (pfx after : Option Bytes) (k : Bytes) (n : Nat) :
    (k, n) ∈ specAfter objs pfx after ↔
      (∃ o, alLookup k objs = some o ∧ n = o.content.length) ∧ (pfx.getD []).isPrefixOf k = true ∧
        (∀ m, after = some m → bytesLt m k = true) := by
  have hunder : (k, n) ∈ specUnder objs pfx ↔
      (∃ o, alLookup k objs = some o ∧ n = o.content.length) ∧ (pfx.getD []).isPrefixOf k = true := by
    rw [specUnder, sortByKey_mem, List.mem_map]
    constructor
    · rintro ⟨⟨k', o⟩, he, heq⟩
      obtain ⟨he1, he2⟩ := List.mem_filter.mp he
      obtain ⟨rfl, rfl⟩ := Prod.mk.inj heq
      exact ⟨⟨o, alLookup_of_mem_nodup hnd he1, rfl⟩, he2⟩
    · rintro ⟨⟨o, ho, rfl⟩, hp⟩
      exact ⟨(k, o), List.mem_filter.mpr ⟨alLookup_mem ho, hp⟩, rfl⟩
  cases after with
  | none => simp [specAfter, hunder]
  | some m => simp [specAfter, List.mem_filter, hunder, and_assoc]

theorem specAfter_strict {objs : List (Bytes × Obj)} (hnd : keysNodup objs) (pfx after : Option Bytes) :
    (specAfter objs pfx after).Pairwise fun x y => bytesLt x.1 y.1 = true := by
  have hnd' : ((specUnder objs pfx).map (·.1)).Nodup := by
    rw [specUnder, ((sortByKey_perm _).map _).nodup_iff, List.map_map]
    exact (List.filter_sublist.map _).nodup hnd
  exact ((pairwise_and_ne (·.1) (sortByKey_sorted _) hnd').imp fun h =>
    bytesLt_iff_lt.mpr (List.not_le.mp fun hyx => h.2 (List.le_antisymm h.1 hyx))).sublist (specAfter_sublist objs pfx after)

end S3V.FsStore
