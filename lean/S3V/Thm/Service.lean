import S3V.Spec.Service
/-!
# The ways a run of `Service.serviceCall` can end

`Run cfg cred` lists the outcomes of steps 2–5 (`afterSig`) for a request whose signature check gave `cred`, each with
what it says about the configuration. `afterSig_run` follows the control flow of `afterSig` once; the trace predicates
of `Spec/Service.lean` are then evaluated on the nine shapes.
-/
namespace S3V.ServiceThm
open S3V.Gen S3V.Service S3V.ServiceSpec

variable {I : Type}

inductive Run (cfg : Cfg) (cred : Option I) : Outcome I → Prop
  /-- nothing ran: rejected signature, default route check or default access check without identity,
      `unknown_operation` -/
  | refused : Run cfg cred ⟨[], false⟩
  | routeApproved : cfg.route = .matchAllow → Run cfg cred ⟨[.routeCheck cred true, .routeCall cred], true⟩
  /-- the trait's default `check_access` lets an identity through without an event -/
  | routeDefault : cred.isSome = true → Run cfg cred ⟨[.routeCall cred], true⟩
  | accessDenied (op : Op) : Run cfg cred ⟨[.accessCheck op cred false], false⟩
  | typedDenied (op : Op) : cfg.auth = true →
      Run cfg cred ⟨[.accessCheck op cred true, .typedHook op cred false], false⟩
  | typedDeniedNoProvider (op : Op) : cfg.auth = false → Run cfg cred ⟨[.typedHook op cred false], false⟩
  /-- no hook object: the default check let the request through (no provider, or an identity) -/
  | backendDefault (op : Op) : cfg.access = .none → (cfg.auth = true → cred.isSome = true) →
      Run cfg cred ⟨[.backend op cred], true⟩
  | backendHooks (op : Op) : cfg.auth = true → cfg.access ≠ .none →
      Run cfg cred ⟨[.accessCheck op cred true, .typedHook op cred true, .backend op cred], true⟩
  | backendNoProvider (op : Op) : cfg.auth = false → cfg.access ≠ .none →
      Run cfg cred ⟨[.typedHook op cred true, .backend op cred], true⟩

theorem afterSig_run (cfg : Cfg) (cred : Option I) (rm : Bool) (op : Option Op) :
    Run cfg cred (afterSig cfg cred rm op) := by
  obtain ⟨auth, access, route, denied⟩ := cfg
  simp only [afterSig]
  split
  · split
    · rename_i h
      exact .routeApproved (eq_of_beq h)
    · cases cred with
      | none => exact .refused
      | some ak => exact .routeDefault rfl
  · cases op with
    | none => exact .refused
    | some op =>
      dsimp only
      -- with `auth` and `access` constructors, each branch of steps 4 and 5 reduces to its shape
      cases auth with
      | false =>
        cases access with
        | none => exact .backendDefault op rfl (fun h => nomatch h)
        | denyTyped => exact .typedDeniedNoProvider op rfl
        | allow | deny | denyOp => exact .backendNoProvider op rfl (fun h => nomatch h)
      | true =>
        cases access with
        | none =>
          cases cred with
          | none => exact .refused
          | some ak => exact .backendDefault op rfl (fun _ => rfl)
        | allow => exact .backendHooks op rfl (fun h => nomatch h)
        | deny => exact .accessDenied op
        | denyOp =>
          cases denied op with
          | false => exact .backendHooks op rfl (fun h => nomatch h)
          | true => exact .accessDenied op
        | denyTyped => exact .typedDenied op rfl

/-! `serviceCall` by what the request presents: `require_auth` refuses a signature without a provider and an invalid one -/

theorem serviceCall_nothing (cfg : Cfg) (rm : Bool) (op : Option Op) :
    serviceCall cfg (.nothing : Presented I) rm op = afterSig cfg none rm op := rfl

theorem serviceCall_invalid (cfg : Cfg) (rm : Bool) (op : Option Op) :
    serviceCall cfg (.invalid : Presented I) rm op = refuse [] := rfl

theorem serviceCall_valid (cfg : Cfg) (ak : I) (rm : Bool) (op : Option Op) :
    serviceCall cfg (.valid ak) rm op = if cfg.auth then afterSig cfg (some ak) rm op else refuse [] := by
  unfold serviceCall sigOutcome
  cases cfg.auth <;> rfl

/-- the whole call: a signature that `require_auth` rejects is `refused`; otherwise steps 2–5 run with the identity
    `entitled` names -/
theorem serviceCall_run (cfg : Cfg) (p : Presented I) (rm : Bool) (op : Option Op) :
    Run cfg (entitled cfg.auth p) (serviceCall cfg p rm op) := by
  cases p with
  | nothing => exact afterSig_run cfg none rm op
  | invalid => exact .refused
  | valid ak =>
    rw [serviceCall_valid, entitled]
    cases cfg.auth with
    | false => exact .refused
    | true => exact afterSig_run cfg (some ak) rm op

variable {cfg : Cfg} {cred : Option I} {o : Outcome I}

theorem Run.cred_eq (h : Run cfg cred o) : ∀ e ∈ o.events, Event.cred e = cred := by
  cases h <;> simp [Event.cred]

theorem Run.denialStops (h : Run cfg cred o) : denialStops o.events o.ok = true := by
  cases h <;> rfl

theorem Run.atMostOneHandler (h : Run cfg cred o) : atMostOneHandler o.events = true := by
  cases h <;> rfl

theorem Run.handler_of_ok (h : Run cfg cred o) (hok : o.ok = true) :
    ∃ e ∈ o.events, Event.isBackend e = true ∨ Event.isRouteCall e = true := by
  -- as a Boolean the statement evaluates on every shape, like the two above
  have hb : (!o.ok || o.events.any fun e => Event.isBackend e || Event.isRouteCall e) = true := by cases h <;> rfl
  simpa [hok] using hb

/-- without an identity a backend method runs only when no provider is configured or a hook object approved, a route
    handler only when the route's own `check_access` approved -/
theorem Run.anonymous (h : Run cfg (none : Option I) o) :
    ∀ e ∈ o.events, (Event.isBackend e = true → cfg.auth = false ∨ cfg.access ≠ .none) ∧
      (Event.isRouteCall e = true → cfg.route = .matchAllow) := by
  -- which shapes have a backend call, which a route call, and what each says of the configuration
  have hB : o.events.any Event.isBackend = true → cfg.auth = false ∨ cfg.access ≠ .none := by
    cases h with
    | backendDefault op _ hcred => exact fun _ => .inl (Bool.eq_false_iff.mpr fun ha => nomatch hcred ha)
    | backendHooks op _ hacc => exact fun _ => .inr hacc
    | backendNoProvider op ha => exact fun _ => .inl ha
    | _ => exact fun (h : false = true) => nomatch h
  have hR : o.events.any Event.isRouteCall = true → cfg.route = .matchAllow := by
    cases h with
    | routeApproved hr => exact fun _ => hr
    | routeDefault hcred => cases hcred
    | _ => exact fun (h : false = true) => nomatch h
  exact fun e he => ⟨fun hb => hB (List.any_eq_true.mpr ⟨e, he, hb⟩), fun hr => hR (List.any_eq_true.mpr ⟨e, he, hr⟩)⟩

variable [DecidableEq I]

theorem Run.backendGated (h : Run cfg cred o) (hauth : cfg.auth = true) :
    backendGated (cfg.access != .none) o.events = true := by
  cases h with
  | backendDefault op hacc hcred => simp [ServiceSpec.backendGated, hacc, hcred hauth]
  | backendHooks op _ hacc => simp [ServiceSpec.backendGated, hacc]
  | typedDeniedNoProvider op h => rw [hauth] at h; cases h
  | backendNoProvider op h => rw [hauth] at h; cases h
  | _ => rfl

/-- holds with or without a provider -/
theorem Run.routeGated (h : Run cfg cred o) : routeGated o.events = true := by
  cases h with
  | routeApproved => simp [ServiceSpec.routeGated]
  | routeDefault hcred => simp [ServiceSpec.routeGated, hcred]
  | _ => rfl

end S3V.ServiceThm
