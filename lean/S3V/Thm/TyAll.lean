import S3V.Gen.XmlNames
/-!
# `Ty.all` lists the XML types in the order of their declaration

The enumeration `Ty` of `Gen/XmlNames.lean` against its list `Ty.all`, as `Thm/OpAll.lean` has it for `Op`: the list
is `Ty.ofNat` over a range and every constructor index lies in that range, both by evaluation. So every type is in the
list, and a Boolean check evaluated along `Ty.all` (the `…_all` theorems of `Props/C13.lean`) holds of every type.
-/
namespace S3V.XmlGen

theorem Ty.all_eq_map_ofNat : Ty.all = (List.range Ty.all.length).map Ty.ofNat := by decide +kernel

theorem Ty.ctorIdx_lt (t : Ty) : t.ctorIdx < Ty.all.length := by cases t <;> decide +kernel

theorem Ty.mem_all (t : Ty) : t ∈ Ty.all := by
  rw [Ty.all_eq_map_ofNat, ← Ty.ofNat_ctorIdx t]
  exact List.mem_map_of_mem (List.mem_range.mpr t.ctorIdx_lt)

theorem Ty.forall_of_all {p : Ty → Bool} (h : Ty.all.all p = true) (t : Ty) : p t = true :=
  List.all_eq_true.mp h t t.mem_all

end S3V.XmlGen
