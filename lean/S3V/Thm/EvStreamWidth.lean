import S3V.Model.EvStream
/-!
# Lemmas for C15: a closed form of `Message::serialize`, for every pointer width

The definitions the C15 statements share stand here (`hdrSize`, `fits`, `encHeader`, `encHeaders`, `sizesOk`,
`frameOf`: the sizes and the bytes of a frame) with the encoder's closed form; independence of the pointer
width is its corollary `serializeW_ok_iff`.

`serializeW limit` is the model of `serialize` for `usize::MAX + 1 = limit`; `serialize` is the instance
`limit = usizeLimit` (`serializeW_usizeLimit`). `usize` enters only through `checked_add`, and a chain of
`checked_add`s is one `checked_add` of the sum (`checkedAddW_bind`). So `serializeW_eq`: exactly when it fails,
with which error, and the bytes it produces otherwise (`frameOf`). Since a frame is produced only below `2^32`,
the frames are the same on every target of at least 32 bits (`serializeW_ok_iff`) — only the error kind of a
message of `limit` bytes or more differs (`LengthOverflow` instead of `IntOverflow`).
-/
namespace S3V.EvStreamThm
open S3V S3V.EvStream

/-- bytes of the headers block: per header one for the name length, one for the value type, two for the value length, then
    name and value -/
def hdrSize : List Header → Nat
  | [] => 0
  | h :: hs => 4 + h.name.length + h.value.length + hdrSize hs

/-- the name length fits the `u8`, the value length the `u16` it is written in -/
def fits (h : Header) : Bool := decide (h.name.length < 256) && decide (h.value.length < 65536)

/-- the `Ok` arm of `putHeader`, verbatim (`putHeader_eq`): name length, name, type 7 (string), value length, value -/
def encHeader (h : Header) : Bytes :=
  UInt8.ofNat h.name.length :: (h.name ++ 7 :: (be16 h.value.length ++ h.value))

def encHeaders : List Header → Bytes
  | [] => []
  | h :: hs => encHeader h ++ encHeaders hs

/-- every header fits its length fields and the whole frame its 32-bit total length -/
def sizesOk (m : Message) : Bool :=
  m.headers.all fits && decide (16 + hdrSize m.headers + (payloadBytes m).length < 4294967296)

/-- prelude (total length, headers length) ‖ prelude CRC ‖ headers ‖ payload ‖ message CRC -/
def frameOf (crc32 : Bytes → Nat) (m : Message) : Bytes :=
  let pre := be32 (16 + hdrSize m.headers + (payloadBytes m).length) ++ be32 (hdrSize m.headers)
  let buf := pre ++ be32 (crc32 pre) ++ (encHeaders m.headers ++ payloadBytes m)
  buf ++ be32 (crc32 buf)

theorem fits_iff (h : Header) : fits h = true ↔ h.name.length < 256 ∧ h.value.length < 65536 := by
  simp [fits]

theorem sizesOk_iff (m : Message) :
    sizesOk m = true ↔ (∀ h ∈ m.headers, h.name.length < 256 ∧ h.value.length < 65536)
      ∧ 16 + hdrSize m.headers + (payloadBytes m).length < 4294967296 := by
  simp [sizesOk, List.all_eq_true, fits_iff]

theorem checkedAddW_bind (L a b c : Nat) :
    ((checkedAddW L a b).bind fun x => checkedAddW L x c) = checkedAddW L a (b + c) := by
  unfold checkedAddW
  by_cases h : a + b < L
  · rw [if_pos h, Option.bind_some, Nat.add_assoc]
  · rw [if_neg h, if_neg (by omega), Option.bind_none]

theorem headersLenFromW_bind (L : Nat) (hs : List Header) : ∀ a b,
    ((checkedAddW L a b).bind fun x => headersLenFromW L x hs) = checkedAddW L a (b + hdrSize hs) := by
  induction hs with
  | nil =>
    intro a b
    simp only [headersLenFromW, hdrSize, Nat.add_zero, Option.bind_fun_some]
  | cons h hs ih =>
    intro a b
    simp only [headersLenFromW, headerLenStepW, checkedAddW_bind, ih, hdrSize, Nat.add_assoc]

theorem headersLenFromW_zero {L : Nat} (hL : 0 < L) (hs : List Header) :
    headersLenFromW L 0 hs = checkedAddW L 0 (hdrSize hs) := by
  have := headersLenFromW_bind L hs 0 0
  rwa [checkedAddW, if_pos hL, Option.bind_some, Nat.zero_add (hdrSize hs)] at this

theorem putHeader_eq (h : Header) :
    putHeader h = if fits h then .ok (encHeader h) else .error .intOverflow := by
  unfold putHeader fits encHeader
  by_cases h1 : 256 ≤ h.name.length
  · simp [h1, Nat.not_lt.mpr h1]
  · by_cases h2 : 65536 ≤ h.value.length
    · simp [h1, h2, Nat.not_lt.mpr h2]
    · simp [h1, h2, Nat.lt_of_not_le h1, Nat.lt_of_not_le h2]

theorem putHeaders_eq (hs : List Header) :
    putHeaders hs = if hs.all fits then .ok (encHeaders hs) else .error .intOverflow := by
  induction hs with
  | nil => simp [putHeaders, encHeaders]
  | cons h hs ih =>
    simp only [putHeaders, putHeader_eq, ih, List.all_cons, encHeaders]
    by_cases hf : fits h = true
    · by_cases ha : hs.all fits = true
      · simp [hf, ha]
      · simp [hf, ha]
    · simp [hf]

/-- closed form of `serialize` on a target with `usize::MAX + 1 = L` -/
theorem serializeW_eq (L : Nat) (hL : 0 < L) (crc32 : Bytes → Nat) (m : Message) :
    serializeW L crc32 m =
      if L ≤ 16 + hdrSize m.headers + (payloadBytes m).length then .error .lengthOverflow
      else if sizesOk m then .ok (frameOf crc32 m) else .error .intOverflow := by
  unfold serializeW
  simp only [headersLenFromW_zero hL, checkedAddW_bind, putHeaders_eq, sizesOk, frameOf]
  unfold checkedAddW
  rw [Nat.zero_add, Nat.zero_add,
    show hdrSize m.headers + 16 + (payloadBytes m).length = 16 + hdrSize m.headers + (payloadBytes m).length by omega]
  by_cases h0 : L ≤ 16 + hdrSize m.headers + (payloadBytes m).length
  · rw [if_pos h0, if_neg (by omega)]
  · rw [if_neg h0, if_pos (by omega), if_pos (by omega)]
    by_cases h4 : 16 + hdrSize m.headers + (payloadBytes m).length < 4294967296
    · by_cases ha : m.headers.all fits = true
      · simp [h4, ha, show ¬ 4294967296 ≤ 16 + hdrSize m.headers + (payloadBytes m).length by omega,
          show ¬ 4294967296 ≤ hdrSize m.headers by omega]
      · simp [ha, show ¬ 4294967296 ≤ 16 + hdrSize m.headers + (payloadBytes m).length by omega,
          show ¬ 4294967296 ≤ hdrSize m.headers by omega]
    · simp [h4, show 4294967296 ≤ 16 + hdrSize m.headers + (payloadBytes m).length by omega]

theorem serializeW_usizeLimit (crc32 : Bytes → Nat) (m : Message) :
    serializeW usizeLimit crc32 m = serialize crc32 m := by
  have h : ∀ (hs : List Header) (acc : Nat), headersLenFromW usizeLimit acc hs = headersLenFrom acc hs := by
    intro hs
    induction hs with
    | nil => intro acc; rfl
    | cons h hs ih =>
      intro acc
      simp only [headersLenFromW, headersLenFrom, ih]
      rfl
  unfold serializeW serialize headersLen
  rw [h]
  rfl

theorem serializeW_ok_iff (L : Nat) (hL : 4294967296 ≤ L) (crc32 : Bytes → Nat) (m : Message) (b : Bytes) :
    serializeW L crc32 m = .ok b ↔ sizesOk m = true ∧ b = frameOf crc32 m := by
  rw [serializeW_eq L (by omega)]
  by_cases h0 : L ≤ 16 + hdrSize m.headers + (payloadBytes m).length
  · have : sizesOk m = false := by
      have h : ¬ 16 + hdrSize m.headers + (payloadBytes m).length < 4294967296 := by omega
      simp [sizesOk, h]
    simp [h0, this]
  · by_cases h1 : sizesOk m = true
    · simp [h0, h1, eq_comm]
    · simp [h0, h1]

theorem serialize_ok_iff (crc32 : Bytes → Nat) (m : Message) (b : Bytes) :
    serialize crc32 m = .ok b ↔ sizesOk m = true ∧ b = frameOf crc32 m := by
  rw [← serializeW_usizeLimit]
  exact serializeW_ok_iff usizeLimit (by decide) crc32 m b

end S3V.EvStreamThm
