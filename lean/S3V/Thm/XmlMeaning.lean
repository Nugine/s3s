import S3V.Spec.XmlMeaning
import S3V.Thm.XmlRoundtrip
import S3V.Thm.XmlUtf8Unescape
import S3V.Thm.XmlEol
import S3V.Thm.XmlComment
/-!
An accepted scalar element is given its XML meaning: whatever mix of text pieces with references, CDATA sections,
comments and PIs its character data is written as, and however its line ends are written (LF, CR LF, CR), the text
`Deserializer::text` hands to the scalar parser unescapes to the string the run denotes (code since c575458; line
ends since d365e05).
-/
namespace S3V.XmlSpec
open S3V S3V.Xml

/-! ### the equations of `deEventsAt` that the loop below rewrites with -/

theorem deEventsAt_text_succ (d : Nat) (raw : Bytes) (t : List QEv) (h : hasCdataEnd raw = false) :
    deEventsAt (d + 1) (.text raw :: t) = .text raw :: deEventsAt (d + 1) t := by simp [deEventsAt, h]

theorem deEventsAt_cdata_succ (d : Nat) (c : Bytes) (t : List QEv) :
    deEventsAt (d + 1) (.cdata c :: t) = .cdata c :: deEventsAt (d + 1) t := by simp [deEventsAt]

theorem deEventsAt_stop_succ (d : Nat) (n : Bytes) (t : List QEv) :
    deEventsAt (d + 1) (.stop n :: t) = .stop n :: deEventsAt d t := by simp [deEventsAt]

theorem deEventsAt_comment (d : Nat) (t : List QEv) : deEventsAt d (.comment :: t) = deEventsAt d t := by
  simp [deEventsAt]

theorem deEventsAt_pi (d : Nat) (c : Bytes) (t : List QEv) (h : piTargetOk c = true) :
    deEventsAt d (.pi c :: t) = deEventsAt d t := by simp [deEventsAt, h]

/-- induction along a run that has a meaning: the end of the run, a text piece, a CDATA section, or a token
`read_event` skips (a comment, a PI with a legal target) -/
theorem charsMeaning_induct {P : List QEv → Bytes → Prop} (nil : P [] [])
    (text : ∀ raw r a b, hasCdataEnd raw = false → utf8Valid raw = true → unescape (normEol raw) = some a →
      P r b → P (.text raw :: r) (a ++ b))
    (cdata : ∀ c r b, utf8Valid c = true → P r b → P (.cdata c :: r) (normEol c ++ b))
    (skip : ∀ t r m, (∀ d q, deEventsAt d (t :: q) = deEventsAt d q) → P r m → P (t :: r) m)
    (run : List QEv) (m : Bytes) (h : charsMeaning run = some m) : P run m := by
  revert m
  fun_induction charsMeaning run <;> intro m h
  all_goals try cases h
  next => exact nil
  next hce hv _ _ hb ha ih => exact text _ _ _ _ (by rw [hasCdataEnd_eq]; simpa using hce) hv ha (ih _ hb)
  next hv ih =>
    obtain ⟨b, hb, rfl⟩ := Option.map_eq_some_iff.mp h
    exact cdata _ _ b hv (ih _ hb)
  next ih => exact skip _ _ m deEventsAt_comment (ih _ h)
  next hpi ih => exact skip _ _ m (fun d q => deEventsAt_pi d _ q hpi) (ih _ h)

/-! ### the loop of `Deserializer::text` along a run -/

/-- what the two buffers of `Deserializer::text` stand for: the string `acc` read so far — nothing yet; one text piece
`x`, kept as it was written; or the joined buffer -/
inductive Held : Option Bytes → Option Bytes → Bytes → Prop
  | none : Held none none []
  | single {x ax : Bytes} : utf8Valid x = true → unescape x = some ax → Held (some x) none ax
  | joined {s : Bytes} : utf8Valid s = true → Held none (some s) s

theorem Held.valid {single joined : Option Bytes} {acc : Bytes} (h : Held single joined acc) : utf8Valid acc = true := by
  cases h with
  | none => rfl
  | single hx hu => exact utf8Valid_unescape hx hu
  | joined hs => exact hs

theorem Held.joinedText {single joined : Option Bytes} {acc : Bytes} (h : Held single joined acc) :
    joinedText single joined = .ok acc := by
  cases h with
  | none => rfl
  | single hx hu => simp [Xml.joinedText, decodeStr_of_unescape hx hu]
  | joined hs => rfl

/-- **the loop of `Deserializer::text`, from any state**: it takes the whole run up to the end tag and hands out a
text that unescapes to what was held followed by the meaning of the run -/
theorem textLoop_meaning (name : Bytes) (rest : List QEv) (d : Nat) (run : List QEv) (m : Bytes)
    (hm : charsMeaning run = some m) : ∀ (single joined : Option Bytes) (acc : Bytes), Held single joined acc →
    ∃ raw, textLoop single joined (deEventsAt (d + 1) (run ++ .stop name :: rest))
        = .ok (raw, .stop name :: deEventsAt d rest) ∧ decodeStr raw = .ok (acc ++ m) := by
  apply charsMeaning_induct (run := run) (m := m) (h := hm)
  · -- the end tag: the piece as it was written, or the joined buffer escaped again
    intro single joined acc h
    rw [List.nil_append, deEventsAt_stop_succ, List.append_nil]
    cases h with
    | none => exact ⟨[], rfl, rfl⟩
    | single hx hu => exact ⟨_, rfl, decodeStr_of_unescape hx hu⟩
    | joined hs => exact ⟨_, rfl, decodeStr_escape hs⟩
  · -- a text piece: the first one is held as it is, any other is joined to what is held
    intro raw r a b hce hv hu ih single joined acc h
    have hvn := utf8Valid_normEol hv
    rw [List.cons_append, deEventsAt_text_succ _ raw _ hce, ← List.append_assoc]
    cases h with
    | none =>
      obtain ⟨raw', h1, h2⟩ := ih _ _ _ (Held.single hvn hu)
      exact ⟨raw', by simpa [textLoop, normText_eq_normEol hv] using h1, h2⟩
    | single hx hux =>
      obtain ⟨raw', h1, h2⟩ := ih _ _ _ (Held.joined (utf8Valid_append (utf8Valid_unescape hx hux) (utf8Valid_unescape hvn hu)))
      exact ⟨raw', by simpa [textLoop, Xml.joinedText, decodeStr_of_unescape hx hux, normText_eq_normEol hv, decodeStr_of_unescape hvn hu] using h1, h2⟩
    | joined hs =>
      obtain ⟨raw', h1, h2⟩ := ih _ _ _ (Held.joined (utf8Valid_append hs (utf8Valid_unescape hvn hu)))
      exact ⟨raw', by simpa [textLoop, Xml.joinedText, normText_eq_normEol hv, decodeStr_of_unescape hvn hu] using h1, h2⟩
  · -- a CDATA section: joined to what is held
    intro c r b hv ih single joined acc h
    obtain ⟨raw', h1, h2⟩ := ih _ _ _ (Held.joined (utf8Valid_append h.valid (utf8Valid_normEol hv)))
    rw [List.cons_append, deEventsAt_cdata_succ, ← List.append_assoc]
    exact ⟨raw', by simpa [textLoop, h.joinedText, hv, normLineEnds_eq_normEol] using h1, h2⟩
  · intro t r m hskip ih single joined acc h
    rw [List.cons_append, hskip]
    exact ih _ _ _ h

theorem textOf_meaning (name : Bytes) (rest : List QEv) (d : Nat) (run : List QEv) (m : Bytes)
    (hm : charsMeaning run = some m) :
    ∃ raw, textOf (deEventsAt (d + 1) (run ++ .stop name :: rest)) = .ok (raw, .stop name :: deEventsAt d rest) ∧
      decodeStr raw = .ok m :=
  textLoop_meaning name rest d run m hm none none [] Held.none

theorem readString_meaning (X : Ext) (name a : Bytes) (rest : List QEv) (d : Nat) (run : List QEv) (m : Bytes)
    (hm : charsMeaning run = some m) :
    readStringElement X name a (deEventsAt (d + 1) (run ++ .stop name :: rest)) = .ok (.str m, deEventsAt d rest) := by
  obtain ⟨raw, h1, h2⟩ := textOf_meaning name rest d run m hm
  have hd : decode X .str a (deEventsAt (d + 1) (run ++ .stop name :: rest))
      = .ok (.str m, .stop name :: deEventsAt d rest) :=
    decode_scalar_of_text X .str rfl h1 (by simp [decodeScalarText, h2, Except.map])
  simp [readStringElement, hd, expectEnd_stop]

end S3V.XmlSpec
