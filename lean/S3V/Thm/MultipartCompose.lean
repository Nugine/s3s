import S3V.Model.MultipartObs
import S3V.Thm.MultipartFile
import S3V.Thm.MultipartSpec
import S3V.Thm.MultipartTryParse
/-!
# Lemmas: the accumulate-and-reparse loop followed by the file stream = single-frame semantics (C09d)

`run_spec` is that equation, for every list of frames (`accumulate_abs` for the loop, `fileStream_spec` for the file part).
From it `run_parsed_exact` ("stored exactly", the entry point of C10); beside it `observe_run` (without transport errors the
observation loses nothing).
-/
namespace S3V.Multipart
open S3V S3V.MultipartSpec

theorem tryParse_nil (b : Bytes) : tryParse b [] = .needMore := rfl

/-- the delimiter as `specOutcome` spells it -/
theorem crlfPat_eq (b : Bytes) : crlfPat b = 13 :: 10 :: 45 :: 45 :: b := rfl

/-- what an answer of the accumulate loop says of the stream: the form, the bytes from the start of the file part on
    (those left in the buffer and those still to come) and whether the transport fails; its two failures are one -/
def ParseOutcome.abs : ParseOutcome → Option ((List (Bytes × Bytes) × Bytes × Bytes) × Bytes × Bool)
  | .parsed f n c rest fs => some ((f, n, c), rest ++ dataBeforeError fs, hasError fs)
  | _ => none

/-- the same of an answer of `try_parse` on all the data `d` -/
def Result.abs (d : Bytes) (err : Bool) : Result → Option ((List (Bytes × Bytes) × Bytes × Bytes) × Bytes × Bool)
  | .parsed f n c start => some ((f, n, c), d.drop start, err)
  | _ => none

/-- the accumulate loop, started on a buffer that still needs data, answers what one `try_parse` of all the data
    answers: a success of `try_parse` on the way is kept to the end, a failure never becomes a success (`tryParse_ext`) -/
theorem accumulate_abs (b : Bytes) (frames : List Frame) : ∀ (buf : Bytes), tryParse b buf = .needMore →
    (accumulate b buf frames).abs =
      (tryParse b (buf ++ dataBeforeError frames)).abs (buf ++ dataBeforeError frames) (hasError frames) := by
  induction frames with
  | nil =>
    intro buf h0
    rw [dataBeforeError, List.append_nil, h0]
    rfl
  | cons fr0 fs ih =>
    intro buf h0
    cases fr0 with
    | none =>
      rw [dataBeforeError, List.append_nil, h0]
      rfl
    | some fr =>
      rw [dataBeforeError, ← List.append_assoc, accumulate]
      have hext := tryParse_ext b (buf ++ fr) (dataBeforeError fs)
      cases ht : tryParse b (buf ++ fr) with
      | needMore => exact ih (buf ++ fr) ht
      | invalid =>
        rw [ht] at hext
        cases ht' : tryParse b (buf ++ fr ++ dataBeforeError fs) with
        | parsed f n c s => exact absurd ht' (hext.1 f n c s)
        | _ => rfl
      | parsed f n c start =>
        rw [ht] at hext
        rw [hext.2]
        exact congrArg (fun d => some ((f, n, c), d, hasError fs)) (List.drop_append_of_le_length hext.1).symm

theorem accumulate_no_underlying (b : Bytes) (frames : List Frame) : ∀ (buf : Bytes),
    hasError frames = false → accumulate b buf frames ≠ .underlying := by
  induction frames with
  | nil => exact fun _ _ => nofun
  | cons fr0 fs ih =>
    intro buf h
    cases fr0 with
    | none => cases h
    | some fr =>
      rw [accumulate]
      cases tryParse b (buf ++ fr) with
      | needMore => exact ih (buf ++ fr) h
      | invalid => exact nofun
      | parsed _ _ _ _ => exact nofun

theorem observe_run_abs (b : Bytes) (frames : List Frame) :
    observe (run b frames) =
      match (accumulate b [] frames).abs with
      | none => ⟨none, [], .malformed⟩
      | some (f, d, err) => ⟨some f, (specFile (crlfPat b) d err).1, (specFile (crlfPat b) d err).2.toEnd⟩ := by
  unfold run
  cases accumulate b [] frames with
  | parsed f n c rest fs =>
    have hfs : _ = specFile _ _ _ := fileStream_spec b rest fs
    simp only [ParseOutcome.abs, observe, ← hfs]
    cases (fileStream b rest fs).2 <;> rfl
  | _ => rfl

theorem run_spec (b : Bytes) (frames : List Frame) :
    observe (run b frames) = specOutcome (oneShot b) b (dataBeforeError frames) (hasError frames) := by
  rw [observe_run_abs, accumulate_abs b frames [] (tryParse_nil b), List.nil_append, specOutcome, oneShot]
  cases tryParse b (dataBeforeError frames) <;> rfl

theorem Terminal.toEnd_injective {a c : Terminal} (h : a.toEnd = c.toEnd) : a = c := by
  cases a <;> cases c <;> simp [Terminal.toEnd] at h ⊢

theorem run_parsed_exact (b : Bytes) (frames : List Frame) (f : List (Bytes × Bytes)) (n c : Bytes) (start : Nat)
    (content : Bytes) (hp : tryParse b (dataBeforeError frames) = .parsed f n c start)
    (hc : beforeFirst (crlfPat b) ((dataBeforeError frames).drop start) = some content) :
    (run b frames).form = some (f, n, c) ∧ (run b frames).chunks.flatten = content ∧
    (run b frames).terminal = .ok := by
  have h := run_spec b frames
  simp only [specOutcome, oneShot, hp, specFile, ← crlfPat_eq b, hc] at h
  cases hf : (run b frames).form with
  | none => simp [observe, hf] at h
  | some f' =>
    simp only [observe, hf, Obs.mk.injEq, Option.some.injEq] at h
    exact ⟨by rw [h.1], h.2.1, Terminal.toEnd_injective h.2.2⟩

theorem dataBeforeError_map_some (l : List Bytes) : dataBeforeError (l.map some) = l.flatten := by
  induction l with
  | nil => rfl
  | cons a l ih => simp [dataBeforeError, ih]

theorem hasError_map_some (l : List Bytes) : hasError (l.map some) = false := by
  induction l with
  | nil => rfl
  | cons a l ih => simp [hasError, ih]

/-- without transport errors the observation loses nothing -/
theorem observe_run (b : Bytes) (frames : List Frame) (he : hasError frames = false) :
    observe (run b frames) =
      ⟨(run b frames).form, (run b frames).chunks.flatten, (run b frames).terminal.toEnd⟩ := by
  unfold run
  cases ha : accumulate b [] frames with
  | invalidFormat => rfl
  | underlying => exact absurd ha (accumulate_no_underlying b frames [] he)
  | parsed _ _ _ _ _ => rfl

theorem run_form_some_terminal (b : Bytes) (frames : List Frame) {f}
    (h : (run b frames).form = some f) : (run b frames).terminal ≠ .invalidFormat := by
  unfold run at h ⊢
  cases ha : accumulate b [] frames with
  | invalidFormat => rw [ha] at h; simp at h
  | underlying => rw [ha] at h; simp at h
  | parsed _ _ _ rest fs =>
    simp only
    cases (fileStream b rest fs).2 <;> simp [FTerm.toTerminal]

end S3V.Multipart
