import S3V.Thm.Chunked
/-!
# Lemmas: header parser equality, the refinement of the chunk loop, and the stream seen through it

`parseMeta_eq_parseHeader`: the nom parser of the model and the header grammar of the spec are the same
function. `run_refines`: the main loop of the model, seen through the stream abstraction, is the reference
decoder on the concatenated bytes, for every fuel (the same on both sides); `run_fuel`: a fuel above the number of
remaining bytes does not matter for the frames yielded (`round_shrinks`: every round leaves fewer bytes).
`remainingLength_eq`: the length bookkeeping of any output. `decodeStream_refines`, `decodeStream_stops`,
`decodeStream_structure`: what `Thm/ChunkedSpec.lean` says of the reference decoder, said of the model's stream.
-/
namespace S3V.Chunked
open S3V S3V.ChunkedSpec

/-- the digit readers of the model (`is_a` + `to_digit`) and of the spec agree -/
theorem hexDigit?_eq (c : UInt8) :
    hexDigit? c = if isHex c = true then some (hexDigitVal c) else none := by
  unfold hexDigit? isHex hexDigitVal
  generalize c.toNat = n
  by_cases h1 : 48 ≤ n ∧ n ≤ 57
  · rw [if_pos h1, if_pos h1.2, if_pos (by simp [h1])]
  · rw [if_neg h1]
    by_cases h2 : 97 ≤ n ∧ n ≤ 102
    · rw [if_pos h2, if_pos (by simp [h2]), if_neg (by omega), if_neg (by omega)]
    · rw [if_neg h2]
      by_cases h3 : 65 ≤ n ∧ n ≤ 70
      · rw [if_pos h3, if_pos (by simp [h3]), if_neg (by omega), if_pos h3.2]
      · rw [if_neg h3, if_neg (by simp [h1, h2, h3])]

/-- the size-token reader of the spec in the shape of nom's `hex_u32`: the leading hex digits, at most
    `k` of them, folded from `acc` -/
theorem sizeOfToken_eq (cs : Bytes) (k : Nat) (acc : Option Nat) :
    sizeOfToken cs k acc =
      (if (cs.takeWhile isHex).take k = [] then acc
       else some (((cs.takeWhile isHex).take k).foldl (fun a c => a * 16 + hexDigitVal c) (acc.getD 0))) := by
  induction cs generalizing k acc with
  | nil => simp [sizeOfToken]
  | cons c cs ih =>
    cases k with
    | zero => simp [sizeOfToken]
    | succ k =>
      rw [sizeOfToken, hexDigit?_eq]
      cases hh : isHex c with
      | false => simp [hh]
      | true =>
        simp only [↓reduceIte, List.takeWhile_cons, hh, List.take_succ_cons, List.foldl_cons]
        rw [ih]
        split
        · rename_i h; simp [h]
        · simp

theorem hexU32_eq (tok : Bytes) : hexU32 tok = sizeOfToken tok 8 none := by
  rw [sizeOfToken_eq, hexU32]
  simp [List.take_eq_nil_iff]

theorem ite_and {α} {p q : Prop} [Decidable p] [Decidable q] (a b : α) :
    (if p ∧ q then a else b) = if p then (if q then a else b) else b := by
  by_cases hp : p <;> by_cases hq : q <;> simp [hp, hq]

theorem parseMeta_eq_parseHeader (m : Bytes) : parseMeta m = parseHeader m := by
  unfold parseMeta parseHeader
  -- what the spec drops by length is what the model drops by the same test
  have hdrop := List.drop_left (l₁ := m.takeWhile (· != 59)) (l₂ := m.dropWhile (· != 59))
  rw [List.takeWhile_append_dropWhile] at hdrop
  simp only [hdrop]
  generalize hrest : m.dropWhile (· != 59) = rest
  generalize htok : m.takeWhile (· != 59) = tok
  have hcond : (rest.take 17 = tagSig ∧ ((rest.drop 17).length = 66 ∧ (rest.drop 17).drop 64 = [CR, LF])) ↔
      (rest.length = 17 + 64 + 2 ∧ rest.take 17 = tag ∧ rest.drop 81 = crlf) := by
    rw [List.drop_drop, List.length_drop, show tagSig = tag from rfl]
    simp only [CR, LF, crlf]
    constructor
    · rintro ⟨a, b, c⟩; exact ⟨by omega, a, c⟩
    · rintro ⟨a, b, c⟩; exact ⟨b, by omega, c⟩
  by_cases htk : tok = []
  · subst htk
    rw [if_pos rfl]
    exact (ite_self _).symm
  · rw [if_neg htk, hexU32_eq]
    cases sizeOfToken tok 8 none with
    | none => exact (ite_self _).symm
    | some n =>
      dsimp only
      rw [← ite_and]
      exact ite_cond_congr (propext hcond)

theorem round_shrinks {prev : Bytes} {fs : List Frame} {line prev1 : Bytes} {fs1 : List Frame} {n : Nat}
    {pieces : List Bytes} {prev2 : Bytes} {fs2 : List Frame}
    (hrm : readMeta prev fs = .ok line prev1 fs1) (hrd : readData prev1 fs1 n = .ok pieces prev2 fs2) :
    (prev2 ++ transportBytes fs2).length < (prev ++ transportBytes fs).length := by
  have hm := readMeta_post prev fs
  have hd := readData_post prev1 fs1 n
  rw [hrm] at hm
  rw [hrd] at hd
  obtain ⟨l0, _, _, hbs⟩ := splitLine_eq_some.mp hm.1
  obtain ⟨_, hrest⟩ := chunkBody_eq_ok.mp hd.1
  rw [hbs, hrest]
  simp only [List.length_append, List.length_cons]
  omega

def Out.abs (o : Out) : Bytes × Terminal := (o.delivered.flatten, o.terminal)

/-- how `Spec.decode` reads a run of `decodeGo`: the bytes, and the reason as a terminal -/
def outcome (r : Bytes × Reason) : Bytes × Terminal := (r.1, r.2.terminal)

/-- the main loop is the reference decoder on `prev ++ transportBytes fs`, round by round: with the same fuel on both
    sides nothing is asked of it (where it runs out both say `FormatError`) -/
theorem run_refines (sig : Bytes → Bytes → Bytes) (declared : Nat) :
    ∀ (fuel : Nat) (prev : Bytes) (fs : List Frame) (prevSig : Bytes) (total : Nat),
      (run sig declared fuel prev fs prevSig total).abs =
        outcome (decodeGo sig declared (transportBroken fs) fuel prevSig total (prev ++ transportBytes fs)) := by
  intro fuel
  induction fuel with
  | zero => exact fun _ _ _ _ => rfl
  | succ fuel ih =>
    intro prev fs prevSig total
    rw [run, decodeGo]
    -- each answer of a reader fixes what the reference decoder finds on the concatenation; behind the readers the
    -- cascade of checks (signature, declared length, final chunk) is literally the same on both sides
    have hm := readMeta_post prev fs
    cases hrm : readMeta prev fs with
    | ok line prev1 fs1 =>
      rw [hrm] at hm
      rw [hm.1]
      dsimp only
      rw [parseMeta_eq_parseHeader]
      cases hp : parseHeader line with
      | none => rfl
      | some q =>
        obtain ⟨n, s⟩ := q
        dsimp only
        have hd := readData_post prev1 fs1 n
        cases hrd : readData prev1 fs1 n with
        | ok pieces prev2 fs2 =>
          rw [hrd] at hd
          rw [hd.1]
          dsimp only
          by_cases hsig : sig prevSig pieces.flatten ≠ s
          · rw [if_pos hsig, if_pos hsig]
            rfl
          · rw [if_neg hsig, if_neg hsig]
            by_cases hex : total + n > declared
            · rw [if_pos hex, if_pos hex]
              rfl
            · rw [if_neg hex, if_neg hex]
              by_cases hn : n = 0
              · subst hn
                rw [if_pos rfl, if_pos rfl]
                by_cases ht : total = declared
                · rw [if_pos ht, if_neg (show ¬ total + 0 ≠ declared from fun h => h ht)]
                  rfl
                · rw [if_neg ht, if_pos (show total + 0 ≠ declared from ht)]
                  rfl
              · rw [if_neg hn, if_neg hn]
                have hrec := ih prev2 fs2 s (total + n)
                rw [hd.2, hm.2] at hrec
                rw [Out.after, Out.abs, List.flatten_append, (Prod.mk.inj hrec).1, (Prod.mk.inj hrec).2]
                rfl
        | format =>
          rw [hrd] at hd
          rw [show chunkBody n _ = _ from hd]
          rfl
        | _ =>
          rw [hrd] at hd
          rw [hd.1, ← hm.2, hd.2]
          rfl
    | _ =>
      rw [hrm] at hm
      rw [hm.1, hm.2]
      rfl

theorem run_fuel (sig : Bytes → Bytes → Bytes) (declared : Nat) :
    ∀ (f1 f2 : Nat) (prev : Bytes) (fs : List Frame) (prevSig : Bytes) (total : Nat),
      (prev ++ transportBytes fs).length < f1 → (prev ++ transportBytes fs).length < f2 →
      run sig declared f1 prev fs prevSig total = run sig declared f2 prev fs prevSig total := by
  intro f1
  induction f1 with
  | zero => intro f2 prev fs prevSig total h; omega
  | succ f1 ih =>
    intro f2 prev fs prevSig total h1 h2
    cases f2 with
    | zero => omega
    | succ f2 =>
      rw [run, run]
      cases hrm : readMeta prev fs with
      | ok line prev1 fs1 =>
        dsimp only
        cases hp : parseMeta line with
        | none => rfl
        | some q =>
          obtain ⟨n, s⟩ := q
          dsimp only
          cases hrd : readData prev1 fs1 n with
          | ok pieces prev2 fs2 =>
            dsimp only
            have := round_shrinks hrm hrd
            rw [ih f2 prev2 fs2 s (total + n) (by omega) (by omega)]
          | _ => rfl
      | _ => rfl

theorem remainingLength_eq (declared : Nat) (o : Out) :
    remainingLength declared o = declared - o.delivered.flatten.length := by
  unfold remainingLength
  generalize o.delivered = l
  induction l generalizing declared with
  | nil => rfl
  | cons a l ih =>
    rw [List.foldl_cons, ih, List.flatten_cons, List.length_append, Nat.sub_sub]

/-- the stream is the reference decoder on the transport bytes: `decodeStream` and `decodeR` hand out the same fuel -/
theorem decodeStream_refines (sig : Bytes → Bytes → Bytes) (seed : Bytes) (declared : Nat) (frames : List Frame) :
    (decodeStream sig seed declared frames).abs =
      outcome (decodeR sig seed declared (transportBytes frames) (transportBroken frames)) :=
  run_refines sig declared _ [] frames seed 0

theorem transportBytes_data (fs : List Bytes) : transportBytes (fs.map Frame.data) = fs.flatten := by
  induction fs with
  | nil => rfl
  | cons f fs ih => simp [transportBytes, ih]

theorem transportBroken_data (fs : List Bytes) : transportBroken (fs.map Frame.data) = false := by
  induction fs with
  | nil => rfl
  | cons f fs ih => simp [transportBroken, ih]

section
variable (sig : Bytes → Bytes → Bytes) (seed : Bytes) (declared : Nat) (frames : List Frame)

/-- forward: verified non-final chunks within the declared length, then bytes at which a round stops for the reason `r` -/
theorem decodeStream_stops (cs : List Chunk) (tail : Bytes) (r : Reason)
    (hwf : ∀ c ∈ cs, c.WF ∧ c.data ≠ []) (hver : Verified sig seed cs)
    (hlen : (dataOf cs).length ≤ declared) (hbytes : transportBytes frames = wireOf cs ++ tail)
    (hstop : Stop sig declared (transportBroken frames) (chainEnd seed cs) (dataOf cs).length tail r) :
    (decodeStream sig seed declared frames).delivered.flatten = dataOf cs ∧
    (decodeStream sig seed declared frames).terminal = r.terminal := by
  have h := decodeStream_refines sig seed declared frames
  rw [(decodeR_eq_iff sig declared _).mpr ⟨cs, tail, hbytes, hwf, hver, hlen, rfl, hstop⟩] at h
  exact Prod.mk.inj h

/-- backward: whatever arrives, the transport bytes are verified non-final chunks, whose data is what was delivered, and
    behind them bytes at which a round stops for a reason that is how the stream ends -/
theorem decodeStream_structure :
    ∃ cs tail r, transportBytes frames = wireOf cs ++ tail ∧ (∀ c ∈ cs, c.WF ∧ c.data ≠ []) ∧ Verified sig seed cs ∧
      (dataOf cs).length ≤ declared ∧ (decodeStream sig seed declared frames).delivered.flatten = dataOf cs ∧
      (decodeStream sig seed declared frames).terminal = r.terminal ∧
      Stop sig declared (transportBroken frames) (chainEnd seed cs) (dataOf cs).length tail r := by
  obtain ⟨cs, tail, hb, hwf, hver, hlen, hd, hstop⟩ := (decodeR_eq_iff sig declared (transportBroken frames)
    (seed := seed) (bs := transportBytes frames)).mp rfl
  obtain ⟨h1, h2⟩ := Prod.mk.inj (decodeStream_refines sig seed declared frames)
  exact ⟨cs, tail, _, hb, hwf, hver, hlen, h1.trans hd, h2, hstop⟩

end

end S3V.Chunked
