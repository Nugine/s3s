import S3V.Model.CallGlue
/-!
# `ops::call` by the first failing stage
-/
namespace S3V.CallGlue
open S3V S3V.ErrorDoc

/-- `ops::call` by the first error of the stages: its rendering, or, when there is none, the success response -/
theorem opsCall_cases (prep : Except S3Error Prepared) :
    match firstError prep with
    | some e => opsCall prep = serializeError e false
    | none => ∃ r, successResponse prep = some r ∧ opsCall prep = some r := by
  match prep with
  | .error e => exact rfl
  | .ok (.customRoute (.error e) _) => exact rfl
  | .ok (.customRoute (.ok ()) (.error e)) => exact rfl
  | .ok (.customRoute (.ok ()) (.ok r)) => exact ⟨_, rfl, rfl⟩
  | .ok (.s3 ⟨deser, hook, pre, backend, ser⟩) =>
    rcases deser with e | ⟨⟩
    · exact rfl
    rcases hook with _ | ⟨e | ⟨⟩⟩
    case some.error => exact rfl
    -- no hook object, or an approving hook
    all_goals
      rcases pre with e | ⟨⟩
      · exact rfl
      rcases backend with e | ⟨⟩
      · exact rfl
      rcases ser with e | r
      · exact rfl
      · exact ⟨r, rfl, rfl⟩

end S3V.CallGlue
