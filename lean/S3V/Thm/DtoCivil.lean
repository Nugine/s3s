import S3V.Model.DtoCivil
/-!
# Calendar theorems: `civilFromDays` and `daysFromCivil` are inverse to each other (all of `Int`)

`daysThrough Y = 365Y + Y/4 − Y/100 + Y/400` counts the days of the years `1 … Y` from January as well as from March
(the leap day of year `Y` lies before its March), and Hinnant's era and year of era are a way of computing it in
unsigned arithmetic. So the era is put together again once for each direction: `daysFromCivil_march` (the day number is
`daysThrough` of the year counted from March, plus month start and day) and `civilFromDays_march` (the year that
Hinnant's formula finds is the one whose `daysThrough` values bracket the day: `yoe_formula` on one era, all of `Int` by
`daysThrough_era`); everything else speaks of `Int` years. The day number counted the civil way (`daysFromCivil_jan`: whole
years `daysThrough`, whole months `monthStart`, days) is all that other modules use of the calendar; it grows with year,
month and day, so a valid date is determined by its day number (`daysFromCivil_inj`), which gives the other round trip
(`days_civil_days`). Month lengths are differences of Hinnant's month starts (`monthStart_succ`) in both directions.
-/
namespace S3V.Dto

abbrev Leap (y : Int) : Prop := y % 4 = 0 ∧ (y % 100 ≠ 0 ∨ y % 400 = 0)

theorem isLeap_iff (y : Int) : isLeap y = true ↔ Leap y := by
  simp only [isLeap, Bool.and_eq_true, Bool.or_eq_true, decide_eq_true_eq, ne_eq, decide_not, Bool.not_eq_true',
    decide_eq_false_iff_not]

theorem daysInMonth_le_31 (y : Int) (m : Nat) : daysInMonth y m ≤ 31 := by
  unfold daysInMonth
  split
  · split <;> omega
  · split <;> omega

theorem daysInMonth_feb (y : Int) : daysInMonth y 2 = if Leap y then 29 else 28 := by
  simp only [daysInMonth, if_true, isLeap_iff]

/-- days in the years `1 … Y` (for `Y ≥ 0`; below 0 the same expression counts backwards) -/
def daysThrough (Y : Int) : Int := 365 * Y + Y / 4 - Y / 100 + Y / 400

theorem daysThrough_step (Y : Int) : daysThrough Y = daysThrough (Y - 1) + (if Leap Y then 366 else 365) := by
  unfold daysThrough
  -- a quotient grows by one exactly at the multiples
  have h4 : Y / 4 = (Y - 1) / 4 + 1 ∧ Y % 4 = 0 ∨ Y / 4 = (Y - 1) / 4 ∧ Y % 4 ≠ 0 := by omega
  have h100 : Y / 100 = (Y - 1) / 100 + 1 ∧ Y % 100 = 0 ∨ Y / 100 = (Y - 1) / 100 ∧ Y % 100 ≠ 0 := by omega
  have h400 : Y / 400 = (Y - 1) / 400 + 1 ∧ Y % 400 = 0 ∨ Y / 400 = (Y - 1) / 400 ∧ Y % 400 ≠ 0 := by omega
  split <;> omega

theorem daysThrough_mono {Y Y' : Int} (h : Y ≤ Y') : daysThrough Y ≤ daysThrough Y' := by
  unfold daysThrough
  omega

/-- a year is its February and 337 days more -/
theorem daysThrough_feb (y : Int) :
    daysThrough y = daysThrough (y - 1) + 337 + daysInMonth y 2 ∧ daysInMonth y 2 ≤ 29 := by
  rw [daysThrough_step, daysInMonth_feb]
  split <;> omega

/-- an era of 400 years has 146097 days -/
theorem daysThrough_era (Y era : Int) : daysThrough (Y + era * 400) = daysThrough Y + era * 146097 := by
  unfold daysThrough
  omega

/-- era, year of era and day of era put together again: Hinnant's form in the year counted from March -/
theorem daysFromCivil_march (y : Int) (m d : Nat) :
    daysFromCivil y m d = daysThrough (if m ≤ 2 then y - 1 else y) +
      (((153 * ((m + 9) % 12) + 2) / 5 + d - 1 : Nat) : Int) - 719468 := by
  unfold daysFromCivil encDoe daysThrough
  dsimp only
  generalize (if m ≤ 2 then y - 1 else y) = Y
  generalize (153 * ((m + 9) % 12) + 2) / 5 + d - 1 = e
  omega

/-- days of a year before its month `m` (1 = January; 13 for the whole year) when February has `feb` days: Hinnant's
    month starts `(153 * mp + 2) / 5`, counted from January -/
def monthStart (feb m : Nat) : Nat := if m ≤ 2 then 31 * (m - 1) else (153 * (m - 3) + 2) / 5 + 31 + feb

theorem monthStart_succ (y : Int) (m : Nat) (h1 : 1 ≤ m) (h2 : m ≤ 12) :
    monthStart (daysInMonth y 2) (m + 1) = monthStart (daysInMonth y 2) m + daysInMonth y m := by
  have table : ∀ m < 13, 3 ≤ m → (153 * (m + 1 - 3) + 2) / 5 =
      (153 * (m - 3) + 2) / 5 + if m = 4 || m = 6 || m = 9 || m = 11 then 30 else 31 := by decide
  unfold monthStart
  by_cases hm : m ≤ 2
  · have : m = 1 ∨ m = 2 := by omega
    rcases this with rfl | rfl <;> simp [daysInMonth]
  · have hlen : daysInMonth y m = if m = 4 || m = 6 || m = 9 || m = 11 then 30 else 31 := by
      rw [daysInMonth, if_neg (by omega)]
    rw [if_neg (by omega), if_neg hm, table m (by omega) (by omega), hlen]
    omega

theorem monthStart_mono (feb : Nat) {m m' : Nat} (h : m ≤ m') : monthStart feb m ≤ monthStart feb m' := by
  unfold monthStart
  split <;> split <;> omega

/-- both specifications count the days before a month by adding up month lengths (`DtoSpec.daysBeforeMonth`,
    `SigV4Spec.daysBeforeMonth`): every such count is `monthStart` -/
theorem monthStart_of_rec (y : Int) (before len : Nat → Nat) (h1 : before 1 = 0)
    (hs : ∀ m, 1 ≤ m → before (m + 1) = before m + len m) (hl : ∀ m, 1 ≤ m → m ≤ 12 → len m = daysInMonth y m) :
    ∀ m, 1 ≤ m → m ≤ 12 → before m = monthStart (daysInMonth y 2) m := by
  intro m
  induction m with
  | zero => omega
  | succ m ih =>
    intro _ h12
    by_cases h0 : m = 0
    · subst h0
      exact h1
    · rw [hs m (by omega), ih (by omega) (by omega), hl m (by omega) (by omega),
        monthStart_succ y m (by omega) (by omega)]

/-- 719162 = 719468 − 306: Hinnant's shift from 0000-03-01 to 1970-01-01 less the days March … December, that is the
    days from 0001-01-01 to 1970-01-01 -/
theorem daysFromCivil_jan (y : Int) (m d : Nat) (hm1 : 1 ≤ m) (hm2 : m ≤ 12) (hd : 1 ≤ d) :
    daysFromCivil y m d =
      daysThrough (y - 1) + ((monthStart (daysInMonth y 2) m + (d - 1) : Nat) : Int) - 719162 := by
  have := (daysThrough_feb y).1
  rw [daysFromCivil_march, monthStart]
  by_cases hm : m ≤ 2
  · rw [if_pos hm, if_pos hm]
    omega
  · rw [if_neg hm, if_neg hm]
    omega

/-- 1 January of a year lies at or before exactly the days of that year and of later ones (the overflow of a short
    month included) -/
theorem jan1_le_iff (Y y : Int) (m d : Nat) (hm1 : 1 ≤ m) (hm2 : m ≤ 12) (hd1 : 1 ≤ d) (hd : d ≤ 31) :
    daysFromCivil Y 1 1 ≤ daysFromCivil y m d ↔ Y ≤ y := by
  have hlen := daysThrough_feb y
  -- December starts 306 days after the end of January
  have hms : monthStart (daysInMonth y 2) m ≤ 306 + daysInMonth y 2 := monthStart_mono _ hm2
  rw [daysFromCivil_jan y m d hm1 hm2 hd1, daysFromCivil_jan Y 1 1 (by omega) (by omega) (by omega),
    show monthStart (daysInMonth Y 2) 1 = 0 from rfl]
  constructor
  · intro h
    refine Int.not_lt.mp fun hlt => ?_
    have := daysThrough_mono (show y ≤ Y - 1 by omega)
    omega
  · intro h
    have := daysThrough_mono (show Y - 1 ≤ y - 1 by omega)
    omega

theorem monthStart_day_lt (y : Int) {m d m' : Nat} (hm1 : 1 ≤ m) (h : m < m') (hm' : m' ≤ 12) (hd : d ≤ daysInMonth y m) :
    monthStart (daysInMonth y 2) m + d ≤ monthStart (daysInMonth y 2) m' := by
  have hs := monthStart_succ y m hm1 (by omega)
  have := monthStart_mono (daysInMonth y 2) (show m + 1 ≤ m' from h)
  omega

theorem daysFromCivil_inj {y y' : Int} {m d m' d' : Nat} (hm1 : 1 ≤ m) (hm2 : m ≤ 12) (hd1 : 1 ≤ d)
    (hd2 : d ≤ daysInMonth y m) (hm1' : 1 ≤ m') (hm2' : m' ≤ 12) (hd1' : 1 ≤ d') (hd2' : d' ≤ daysInMonth y' m')
    (h : daysFromCivil y m d = daysFromCivil y' m' d') : (y, m, d) = (y', m', d') := by
  have h31 := daysInMonth_le_31 y m
  have h31' := daysInMonth_le_31 y' m'
  -- the year: the day lies at or after 1 January of the same years, whichever date gives it
  have a := jan1_le_iff y y m d hm1 hm2 hd1 (by omega)
  have a' := jan1_le_iff y y' m' d' hm1' hm2' hd1' (by omega)
  have b := jan1_le_iff y' y m d hm1 hm2 hd1 (by omega)
  have b' := jan1_le_iff y' y' m' d' hm1' hm2' hd1' (by omega)
  obtain rfl : y = y' := by omega
  rw [daysFromCivil_jan y m d hm1 hm2 hd1, daysFromCivil_jan y m' d' hm1' hm2' hd1'] at h
  -- the month: a day of an earlier month lies before the first of a later one
  obtain rfl : m = m' := by
    rcases Nat.lt_trichotomy m m' with hm | hm | hm
    · have := monthStart_day_lt y hm1 hm hm2' hd2; omega
    · exact hm
    · have := monthStart_day_lt y hm1' hm hm2 hd2'; omega
  obtain rfl : d = d' := by omega
  rfl

/-- Hinnant's year-of-era formula on day `doy` of the year of era given by century `c`, four-year cycle `q` and year `k`
of the cycle, which starts on day `36524 * c + 1461 * q + 365 * k`; the last year of a cycle is a day longer, except that
the last cycle of a century is not, except that the last century is. -/
theorem yoe_formula (c q k doy doe : Nat) (hc : c < 4) (hq : q < 25) (hk : k < 4)
    (hd : doy < 365 ∨ doy = 365 ∧ k = 3 ∧ (q < 24 ∨ c = 3)) (hdoe : doe = 36524 * c + 1461 * q + 365 * k + doy) :
    (doe - doe / 1460 + doe / 36524 - doe / 146096) / 365 = 100 * c + 4 * q + k := by
  -- the two century corrections cancel to the century
  have hC : doe / 36524 = c + doe / 146096 := by
    have hr : 1461 * q + 365 * k + doy < 36524 ∨ 1461 * q + 365 * k + doy = 36524 ∧ c = 3 := by omega
    generalize e : 1461 * q + 365 * k + doy = r at hr
    have : doe = 36524 * c + r := by omega
    omega
  -- the count of 1460-day blocks is the count of four-year cycles, or one more late in a cycle's last year
  have hQ : doe / 1460 = 25 * c + q + (24 * c + q + 365 * k + doy) / 1460 := by
    have : doe = 1460 * (25 * c + q) + (24 * c + q + 365 * k + doy) := by omega
    generalize 25 * c + q = u at *
    generalize 24 * c + q + 365 * k + doy = t at *
    omega
  rw [hC, hQ]
  generalize doe / 146096 = f
  omega

/-- the year of era that `decDoe` finds is the one whose days, counted by `daysThrough`, bracket the day -/
theorem yoe_bracket (doe : Nat) (h : doe < 146097) :
    (decDoe doe).1 < 400 ∧ daysThrough (decDoe doe).1 ≤ doe ∧ (doe : Int) < daysThrough ((decDoe doe).1 + 1) := by
  -- century, then four-year cycle, then year; the last of each takes the day that is left over
  obtain ⟨c, r, hc, hr, rfl⟩ : ∃ c r, c < 4 ∧ (r < 36524 ∨ r = 36524 ∧ c = 3) ∧ doe = 36524 * c + r :=
    ⟨min (doe / 36524) 3, doe - 36524 * min (doe / 36524) 3, by omega⟩
  obtain ⟨q, s, hq, hs, rfl⟩ : ∃ q s, q < 25 ∧ (s < 1461 ∨ q = 24) ∧ r = 1461 * q + s :=
    ⟨min (r / 1461) 24, r - 1461 * min (r / 1461) 24, by omega⟩
  obtain ⟨k, doy, hk, hd, rfl⟩ : ∃ k doy, k < 4 ∧ (doy < 365 ∨ k = 3) ∧ s = 365 * k + doy :=
    ⟨min (s / 365) 3, s - 365 * min (s / 365) 3, by omega⟩
  have hleap : doy < 365 ∨ doy = 365 ∧ k = 3 ∧ (q < 24 ∨ c = 3) := by omega
  rw [show (decDoe _).1 = 100 * c + 4 * q + k from yoe_formula c q k doy _ hc hq hk hleap (by omega)]
  have hY : daysThrough ((100 * c + 4 * q + k : Nat) : Int) = ((36524 * c + 1461 * q + 365 * k : Nat) : Int) := by
    unfold daysThrough
    omega
  have hstep := daysThrough_step ((100 * c + 4 * q + k : Nat) + 1)
  rw [Int.add_sub_cancel, hY] at hstep
  refine ⟨by omega, by omega, ?_⟩
  rw [hstep]
  split <;> omega

/-- calendar month (1 = January) of month-from-March index -/
def monthOfMp (mp : Nat) : Nat := if mp < 10 then mp + 3 else mp - 9

/-- Decoding with the era put together again: day `z + 719468`, counted from 0000-03-01, is day `doy` of the year `Y`
counted from March, and `civilFromDays` reads month and day off `doy`. -/
theorem civilFromDays_march (z : Int) : ∃ (Y : Int) (doy : Nat),
    z + 719468 = daysThrough Y + doy ∧ daysThrough Y + doy < daysThrough (Y + 1) ∧
    civilFromDays z = (if monthOfMp ((5 * doy + 2) / 153) ≤ 2 then Y + 1 else Y, monthOfMp ((5 * doy + 2) / 153),
      doy - (153 * ((5 * doy + 2) / 153) + 2) / 5 + 1) := by
  obtain ⟨era, doe, h, hdoe⟩ : ∃ (era : Int) (doe : Nat), z + 719468 = era * 146097 + (doe : Int) ∧ doe < 146097 :=
    ⟨(z + 719468) / 146097, ((z + 719468) % 146097).toNat, by omega, by omega⟩
  have he : (z + 719468) / 146097 = era := by omega
  have hd : (z + 719468 - era * 146097).toNat = doe := by omega
  obtain ⟨hy, hlo, hhi⟩ := yoe_bracket doe hdoe
  -- `decDoe` takes the start of the year of era off the day of era in `Nat`
  have hS : daysThrough (decDoe doe).1 =
      ((365 * (decDoe doe).1 + (decDoe doe).1 / 4 - (decDoe doe).1 / 100 : Nat) : Int) := by
    unfold daysThrough
    omega
  refine ⟨(decDoe doe).1 + era * 400, doe - (365 * (decDoe doe).1 + (decDoe doe).1 / 4 - (decDoe doe).1 / 100),
    ?_, ?_, ?_⟩
  · rw [daysThrough_era]
    omega
  · rw [Int.add_right_comm, daysThrough_era, daysThrough_era]
    omega
  · unfold civilFromDays
    simp only [he, hd]
    rfl

theorem civil_days_civil (z : Int) :
    daysFromCivil (civilFromDays z).1 (civilFromDays z).2.1 (civilFromDays z).2.2 = z ∧
    1 ≤ (civilFromDays z).2.1 ∧ (civilFromDays z).2.1 ≤ 12 ∧
    1 ≤ (civilFromDays z).2.2 ∧ (civilFromDays z).2.2 ≤ daysInMonth (civilFromDays z).1 (civilFromDays z).2.1 := by
  obtain ⟨Y, doy, hz, hlt, hc⟩ := civilFromDays_march z
  obtain ⟨hlen, hfeb⟩ := daysThrough_feb (Y + 1)
  rw [Int.add_sub_cancel] at hlen
  rw [hc]
  generalize hmp : (5 * doy + 2) / 153 = mp
  have h12 : mp < 12 := by omega
  by_cases h : mp < 10
  · simp only [monthOfMp, if_pos h, if_neg (show ¬mp + 3 ≤ 2 by omega)]
    refine ⟨?_, by omega, by omega, by omega, ?_⟩
    · rw [daysFromCivil_march, if_neg (by omega), show (mp + 3 + 9) % 12 = mp by omega]
      omega
    · -- the length of the month is the distance to the next of Hinnant's month starts (`monthStart` at `mp + 3` and
      -- `mp + 4` by computation)
      have hs : (153 * (mp + 1) + 2) / 5 + 31 + daysInMonth Y 2 =
          (153 * mp + 2) / 5 + 31 + daysInMonth Y 2 + daysInMonth Y (mp + 3) :=
        monthStart_succ Y (mp + 3) (by omega) (by omega)
      omega
  · -- January and February belong to the next civil year
    simp only [monthOfMp, if_neg h, if_pos (show mp - 9 ≤ 2 by omega)]
    refine ⟨?_, by omega, by omega, by omega, ?_⟩
    · rw [daysFromCivil_march, if_pos (by omega), Int.add_sub_cancel, show (mp - 9 + 9) % 12 = mp by omega]
      omega
    · rcases (show mp = 10 ∨ mp = 11 by omega) with rfl | rfl
      · show _ ≤ 31
        omega
      · show _ ≤ daysInMonth (Y + 1) 2
        omega

theorem days_civil_days (y : Int) (m d : Nat) (hm1 : 1 ≤ m) (hm2 : m ≤ 12) (hd1 : 1 ≤ d)
    (hd2 : d ≤ daysInMonth y m) : civilFromDays (daysFromCivil y m d) = (y, m, d) := by
  obtain ⟨hz, h1, h2, h3, h4⟩ := civil_days_civil (daysFromCivil y m d)
  exact daysFromCivil_inj h1 h2 h3 h4 hm1 hm2 hd1 hd2 hz

theorem civilFromDays_year_lt_iff (z Y : Int) : (civilFromDays z).1 < Y ↔ z < daysFromCivil Y 1 1 := by
  obtain ⟨hz, hm1, hm2, hd1, hd2⟩ := civil_days_civil z
  have := jan1_le_iff Y (civilFromDays z).1 _ _ hm1 hm2 hd1 (Nat.le_trans hd2 (daysInMonth_le_31 _ _))
  rw [hz] at this
  omega

theorem daysFromCivil_le_of_year_le_zero (y : Int) (m d : Nat) (hy : y ≤ 0) (hm1 : 1 ≤ m) (hm2 : m ≤ 12)
    (hd1 : 1 ≤ d) (hd2 : d ≤ 31) : daysFromCivil y m d ≤ -719163 := by
  have := jan1_le_iff 1 y m d hm1 hm2 hd1 hd2
  have : daysFromCivil 1 1 1 = -719162 := by decide
  omega

end S3V.Dto
