import S3V.Model.Secrets
import S3V.Spec.Secrets
/-!
# Lemmas for C16 (rendering and emission model)

A derived `Debug` does not see the secrets inside a value (`debugVal_erase`). `check` depends on the secret table only through the
signature computed for the request (`check_eq`: `verdictFromSig`, `emittedFromSig`), so two tables that give one verdict differ at
most in the computed signature of a mismatch record (`emitted_congr_of_verdict`, `check_emitted_congr` for any observer).
`not_leaks_of_short` is the step of `C16_renderings_do_not_disclose`.
-/
namespace S3V.Secrets

theorem isNil_eraseFlds (fs : Flds) : (eraseFlds fs).isNil = fs.isNil := by
  cases fs <;> simp [eraseFlds, Flds.isNil]

mutual
theorem debugVal_eraseVal (body : DebugBody) (hc : Constant (renderDebug body)) :
    ∀ v, debugVal body (eraseVal v) = debugVal body v
  | .str b => by simp [eraseVal]
  | .secret s => by simp only [eraseVal, debugVal]; exact hc _ _
  | .none => by simp [eraseVal]
  | .some v => by simp only [eraseVal, debugVal]; rw [debugVal_eraseVal body hc v]
  | .struct n fs => by
    simp only [eraseVal, debugVal, isNil_eraseFlds]; rw [debugFlds_eraseFlds body hc fs]
theorem debugFlds_eraseFlds (body : DebugBody) (hc : Constant (renderDebug body)) :
    ∀ fs, debugFlds body (eraseFlds fs) = debugFlds body fs
  | .nil => by simp [eraseFlds]
  | .cons n v rest => by
    simp only [eraseFlds, debugFlds, isNil_eraseFlds]
    rw [debugVal_eraseVal body hc v, debugFlds_eraseFlds body hc rest]
end

/-- a derived `Debug` does not see the secrets inside a value, as soon as `SecretKey`'s own `Debug` is constant -/
theorem debugVal_erase (body : DebugBody) (hc : Constant (renderDebug body)) (v w : Val)
    (h : eraseVal v = eraseVal w) : debugVal body v = debugVal body w := by
  rw [← debugVal_eraseVal body hc v, ← debugVal_eraseVal body hc w, h]

/-- what a mismatch emits after the optional string-to-sign record: the `signature mismatch` record, then the refusal -/
def mismatchRecords (v : Bool) (computed provided : Bytes) : List Emission :=
  [.log .debug .signatureMismatch (mismatchFields v computed provided),
   .log .debug .checkedSignature [],
   .log .error .prepareErr [],
   .log .debug .failedToPrepare [],
   .error .signatureDoesNotMatch []]

/-- everything `check` emits, as a function of the request and of the signature computed for it
    (`none`: unknown access key) — no secret, no table, no crypto in sight -/
def emittedFromSig (body : DebugBody) (v : Bool) (r : AuthReq) (sig : Option Bytes) : List Emission :=
  match r.pre with
  | some (code, msg) =>
    (if r.preInsideCheck then [Emission.log .debug .checkedSignature []] else []) ++
    [.log .error .prepareErr [(.errCode, code), (.errMessage, msg)],
     .log .debug .failedToPrepare [(.errCode, code), (.errMessage, msg)],
     .error (.pre code) msg]
  | none =>
    match sig with
    | none =>
      [.log .debug .checkedSignature [],
       .log .error .prepareErr [(.errMessage, notSignedUpMsg)],
       .log .debug .failedToPrepare [(.errMessage, notSignedUpMsg)],
       .error .notSignedUp notSignedUpMsg]
    | some signature =>
      let pre := if r.logsStringToSign then [Emission.log .debug .v2StringToSign [(.stringToSign, r.stringToSign)]] else []
      if signature ≠ r.provided then
        pre ++ mismatchRecords v signature r.provided
      else
        pre ++ [.log .debug .checkedSignature [],
                .credDebug (debugVal body (credentialsVal r.accessKey []))]

/-- the verdict is a function of the request and the computed signature too -/
def verdictFromSig (r : AuthReq) (sig : Option Bytes) : Verdict :=
  match r.pre with
  | some (code, _) => .reject (.pre code)
  | none =>
    match sig with
    | none => .reject .notSignedUp
    | some signature => if signature ≠ r.provided then .reject .signatureDoesNotMatch else .accept r.accessKey

/-- verdict and emissions of `check` depend on the secret table only through the computed signature. The secret itself
    occurs in one emission, the `Debug` of the credentials handed on after acceptance; `hc` (the `Debug` of `SecretKey` is
    constant) makes it the `Debug` of credentials with the empty secret, which is what `emittedFromSig` writes. -/
theorem check_eq (c : Crypto) (body : DebugBody) (hc : Constant (renderDebug body)) (v : Bool)
    (l : Bytes → Option Bytes) (r : AuthReq) :
    check c body v l r =
      (verdictFromSig r ((l r.accessKey).map fun s => computeSig c s r),
       emittedFromSig body v r ((l r.accessKey).map fun s => computeSig c s r)) := by
  unfold check verdictFromSig emittedFromSig
  cases hp : r.pre with
  | some p => rfl
  | none =>
    cases hl : l r.accessKey with
    | none => rfl
    | some s =>
      simp only [Option.map_some]
      by_cases hs : computeSig c s r ≠ r.provided
      · simp only [if_pos hs]
        rfl
      · simp only [if_neg hs]
        rw [debugVal_erase body hc (credentialsVal r.accessKey s) (credentialsVal r.accessKey []) rfl]

/-- Equal verdicts give the same emissions, except that two mismatches record each its own computed signature:
    whatever `F` does not tell those two records apart, it does not tell the emissions apart. -/
theorem emitted_congr_of_verdict {β : Type} (F : List Emission → β) (body : DebugBody) (v : Bool) (r : AuthReq)
    (hF : ∀ (pre : List Emission) (a b : Bytes),
      F (pre ++ mismatchRecords v a r.provided) = F (pre ++ mismatchRecords v b r.provided))
    (g₁ g₂ : Option Bytes) (hv : verdictFromSig r g₁ = verdictFromSig r g₂) :
    F (emittedFromSig body v r g₁) = F (emittedFromSig body v r g₂) := by
  unfold verdictFromSig at hv
  unfold emittedFromSig
  cases hp : r.pre with
  | some p => rfl
  | none =>
    simp only [hp] at hv
    cases g₁ with
    | none =>
      cases g₂ with
      | none => rfl
      | some b => simp only at hv; split at hv <;> cases hv
    | some a =>
      cases g₂ with
      | none => simp only at hv; split at hv <;> cases hv
      | some b =>
        simp only at hv ⊢
        by_cases ha : a ≠ r.provided <;> by_cases hb : b ≠ r.provided
        · simp only [if_pos ha, if_pos hb]
          exact hF _ a b
        · simp only [if_pos ha, if_neg hb] at hv; cases hv
        · simp only [if_neg ha, if_pos hb] at hv; cases hv
        · simp only [if_neg ha, if_neg hb]

/-- the same about `check`: two secret tables that give one verdict are told apart by no observer that does not tell two
    mismatches apart -/
theorem check_emitted_congr {β : Type} (F : List Emission → β) (c : Crypto) (body : DebugBody)
    (hc : Constant (renderDebug body)) (v : Bool) (l₁ l₂ : Bytes → Option Bytes) (r : AuthReq)
    (hF : ∀ (pre : List Emission) (a b : Bytes),
      F (pre ++ mismatchRecords v a r.provided) = F (pre ++ mismatchRecords v b r.provided))
    (hv : (check c body v l₁ r).1 = (check c body v l₂ r).1) :
    F (check c body v l₁ r).2 = F (check c body v l₂ r).2 := by
  rw [check_eq c body hc, check_eq c body hc] at hv ⊢
  exact emitted_congr_of_verdict F body v r hF _ _ hv

/-- a text shorter than the secret contains none of the six forms of `SecretsSpec.Leaks` when the encoders do not shrink
    (`C16_renderings_do_not_disclose`) -/
theorem not_leaks_of_short {hex b64 : Bytes → Bytes} (hhex : ∀ b, b.length ≤ (hex b).length)
    (hb64 : ∀ b, b.length ≤ (b64 b).length) {s out : Bytes} (h : out.length < s.length) :
    ¬ SecretsSpec.Leaks hex b64 s out := by
  rintro ⟨f, hf, hi⟩
  refine SecretsSpec.not_infix_of_length_lt ?_ hi
  have h4 : (SecretsSpec.aws4 ++ s).length = 4 + s.length := by simp [SecretsSpec.aws4]; omega
  have h1 := hhex s; have h2 := hb64 s; have h3 := hhex (SecretsSpec.aws4 ++ s); have h5 := hb64 (SecretsSpec.aws4 ++ s)
  simp only [SecretsSpec.forms, List.mem_cons, List.not_mem_nil, or_false] at hf
  rcases hf with rfl | rfl | rfl | rfl | rfl | rfl <;> omega

end S3V.Secrets
