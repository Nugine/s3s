import S3V.Thm.Path
import S3V.Thm.PathHost
import S3V.Thm.PathBucket
import S3V.Thm.PathKey
/-!
# Lemmas for C12: the first block of `prepare` (`classify`) as host side × path side

`classify` looks at the `Host` header only to learn which bucket it names, if any (`hostBucket`), and at the raw path
only through `urlencoding::decode` followed by the parser for that bucket (`parseAt`). `classify_eq` is the one proof
that reads the definition; after it a fact about a form of host (`hostBucket_*`) and a fact about a form of path
(`parseAt_*`) combine through `classify_of_host`. The forms of host the properties speak of (`PathStyleChosen`,
`ConfiguredDomain`, `BaseDomain`) and what the configured parser answers on them (`parser_of_match`, `parser_of_none`) stand in front
of the host-side lemmas.
-/
namespace S3V.Path
open S3V S3V.Net S3V.Host S3V.PathSpec S3V.RouteCompose

/-- what the `Host` header contributes: `Err(InvalidRequest)`, or the bucket it names — `none` when the request is
    handled path-style -/
def hostBucket (cfg : HostCfg) : Option Bytes → Except Code (Option Bytes)
  | none => .ok none
  | some h =>
    if headerToStrOk h then
      match cfg.parser with
      | some parse =>
        if isSocketAddrOrIpAddr h then .ok none
        else match parse h with
          | none => .error .invalidRequest
          | some vh => .ok vh.bucket
      | none => .ok none
    else .error .invalidRequest

/-- the path side: decode, then parse against the bucket the host named -/
def parseAt (p : Bytes) (vb : Option Bytes) : Except Code S3Path :=
  match urlDecode p with
  | none => .error .invalidURI
  | some decoded => convert (parseVirtualHostedStyle vb decoded)

/-- an undecodable path is refused first, then an unreadable or unresolvable host, then the decoded path is parsed
    against the bucket the host named -/
theorem classify_eq (cfg : HostCfg) (host : Option Bytes) (p : Bytes) :
    classify cfg host p =
      match urlDecode p with
      | none => .error .invalidURI
      | some decoded =>
        match hostBucket cfg host with
        | .error c => .error c
        | .ok vb => convert (parseVirtualHostedStyle vb decoded) := by
  unfold classify
  cases urlDecode p with
  | none => rfl
  | some decoded =>
    cases host with
    | none => rfl
    | some h =>
      cases hs : headerToStrOk h with
      | false => simp [hostBucket, hs]
      | true =>
        cases hp : cfg.parser with
        | none => simp [hostBucket, hs, hp, parseVirtualHostedStyle]
        | some parse =>
          cases hip : isSocketAddrOrIpAddr h with
          | true => simp [hostBucket, hs, hp, hip, parseVirtualHostedStyle]
          | false => cases hv : parse h <;> simp [hostBucket, hs, hp, hip, hv]

theorem classify_of_host {cfg : HostCfg} {host vb : Option Bytes} (h : hostBucket cfg host = .ok vb) (p : Bytes) :
    classify cfg host p = parseAt p vb := by
  rw [classify_eq, h]
  rfl

theorem classify_congr_host {cfg cfg' : HostCfg} {host host' vb : Option Bytes}
    (h : hostBucket cfg host = .ok vb) (h' : hostBucket cfg' host' = .ok vb) (p : Bytes) :
    classify cfg host p = classify cfg' host' p := by
  rw [classify_of_host h, classify_of_host h']

/-! ### the forms of `Host` header the properties speak of, and what the configured parser answers -/

/-- when is the request parsed path-style whatever the path is: no `Host` header, or a readable
    `Host` header and either no host parser configured or the host is an IP / socket address -/
def PathStyleChosen (cfg : HostCfg) (host : Option Bytes) : Prop :=
  host = none ∨ ∃ h, host = some h ∧ headerToStrOk h = true ∧
    (cfg = .none ∨ isSocketAddrOrIpAddr h = true)

/-- the outcome of a request handled path-style: `parseAt · none` (`pathStyleOutcome_eq`) -/
def pathStyleOutcome (uriPath : Bytes) : Except Code S3Path :=
  match urlDecode uriPath with
  | none => .error .invalidURI
  | some decoded => convert (parsePathStyle decoded)

theorem ascii_of_headerToStrOk {h : Bytes} (hs : headerToStrOk h = true) : ∀ c ∈ h, c.toNat < 128 := by
  intro c hc
  have := List.all_eq_true.mp hs c hc
  simp only [Bool.or_eq_true, Bool.and_eq_true, decide_eq_true_eq] at this
  rcases this with h | ⟨_, h⟩
  · subst h; decide
  · omega

/-- a base domain of the configuration: the single one, or a member of a list accepted by
    `MultiDomain::new` (its members then do not overlap even when ASCII case is ignored,
    `pairwiseCI_of_accepted`) -/
def ConfiguredDomain (cfg : HostCfg) (d : Bytes) : Prop :=
  cfg = .single d ∨ ∃ ds, multiNew ds = .ok ds ∧ d ∈ ds ∧ cfg = .multi ds

theorem parser_of_match {cfg : HostCfg} {d : Bytes} (h : ConfiguredDomain cfg d) {host : Bytes} {vh : VirtualHost}
    (hm : parseHostHeader d host = some vh) : ∃ parse, cfg.parser = some parse ∧ parse host = some vh := by
  rcases h with rfl | ⟨ds, hacc, hd, rfl⟩
  · exact ⟨singleParse d, rfl, by simp only [singleParse, hm]⟩
  · exact ⟨multiParse ds, rfl,
      by simp only [multiParse, firstMatch_eq_of_mem (pairwiseCI_of_accepted hacc) hd hm]⟩

end S3V.Path

/-- the base domains of a configuration, accepted by `MultiDomain::new` or not: what the host parsers answer outside
    them (`parser_of_none`) only enumerates the list, whereas a match inside (`parser_of_match`) needs the list free of
    overlaps, hence `ConfiguredDomain` there. In namespace `S3V.C12` because the statements of `Props/C12` name it so; it
    stands here because `parser_of_none` and `parser_of_outside` are stated with it. -/
def S3V.C12.BaseDomain (cfg : S3V.Path.HostCfg) (d : Bytes) : Prop := cfg = .single d ∨ ∃ ds, cfg = .multi ds ∧ d ∈ ds

namespace S3V.Path
open S3V S3V.Net S3V.Host S3V.PathSpec S3V.C12 S3V.RouteCompose

theorem parser_of_none {cfg : HostCfg} {parse : Bytes → Option VirtualHost} (hp : cfg.parser = some parse)
    {host : Bytes}
    (ho : ∀ d, BaseDomain cfg d → parseHostHeader d host = none) :
    parse host = fallback host := by
  cases cfg with
  | none => cases hp
  | single d =>
    cases hp
    exact singleParse_of_none (ho d (Or.inl rfl))
  | multi ds =>
    cases hp
    exact multiParse_of_none fun d hd => ho d (Or.inr ⟨ds, rfl, hd⟩)

/-- a host outside every base domain is answered by the common tail of the two host parsers -/
theorem parser_of_outside {cfg : HostCfg} {parse : Bytes → Option VirtualHost} (hp : cfg.parser = some parse)
    {host : Bytes} (ho : ∀ d, BaseDomain cfg d → Outside d host) :
    parse host = fallback host :=
  parser_of_none hp fun d hd => parseHostHeader_none_of_outside (ho d hd)

/-! ### the host side -/

theorem hostBucket_pathStyle {cfg : HostCfg} {host : Option Bytes} (h : PathStyleChosen cfg host) :
    hostBucket cfg host = .ok none := by
  rcases h with rfl | ⟨h, rfl, hs, rfl | hip⟩
  · rfl
  · exact (if_pos hs).trans rfl
  · refine (if_pos hs).trans ?_
    cases cfg.parser with
    | none => rfl
    | some parse => exact if_pos hip

theorem hostBucket_parsed {cfg : HostCfg} {h : Bytes} {parse : Bytes → Option VirtualHost} {vh : VirtualHost}
    (hp : cfg.parser = some parse) (hs : headerToStrOk h = true) (hip : isSocketAddrOrIpAddr h = false)
    (hv : parse h = some vh) : hostBucket cfg (some h) = .ok vh.bucket := by
  simp [hostBucket, hs, hp, hip, hv]

/-- host `b.t`, `t` a configured base domain `d` in any ASCII case; a header value that `to_str` accepts is ASCII, so
    `t` starts at a character boundary -/
theorem hostBucket_sub {cfg : HostCfg} {d t b : Bytes} (hc : ConfiguredDomain cfg d)
    (ht : toAsciiLower t = toAsciiLower d) (hs : headerToStrOk (b ++ dot :: t) = true)
    (hip : isSocketAddrOrIpAddr (b ++ dot :: t) = false) :
    hostBucket cfg (some (b ++ dot :: t)) = .ok (some b) := by
  have hbnd : ∀ c ∈ t.head?, c.toNat < 128 ∨ 192 ≤ c.toNat := fun c hc =>
    Or.inl (ascii_of_headerToStrOk hs c (by simp [List.mem_of_mem_head? hc]))
  obtain ⟨parse, hp, hv⟩ := parser_of_match hc (parseHostHeader_sub b t d ht hbnd)
  exact hostBucket_parsed hp hs hip hv

theorem hostBucket_domain {cfg : HostCfg} {d t : Bytes} (hc : ConfiguredDomain cfg d)
    (ht : toAsciiLower t = toAsciiLower d) (hs : headerToStrOk t = true) (hip : isSocketAddrOrIpAddr t = false) :
    hostBucket cfg (some t) = .ok none := by
  obtain ⟨parse, hp, hv⟩ := parser_of_match hc (parseHostHeader_self ht)
  exact hostBucket_parsed hp hs hip hv

theorem hostBucket_name_port {cfg : HostCfg} {parse : Bytes → Option VirtualHost} (hp : cfg.parser = some parse)
    {h port : Bytes} (hn : HostName h) (hport : DecimalPort port)
    (ho : ∀ d, BaseDomain cfg d → Outside d (h ++ colon :: port))
    (hs : headerToStrOk (h ++ colon :: port) = true) (hip : isSocketAddrOrIpAddr (h ++ colon :: port) = false) :
    hostBucket cfg (some (h ++ colon :: port)) = .ok (some (toAsciiLower h)) :=
  hostBucket_parsed hp hs hip (by rw [parser_of_outside hp ho, fallback_name_port hn hport])

/-! ### the path side -/

/-- the two addressing styles, for every raw rest `e` (well-formed escapes or not): `/e` against bucket `b` is `/b/e`
    against no bucket -/
theorem parseAt_style_equiv {b : Bytes} (hb1 : ∀ c ∈ b, c.toNat < 128) (hb2 : pct ∉ b) (hb3 : slash ∉ b) (e : Bytes) :
    parseAt (slash :: e) (some b) = parseAt (slash :: (b ++ slash :: e)) none := by
  have h1 : urlDecode (slash :: e) = (urlDecode e).map ([slash] ++ ·) :=
    urlDecode_append_ascii (p := [slash]) (by decide) (by decide) e
  have hp : pct ∉ slash :: (b ++ [slash]) := by
    simp only [List.mem_cons, List.mem_append, List.not_mem_nil, or_false, not_or]
    exact ⟨by decide, hb2, by decide⟩
  have ha : ∀ c ∈ slash :: (b ++ [slash]), c.toNat < 128 := by
    simp only [List.mem_cons, List.mem_append, List.not_mem_nil, or_false]
    rintro c (rfl | h | rfl)
    · decide
    · exact hb1 c h
    · decide
  have h2 : urlDecode (slash :: (b ++ slash :: e)) = (urlDecode e).map ((slash :: (b ++ [slash])) ++ ·) := by
    simpa using urlDecode_append_ascii hp ha e
  rw [parseAt, parseAt, h1, h2]
  cases urlDecode e with
  | none => rfl
  | some k =>
    simp only [Option.map_some, List.cons_append, List.nil_append, List.append_assoc]
    exact congrArg convert (style_equiv b k hb3).symm

theorem parseAt_style_equiv_bucket {b : Bytes} (hb2 : pct ∉ b) (hb3 : slash ∉ b) (hne : b ≠ []) :
    parseAt [slash] (some b) = parseAt (slash :: b) none := by
  rw [parseAt, parseAt, urlDecode_no_pct (by decide),
    urlDecode_no_pct fun hm => (List.mem_cons.mp hm).elim (by decide) hb2]
  exact congrArg convert (style_equiv_bucket b hb3 hne).symm

/-! ### host and path together -/

theorem pathStyleOutcome_eq (p : Bytes) : pathStyleOutcome p = parseAt p none := rfl

theorem classify_pathStyle {cfg : HostCfg} {host : Option Bytes} (h : PathStyleChosen cfg host) (p : Bytes) :
    classify cfg host p = pathStyleOutcome p :=
  (classify_of_host (hostBucket_pathStyle h) p).trans (pathStyleOutcome_eq p).symm

theorem classify_style_equiv {cfg cfg' : HostCfg} {host host' : Option Bytes} {b : Bytes}
    (hh : hostBucket cfg host = .ok (some b)) (hh' : hostBucket cfg' host' = .ok none)
    (hb1 : ∀ c ∈ b, c.toNat < 128) (hb2 : pct ∉ b) (hb3 : slash ∉ b) (e : Bytes) :
    classify cfg host (slash :: e) = classify cfg' host' (slash :: (b ++ slash :: e)) := by
  rw [classify_of_host hh, classify_of_host hh', parseAt_style_equiv hb1 hb2 hb3]

theorem classify_style_equiv_bucket {cfg cfg' : HostCfg} {host host' : Option Bytes} {b : Bytes}
    (hh : hostBucket cfg host = .ok (some b)) (hh' : hostBucket cfg' host' = .ok none)
    (hb2 : pct ∉ b) (hb3 : slash ∉ b) (hne : b ≠ []) :
    classify cfg host [slash] = classify cfg' host' (slash :: b) := by
  rw [classify_of_host hh, classify_of_host hh', parseAt_style_equiv_bucket hb2 hb3 hne]

/-- a spelling of a UTF-8 text decodes to that text, exactly once, so `classify` on the spelling is the parser on the text.
    With `vb = none` the right-hand side is `parsePathStyle k`: that is the first arm of `parseVirtualHostedStyle`, and the
    `show` steps of the path-style lemmas below rest on it. -/
theorem classify_spelling {cfg : HostCfg} {host vb : Option Bytes} {k e : Bytes} (hh : hostBucket cfg host = .ok vb)
    (hu : utf8Valid k = true) (hsp : Spelling e k) :
    classify cfg host e = convert (parseVirtualHostedStyle vb k) := by
  rw [classify_of_host hh, parseAt, urlDecode_spelling hsp hu]

theorem classify_host_result {cfg : HostCfg} {host : Option Bytes} {b k e : Bytes}
    (hh : hostBucket cfg host = .ok (some b)) (hb : checkBucketName b = true) (hu : utf8Valid k = true)
    (hsp : Spelling e (slash :: k)) :
    classify cfg host e = if k.length ≤ 1024 then .ok (target b k) else .error .keyTooLongError := by
  rw [classify_spelling hh (by rw [utf8Valid_cons_ascii (by decide), hu]) hsp, parseVirtualHostedStyle_valid hb]
  split <;> rfl

theorem utf8Valid_path {b k : Bytes} (hb : checkBucketName b = true) (hu : utf8Valid k = true) :
    utf8Valid (slash :: (b ++ slash :: k)) = true := by
  rw [utf8Valid_cons_ascii (by decide), utf8Valid_append_ascii (ascii_of_check hb),
    utf8Valid_cons_ascii (by decide), hu]

theorem classify_path_result {cfg : HostCfg} {host : Option Bytes} {b k e : Bytes}
    (hps : PathStyleChosen cfg host) (hb : checkBucketName b = true) (hu : utf8Valid k = true)
    (hsp : Spelling e (slash :: (b ++ slash :: k))) :
    classify cfg host e = if k.length ≤ 1024 then .ok (target b k) else .error .keyTooLongError := by
  rw [classify_spelling (hostBucket_pathStyle hps) (utf8Valid_path hb hu) hsp]
  show convert (parsePathStyle (slash :: (b ++ slash :: k))) = _
  rw [style_equiv b k (slash_not_mem_of_check hb), parseVirtualHostedStyle_valid hb]
  split <;> rfl

/-- a key within the length bound: both styles reach `target b k` -/
theorem classify_host_target {cfg : HostCfg} {host : Option Bytes} {b k e : Bytes}
    (hh : hostBucket cfg host = .ok (some b)) (hb : checkBucketName b = true) (hk : k.length ≤ 1024)
    (hu : utf8Valid k = true) (hsp : Spelling e (slash :: k)) : classify cfg host e = .ok (target b k) :=
  (classify_host_result hh hb hu hsp).trans (if_pos hk)

theorem classify_path_target {cfg : HostCfg} {host : Option Bytes} {b k e : Bytes}
    (hps : PathStyleChosen cfg host) (hb : checkBucketName b = true) (hk : k.length ≤ 1024)
    (hu : utf8Valid k = true) (hsp : Spelling e (slash :: (b ++ slash :: k))) : classify cfg host e = .ok (target b k) :=
  (classify_path_result hps hb hu hsp).trans (if_pos hk)

theorem classify_path_bucket {cfg : HostCfg} {host : Option Bytes} {b e : Bytes}
    (hps : PathStyleChosen cfg host) (hb : checkBucketName b = true) (hsp : Spelling e (slash :: b)) :
    classify cfg host e = .ok (.bucket b) := by
  have hu : utf8Valid (slash :: b) = true := by
    rw [utf8Valid_cons_ascii (by decide), utf8Valid_ascii (ascii_of_check hb)]
  rw [classify_spelling (hostBucket_pathStyle hps) hu hsp]
  show convert (parsePathStyle (slash :: b)) = _
  rw [style_equiv_bucket b (slash_not_mem_of_check hb) (ne_nil_of_check hb), parseVirtualHostedStyle_valid hb]
  rfl

theorem classify_root {cfg : HostCfg} {host : Option Bytes} {e : Bytes} (hh : hostBucket cfg host = .ok none)
    (hsp : Spelling e [slash]) : classify cfg host e = .ok .root := by
  rw [classify_spelling hh (by decide) hsp]
  rfl

end S3V.Path
