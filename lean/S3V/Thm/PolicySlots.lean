import S3V.Thm.Policy
import S3V.Spec.Policy
/-!
# Lemmas: the two `visit_map` loops as slots, and the encoder against them

* `policyField_*`, `stmtField_*`: the body of each loop, one member name at a time;
* `slot`: what a dup-checked loop leaves in one slot. `policy_fold`, `stmt_fold`: the loops, member by
  member, equal "one slot per block, filled at most once": per known name for `Policy` and for
  `Sid`/`Effect`/`Condition`, per pair of names for the principal, action and resource block of a
  statement (`blocksOf` sorts the members of a statement into the six blocks);
* `statementOfMembers_eq_some_iff`, `policyOfMembers_eq_some_iff`: a value is read exactly when its
  fields are the contents of the slots;
* `statementMembers_blocks`: the encoder writes each block once, so the slots read back the statement
  written (`statementOfJson_statementJson`); `fromJson?_toJson` runs the three-member loop of `Policy`
  on top of it: a value is read back as its `norm`, which differs from it only where an action or
  resource block is `One("*")`.
-/
namespace S3V.Policy
open S3V S3V.PolicySpec

/-- what the dup-checked loop leaves in one slot: `cur` is the slot's content so far, the list holds
    the members (or their values) that go to this slot, in document order -/
def slot {α β : Type} (f : β → Option α) : Option α → List β → Option (Option α)
  | cur, [] => some cur
  | none, v :: rest => (f v).bind fun x => slot f (some x) rest
  | some _, _ :: _ => none

theorem slot_none_singleton {α β : Type} (f : β → Option α) (v : β) : slot f none [v] = (f v).map some := by
  cases h : f v <;> simp [slot, h]

theorem slot_none_some_iff {α β : Type} (f : β → Option α) (vs : List β) (r : Option α) :
    slot f none vs = some r ↔ (vs = [] ∧ r = none) ∨ (∃ v x, vs = [v] ∧ f v = some x ∧ r = some x) := by
  match vs with
  | [] => simp [slot, eq_comm]
  | [v] =>
    cases h : f v with
    | none => simp [slot, h]
    | some x => simp [slot, h, eq_comm]
  | v :: w :: rest => cases h : f v <;> simp [slot, h]

theorem singleton_of_slot_filled {α β : Type} (f : β → Option α) (vs : List β) (x : α)
    (h : slot f none vs = some (some x)) : ∃ v, vs = [v] ∧ f v = some x := by
  rcases (slot_none_some_iff f vs _).mp h with ⟨_, hh⟩ | ⟨v, y, hv, hy, hh⟩
  · cases hh
  · cases hh
    exact ⟨v, hv, hy⟩

theorem valuesOf_cons (k k' : Bytes) (v : Json) (ms : List (Bytes × Json)) :
    valuesOf k ((k', v) :: ms) = if k' = k then v :: valuesOf k ms else valuesOf k ms := by
  unfold valuesOf
  by_cases h : k' = k <;> simp [h]

theorem membersOf2_cons (a b k : Bytes) (v : Json) (ms : List (Bytes × Json)) :
    membersOf2 a b ((k, v) :: ms) = if k = a ∨ k = b then (k, v) :: membersOf2 a b ms else membersOf2 a b ms := by
  unfold membersOf2
  by_cases h1 : k = a <;> by_cases h2 : k = b <;> simp [h1, h2]

/-! Three facts about `Option.bind` carry both loops: a round of a dup-checked slot is a bind over
    `if filled then none else read v` (`slot_cons_bind`, `ite_map_bind`), and such a bind commutes with
    the slots it does not touch (`ite_bind_swap`). -/

theorem slot_cons_bind {α β γ : Type} (f : β → Option α) (cur : Option α) (v : β) (vs : List β)
    (K : Option α → Option γ) :
    (slot f cur (v :: vs)).bind K = (if cur.isSome then none else f v).bind fun x => (slot f (some x) vs).bind K := by
  cases cur with
  | some x => rfl
  | none =>
    show ((f v).bind fun x => slot f (some x) vs).bind K = _
    cases f v <;> rfl

theorem ite_map_bind {α β γ : Type} (c : Prop) [Decidable c] (o : Option α) (g : α → β) (F : β → Option γ) :
    (if c then none else o.map g).bind F = (if c then none else o).bind fun x => F (g x) := by
  split
  · rfl
  · cases o <;> rfl

theorem ite_bind_swap {α β γ : Type} (c : Prop) [Decidable c] (o : Option α) (S : Option β)
    (F : α → β → Option γ) :
    ((if c then none else o).bind fun x => S.bind fun s => F x s) =
      S.bind fun s => (if c then none else o).bind fun x => F x s := by
  cases S with
  | none => simp
  | some s => rfl

/-! The body of each `visit_map` loop, one equation for each member name it asks for and one for the names it skips. -/

theorem policyField_version (acc : PolAcc) (v : Json) :
    policyField acc (kVersion, v) =
      if acc.version.isSome then none else (optVersion v).map fun x => { acc with version := some x } := by
  unfold policyField
  dsimp only
  rw [if_pos rfl]

theorem policyField_id (acc : PolAcc) (v : Json) :
    policyField acc (kId, v) =
      if acc.id.isSome then none else (optString v).map fun x => { acc with id := some x } := by
  unfold policyField
  dsimp only
  rw [if_neg, if_pos rfl]
  all_goals decide

theorem policyField_statement (acc : PolAcc) (v : Json) :
    policyField acc (kStatement, v) =
      if acc.statement.isSome then none
      else (statementsOfJson v).map fun x => { acc with statement := some x } := by
  unfold policyField
  dsimp only
  rw [if_neg, if_neg, if_pos rfl]
  all_goals decide

theorem policyField_other (acc : PolAcc) (k : Bytes) (v : Json) (h1 : k ≠ kVersion) (h2 : k ≠ kId)
    (h3 : k ≠ kStatement) : policyField acc (k, v) = some acc := by
  simp [policyField, h1, h2, h3]

theorem policy_fold (ms : List (Bytes × Json)) : ∀ acc : PolAcc,
    ms.foldlM policyField acc =
      (slot optVersion acc.version (valuesOf kVersion ms)).bind fun v =>
      (slot optString acc.id (valuesOf kId ms)).bind fun i =>
      (slot statementsOfJson acc.statement (valuesOf kStatement ms)).bind fun s =>
      some ⟨v, i, s⟩ := by
  induction ms with
  | nil => intro acc; rfl
  | cons e ms ih =>
    intro acc
    obtain ⟨k, v⟩ := e
    rw [List.foldlM_cons]
    by_cases h1 : k = kVersion
    · subst h1
      simp (config := { decide := true }) only [policyField_version, valuesOf_cons, if_true, if_false, slot_cons_bind,
        ite_map_bind, ih, Option.bind_eq_bind]
    by_cases h2 : k = kId
    · subst h2
      simp (config := { decide := true }) only [policyField_id, valuesOf_cons, if_true, if_false, slot_cons_bind,
        ite_map_bind, ih, ite_bind_swap, Option.bind_eq_bind]
    by_cases h3 : k = kStatement
    · subst h3
      simp (config := { decide := true }) only [policyField_statement, valuesOf_cons, if_true, if_false, slot_cons_bind,
        ite_map_bind, ih, ite_bind_swap, Option.bind_eq_bind]
    rw [policyField_other _ _ _ h1 h2 h3]
    simp only [valuesOf_cons, h1, h2, h3, if_false]
    exact ih _

/-- what `Statement::visit_map` makes of a member of the principal block: the value through the
    reader of `Principal`, wrapped by the variant the name selects -/
def principalMemberOf (kv : Bytes × Json) : Option PrincipalRule :=
  (principalOfJson kv.2).map fun p => if kv.1 = kPrincipal then .principal p else .notPrincipal p

/-- the same for a member of the action block, through the reader of `WildcardOneOrMore<String>` -/
def actionMemberOf (kv : Bytes × Json) : Option ActionRule :=
  (woomOfJson kv.2).map fun w => if kv.1 = kAction then .action w else .notAction w

/-- and of the resource block -/
def resourceMemberOf (kv : Bytes × Json) : Option ResourceRule :=
  (woomOfJson kv.2).map fun w => if kv.1 = kResource then .resource w else .notResource w

theorem stmtField_sid (acc : StAcc) (v : Json) :
    stmtField acc (kSid, v) =
      if acc.sid.isSome then none else (optString v).map fun x => { acc with sid := some x } := by
  unfold stmtField
  dsimp only
  rw [if_pos rfl]

theorem stmtField_effect (acc : StAcc) (v : Json) :
    stmtField acc (kEffect, v) =
      if acc.effect.isSome then none else (nameEnum effectOfName v).map fun x => { acc with effect := some x } := by
  unfold stmtField
  dsimp only
  -- `stmtField` asks for the nine names in a chain of `if`s: one `if_neg` for each name it asks for before this one (here
  -- `Sid`, `Principal`, `NotPrincipal`), each closed by `decide`; the same in the equations for the other names
  rw [if_neg, if_neg, if_neg, if_pos rfl]
  all_goals decide

theorem stmtField_condition (acc : StAcc) (v : Json) :
    stmtField acc (kCondition, v) =
      if acc.condition.isSome then none else (optCondition v).map fun x => { acc with condition := some x } := by
  unfold stmtField
  dsimp only
  rw [if_neg, if_neg, if_neg, if_neg, if_neg, if_neg, if_neg, if_neg, if_pos rfl]
  all_goals decide

/-- a name `Statement::visit_map` skips (`Field::Other`): none of the nine it asks for -/
def foreignName (k : Bytes) : Prop :=
  k ≠ kSid ∧ k ≠ kPrincipal ∧ k ≠ kNotPrincipal ∧ k ≠ kEffect ∧ k ≠ kAction ∧ k ≠ kNotAction ∧
  k ≠ kResource ∧ k ≠ kNotResource ∧ k ≠ kCondition

theorem stmtField_other (acc : StAcc) (k : Bytes) (v : Json) (h : foreignName k) : stmtField acc (k, v) = some acc := by
  obtain ⟨h1, h2, h3, h4, h5, h6, h7, h8, h9⟩ := h
  simp [stmtField, h1, h2, h3, h4, h5, h6, h7, h8, h9]

theorem stmtField_principalBlock (acc : StAcc) (k : Bytes) (hk : k = kPrincipal ∨ k = kNotPrincipal) (v : Json) :
    stmtField acc (k, v) =
      if acc.principal.isSome then none
      else (principalMemberOf (k, v)).map fun r => { acc with principal := some r } := by
  unfold stmtField principalMemberOf
  dsimp only
  rcases hk with rfl | rfl
  · rw [if_neg, if_pos rfl, Option.map_map]
    · rfl
    · decide
  · rw [if_neg, if_neg, if_pos rfl, Option.map_map]
    · rfl
    all_goals decide

theorem stmtField_actionBlock (acc : StAcc) (k : Bytes) (hk : k = kAction ∨ k = kNotAction) (v : Json) :
    stmtField acc (k, v) =
      if acc.action.isSome then none else (actionMemberOf (k, v)).map fun a => { acc with action := some a } := by
  unfold stmtField actionMemberOf
  dsimp only
  rcases hk with rfl | rfl
  · rw [if_neg, if_neg, if_neg, if_neg, if_pos rfl, Option.map_map]
    · rfl
    all_goals decide
  · rw [if_neg, if_neg, if_neg, if_neg, if_neg, if_pos rfl, Option.map_map]
    · rfl
    all_goals decide

theorem stmtField_resourceBlock (acc : StAcc) (k : Bytes) (hk : k = kResource ∨ k = kNotResource) (v : Json) :
    stmtField acc (k, v) =
      if acc.resource.isSome then none
      else (resourceMemberOf (k, v)).map fun r => { acc with resource := some r } := by
  unfold stmtField resourceMemberOf
  dsimp only
  rcases hk with rfl | rfl
  · rw [if_neg, if_neg, if_neg, if_neg, if_neg, if_neg, if_pos rfl, Option.map_map]
    · rfl
    all_goals decide
  · rw [if_neg, if_neg, if_neg, if_neg, if_neg, if_neg, if_neg, if_pos rfl, Option.map_map]
    · rfl
    all_goals decide

/-- the members of a statement object sorted into the six blocks of the grammar, document order kept -/
structure Blocks where
  sid : List Json
  principal : List (Bytes × Json)
  effect : List Json
  action : List (Bytes × Json)
  resource : List (Bytes × Json)
  condition : List Json

def blocksOf (ms : List (Bytes × Json)) : Blocks where
  sid := valuesOf kSid ms
  principal := membersOf2 kPrincipal kNotPrincipal ms
  effect := valuesOf kEffect ms
  action := membersOf2 kAction kNotAction ms
  resource := membersOf2 kResource kNotResource ms
  condition := valuesOf kCondition ms

theorem blocksOf_nil : blocksOf [] = ⟨[], [], [], [], [], []⟩ := rfl

theorem blocksOf_sid (v : Json) (ms : List (Bytes × Json)) :
    blocksOf ((kSid, v) :: ms) = { blocksOf ms with sid := v :: (blocksOf ms).sid } := by
  simp (config := { decide := true }) only [blocksOf, valuesOf_cons, membersOf2_cons, if_true, if_false]

theorem blocksOf_principalBlock (k : Bytes) (hk : k = kPrincipal ∨ k = kNotPrincipal) (v : Json)
    (ms : List (Bytes × Json)) :
    blocksOf ((k, v) :: ms) = { blocksOf ms with principal := (k, v) :: (blocksOf ms).principal } := by
  rcases hk with rfl | rfl <;>
    simp (config := { decide := true }) only [blocksOf, valuesOf_cons, membersOf2_cons, if_true, if_false]

theorem blocksOf_effect (v : Json) (ms : List (Bytes × Json)) :
    blocksOf ((kEffect, v) :: ms) = { blocksOf ms with effect := v :: (blocksOf ms).effect } := by
  simp (config := { decide := true }) only [blocksOf, valuesOf_cons, membersOf2_cons, if_true, if_false]

theorem blocksOf_actionBlock (k : Bytes) (hk : k = kAction ∨ k = kNotAction) (v : Json)
    (ms : List (Bytes × Json)) :
    blocksOf ((k, v) :: ms) = { blocksOf ms with action := (k, v) :: (blocksOf ms).action } := by
  rcases hk with rfl | rfl <;>
    simp (config := { decide := true }) only [blocksOf, valuesOf_cons, membersOf2_cons, if_true, if_false]

theorem blocksOf_resourceBlock (k : Bytes) (hk : k = kResource ∨ k = kNotResource) (v : Json)
    (ms : List (Bytes × Json)) :
    blocksOf ((k, v) :: ms) = { blocksOf ms with resource := (k, v) :: (blocksOf ms).resource } := by
  rcases hk with rfl | rfl <;>
    simp (config := { decide := true }) only [blocksOf, valuesOf_cons, membersOf2_cons, if_true, if_false]

theorem blocksOf_condition (v : Json) (ms : List (Bytes × Json)) :
    blocksOf ((kCondition, v) :: ms) = { blocksOf ms with condition := v :: (blocksOf ms).condition } := by
  simp (config := { decide := true }) only [blocksOf, valuesOf_cons, membersOf2_cons, if_true, if_false]

theorem blocksOf_foreign (k : Bytes) (v : Json) (ms : List (Bytes × Json)) (h : foreignName k) :
    blocksOf ((k, v) :: ms) = blocksOf ms := by
  obtain ⟨h1, h2, h3, h4, h5, h6, h7, h8, h9⟩ := h
  simp only [blocksOf, valuesOf_cons, membersOf2_cons, h1, h2, h3, h4, h5, h6, h7, h8, h9, or_self, if_false]

/-- the right-hand side of `stmt_fold`, on the record of the six filters -/
def slots (acc : StAcc) (b : Blocks) : Option StAcc :=
  (slot optString acc.sid b.sid).bind fun s =>
  (slot principalMemberOf acc.principal b.principal).bind fun p =>
  (slot (nameEnum effectOfName) acc.effect b.effect).bind fun e =>
  (slot actionMemberOf acc.action b.action).bind fun a =>
  (slot resourceMemberOf acc.resource b.resource).bind fun r =>
  (slot optCondition acc.condition b.condition).bind fun c =>
  some ⟨s, p, e, a, r, c⟩

/-- the loop of `Statement::visit_map` is six independent slots -/
theorem stmt_fold (ms : List (Bytes × Json)) : ∀ acc : StAcc,
    ms.foldlM stmtField acc =
      (slot optString acc.sid (valuesOf kSid ms)).bind fun s =>
      (slot principalMemberOf acc.principal (membersOf2 kPrincipal kNotPrincipal ms)).bind fun p =>
      (slot (nameEnum effectOfName) acc.effect (valuesOf kEffect ms)).bind fun e =>
      (slot actionMemberOf acc.action (membersOf2 kAction kNotAction ms)).bind fun a =>
      (slot resourceMemberOf acc.resource (membersOf2 kResource kNotResource ms)).bind fun r =>
      (slot optCondition acc.condition (valuesOf kCondition ms)).bind fun c =>
      some ⟨s, p, e, a, r, c⟩ := by
  -- with the six filters collected in `blocksOf ms` a member changes one field of a record; in each case the round
  -- of the member's slot is moved past the slots before it
  show ∀ acc : StAcc, ms.foldlM stmtField acc = slots acc (blocksOf ms)
  induction ms with
  | nil => intro acc; rfl
  | cons e ms ih =>
    intro acc
    obtain ⟨k, v⟩ := e
    rw [List.foldlM_cons]
    by_cases h1 : k = kSid
    · subst h1
      simp only [stmtField_sid, blocksOf_sid, slots, slot_cons_bind, ite_map_bind, ih, Option.bind_eq_bind]
    by_cases h2 : k = kPrincipal ∨ k = kNotPrincipal
    · simp only [stmtField_principalBlock _ _ h2, blocksOf_principalBlock _ h2, slots, slot_cons_bind, ite_map_bind, ih,
        ite_bind_swap, Option.bind_eq_bind]
    by_cases h3 : k = kEffect
    · subst h3
      simp only [stmtField_effect, blocksOf_effect, slots, slot_cons_bind, ite_map_bind, ih, ite_bind_swap,
        Option.bind_eq_bind]
    by_cases h4 : k = kAction ∨ k = kNotAction
    · simp only [stmtField_actionBlock _ _ h4, blocksOf_actionBlock _ h4, slots, slot_cons_bind, ite_map_bind, ih,
        ite_bind_swap, Option.bind_eq_bind]
    by_cases h5 : k = kResource ∨ k = kNotResource
    · simp only [stmtField_resourceBlock _ _ h5, blocksOf_resourceBlock _ h5, slots, slot_cons_bind, ite_map_bind, ih,
        ite_bind_swap, Option.bind_eq_bind]
    by_cases h6 : k = kCondition
    · subst h6
      simp only [stmtField_condition, blocksOf_condition, slots, slot_cons_bind, ite_map_bind, ih,
        ite_bind_swap, Option.bind_eq_bind]
    have hf : foreignName k := ⟨h1, (not_or.mp h2).1, (not_or.mp h2).2, h3, (not_or.mp h4).1, (not_or.mp h4).2,
      (not_or.mp h5).1, (not_or.mp h5).2, h6⟩
    rw [stmtField_other _ _ _ hf, blocksOf_foreign _ _ _ hf]
    exact ih _

theorem statementOfMembers_eq_some_iff (ms : List (Bytes × Json)) (s : Statement) :
    statementOfMembers ms = some s ↔ ∃ sid co,
      slot optString none (valuesOf kSid ms) = some sid ∧
      slot principalMemberOf none (membersOf2 kPrincipal kNotPrincipal ms) = some s.principal ∧
      slot (nameEnum effectOfName) none (valuesOf kEffect ms) = some (some s.effect) ∧
      slot actionMemberOf none (membersOf2 kAction kNotAction ms) = some (some s.action) ∧
      slot resourceMemberOf none (membersOf2 kResource kNotResource ms) = some (some s.resource) ∧
      slot optCondition none (valuesOf kCondition ms) = some co ∧
      s.sid = sid.getD none ∧ s.condition = co.getD none := by
  unfold statementOfMembers
  rw [stmt_fold]
  simp only [Option.bind_eq_some_iff, Option.some.injEq]
  constructor
  · rintro ⟨_, ⟨sid, hsid, pr, hpr, ef, hef, ac, hac, re, hre, co, hco, rfl⟩, effect, rfl, action, rfl, resource, rfl, rfl⟩
    exact ⟨sid, co, hsid, hpr, hef, hac, hre, hco, rfl, rfl⟩
  · rintro ⟨sid, co, hsid, hpr, hef, hac, hre, hco, h1, h2⟩
    refine ⟨_, ⟨sid, hsid, _, hpr, _, hef, _, hac, _, hre, co, hco, rfl⟩, _, rfl, _, rfl, _, rfl, ?_⟩
    rw [← h1, ← h2]

theorem policyOfMembers_eq_some_iff (ms : List (Bytes × Json)) (p : Policy) :
    policyOfMembers ms = some p ↔ ∃ v i,
      slot optVersion none (valuesOf kVersion ms) = some v ∧
      slot optString none (valuesOf kId ms) = some i ∧
      slot statementsOfJson none (valuesOf kStatement ms) = some (some p.statement) ∧
      p.version = v.getD none ∧ p.id = i.getD none := by
  unfold policyOfMembers
  rw [policy_fold]
  simp only [Option.bind_eq_some_iff, Option.some.injEq]
  constructor
  · rintro ⟨_, ⟨v, hv, i, hi, s, hs, rfl⟩, st, rfl, rfl⟩
    exact ⟨v, i, hv, hi, hs, rfl, rfl⟩
  · rintro ⟨v, i, hv, hi, hs, h1, h2⟩
    refine ⟨_, ⟨v, hv, i, hi, _, hs, rfl⟩, _, rfl, ?_⟩
    rw [← h1, ← h2]

def statementMembers (s : Statement) : List (Bytes × Json) :=
  [(kSid, optStrJson s.sid)] ++ principalMembers s.principal ++
    [(kEffect, .str (effectName s.effect)), actionMember s.action, resourceMember s.resource,
     (kCondition, optConditionJson s.condition)]

theorem statementJson_eq (s : Statement) : statementJson s = .obj (statementMembers s) := rfl

theorem blocksOf_principalMembers (pr : Option PrincipalRule) (ms : List (Bytes × Json)) :
    blocksOf (principalMembers pr ++ ms) =
      { blocksOf ms with principal := principalMembers pr ++ (blocksOf ms).principal } := by
  rcases pr with _ | ⟨p | p⟩
  · rfl
  · exact blocksOf_principalBlock _ (.inl rfl) _ ms
  · exact blocksOf_principalBlock _ (.inr rfl) _ ms

theorem blocksOf_actionMember (ac : ActionRule) (ms : List (Bytes × Json)) :
    blocksOf (actionMember ac :: ms) = { blocksOf ms with action := actionMember ac :: (blocksOf ms).action } := by
  cases ac with
  | action w => exact blocksOf_actionBlock _ (.inl rfl) _ ms
  | notAction w => exact blocksOf_actionBlock _ (.inr rfl) _ ms

theorem blocksOf_resourceMember (re : ResourceRule) (ms : List (Bytes × Json)) :
    blocksOf (resourceMember re :: ms) =
      { blocksOf ms with resource := resourceMember re :: (blocksOf ms).resource } := by
  cases re with
  | resource w => exact blocksOf_resourceBlock _ (.inl rfl) _ ms
  | notResource w => exact blocksOf_resourceBlock _ (.inr rfl) _ ms

/-- the encoder writes each block once -/
theorem statementMembers_blocks (s : Statement) :
    valuesOf kSid (statementMembers s) = [optStrJson s.sid] ∧
    membersOf2 kPrincipal kNotPrincipal (statementMembers s) = principalMembers s.principal ∧
    valuesOf kEffect (statementMembers s) = [.str (effectName s.effect)] ∧
    membersOf2 kAction kNotAction (statementMembers s) = [actionMember s.action] ∧
    membersOf2 kResource kNotResource (statementMembers s) = [resourceMember s.resource] ∧
    valuesOf kCondition (statementMembers s) = [optConditionJson s.condition] := by
  have h : blocksOf (statementMembers s) =
      ⟨[optStrJson s.sid], principalMembers s.principal, [.str (effectName s.effect)], [actionMember s.action],
        [resourceMember s.resource], [optConditionJson s.condition]⟩ := by
    simp only [statementMembers, List.cons_append, List.nil_append, blocksOf_sid,
      blocksOf_principalMembers, blocksOf_effect, blocksOf_actionMember, blocksOf_resourceMember, blocksOf_condition,
      blocksOf_nil, List.append_nil]
  simpa only [blocksOf, Blocks.mk.injEq] using h

def ActionRule.isOneStar : ActionRule → Bool
  | .action w => w.isOneStar
  | .notAction w => w.isOneStar

def ResourceRule.isOneStar : ResourceRule → Bool
  | .resource w => w.isOneStar
  | .notResource w => w.isOneStar

theorem hasOneStar_eq (s : Statement) : s.hasOneStar = (s.action.isOneStar || s.resource.isOneStar) := by
  cases s with
  | mk sid pr ef ac re co => cases ac <;> cases re <;> rfl

theorem slot_principalMembers (pr : Option PrincipalRule) (h : ∀ r, pr = some r → r.wf) :
    slot principalMemberOf none (principalMembers pr) = some pr := by
  rcases pr with _ | ⟨p | p⟩
  · rfl
  · simp [principalMembers, slot_none_singleton, principalMemberOf, principalOfJson_principalJson p (h _ rfl)]
  · simp (config := { decide := true }) [principalMembers, slot_none_singleton, principalMemberOf,
      principalOfJson_principalJson p (h _ rfl)]

/-! What a value is read back as. The only thing lost is `One("*")` in an action or resource block, which
    comes back as `Wildcard` (`WildcardOneOrMore.norm`); `norm` carries that up to the policy, and is the
    identity where `hasOneStar` is false. -/

def ActionRule.norm : ActionRule → ActionRule
  | .action w => .action w.norm
  | .notAction w => .notAction w.norm

theorem ActionRule.norm_eq (ac : ActionRule) (h : ac.isOneStar = false) : ac.norm = ac := by
  cases ac <;> simp only [norm, WildcardOneOrMore.norm_eq _ h]

theorem actionMemberOf_actionMember (ac : ActionRule) : actionMemberOf (actionMember ac) = some ac.norm := by
  cases ac with
  | action w => simp [actionMember, actionMemberOf, woomOfJson_woomJson, ActionRule.norm]
  | notAction w =>
    simp (config := { decide := true }) [actionMember, actionMemberOf, woomOfJson_woomJson, ActionRule.norm]

def ResourceRule.norm : ResourceRule → ResourceRule
  | .resource w => .resource w.norm
  | .notResource w => .notResource w.norm

theorem ResourceRule.norm_eq (re : ResourceRule) (h : re.isOneStar = false) : re.norm = re := by
  cases re <;> simp only [norm, WildcardOneOrMore.norm_eq _ h]

theorem resourceMemberOf_resourceMember (re : ResourceRule) : resourceMemberOf (resourceMember re) = some re.norm := by
  cases re with
  | resource w => simp [resourceMember, resourceMemberOf, woomOfJson_woomJson, ResourceRule.norm]
  | notResource w =>
    simp (config := { decide := true }) [resourceMember, resourceMemberOf, woomOfJson_woomJson, ResourceRule.norm]

def Statement.norm (s : Statement) : Statement := { s with action := s.action.norm, resource := s.resource.norm }

theorem Statement.norm_eq (s : Statement) (h : s.hasOneStar = false) : s.norm = s := by
  rw [hasOneStar_eq, Bool.or_eq_false_iff] at h
  rw [norm, s.action.norm_eq h.1, s.resource.norm_eq h.2]

/-- each slot of `Statement::visit_map` finds the one member written for it and reads the value back -/
theorem statementOfJson_statementJson (s : Statement) (hw : s.mapsWf) :
    statementOfJson (statementJson s) = some s.norm := by
  obtain ⟨b1, b2, b3, b4, b5, b6⟩ := statementMembers_blocks s
  show statementOfMembers (statementMembers s) = some s.norm
  rw [statementOfMembers_eq_some_iff, b1, b2, b3, b4, b5, b6]
  refine ⟨some s.sid, some s.condition, ?_, slot_principalMembers _ hw.1, ?_, ?_, ?_, ?_, rfl, rfl⟩
  · rw [slot_none_singleton, optString_optStrJson]
    rfl
  · rw [slot_none_singleton, effect_effectName]
    rfl
  · rw [slot_none_singleton, actionMemberOf_actionMember]
    rfl
  · rw [slot_none_singleton, resourceMemberOf_resourceMember]
    rfl
  · rw [slot_none_singleton, optCondition_written _ hw.2]
    rfl

def OneOrMore.map {α β : Type} (f : α → β) : OneOrMore α → OneOrMore β
  | .one a => .one (f a)
  | .more as => .more (as.map f)

theorem OneOrMore.map_eq_self {α : Type} (f : α → α) (o : OneOrMore α) (h : ∀ a ∈ o.toList, f a = a) :
    o.map f = o := by
  cases o with
  | one a => rw [map, h a (by simp [toList])]
  | more as => rw [map, List.map_congr_left (g := id) (l := as) h, List.map_id]

theorem statementsOfJson_statementsJson (st : OneOrMore Statement) (hw : ∀ s ∈ st.toList, s.mapsWf) :
    statementsOfJson (statementsJson st) = some (st.map Statement.norm) := by
  cases st with
  | one s =>
    have := statementOfJson_statementJson s (hw s (by simp [OneOrMore.toList]))
    rw [statementsJson, statementJson_eq, statementsOfJson, ← statementOfJson, ← statementJson_eq, this]
    rfl
  | more ss =>
    rw [statementsJson, statementsOfJson, mapM_map statementOfJson statementJson Statement.norm ss fun s h =>
      statementOfJson_statementJson s (hw s h)]
    rfl

def Policy.norm (p : Policy) : Policy := { p with statement := p.statement.map Statement.norm }

theorem Policy.norm_eq (p : Policy) (h : p.hasOneStar = false) : p.norm = p := by
  simp only [hasOneStar, List.any_eq_false, Bool.not_eq_true] at h
  rw [norm, OneOrMore.map_eq_self _ _ fun s hs => s.norm_eq (h s hs)]

/-- The document written has exactly the three members, in the order the loop asks for them, so the loop is run on them
    directly (no need of `policy_fold`). `mapsWf`, the `IndexMap` invariant, holds of every Rust value. -/
theorem fromJson?_toJson (p : Policy) (hw : p.mapsWf) : fromJson? (toJson p) = some p.norm := by
  simp [toJson, fromJson?, policyOfMembers, List.foldlM_cons, policyField_version, policyField_id,
    policyField_statement, optVersion_optVersionJson, optString_optStrJson,
    statementsOfJson_statementsJson p.statement hw, Policy.norm]

end S3V.Policy
