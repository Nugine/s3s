import S3V.Thm.FsStorePut
import S3V.Thm.FsStoreGet
import S3V.Thm.FsStoreCore
import S3V.Thm.FsStoreDeleteObjects
import S3V.Thm.FsStoreList
import S3V.Thm.FsStoreCopy
import S3V.Thm.FsStoreComplete
import S3V.Thm.FsStorePartCopy
/-!
# C18: per-operation refinement assembled — `Good`, one step, whole histories
-/
namespace S3V.FsStore
open S3V.StoreSpec

/-- the (state, request) pairs on which the backend is compared with the store. Outside it lie the recorded
    deviations (see the finding classes named at each predicate) and what the theorems do not cover
    (`delete_objects` under a bucket name both sides refuse; an owner's `complete_multipart_upload` under a bucket name or key
    both refuse — no reachable state has such an upload; `upload_part_copy` from a source of `2^63` bytes or more). -/
def Good (s : State) : Op → Prop
  | .createBucket b => NameOk b
  | .deleteBucket b => NameOk b
  | .headBucket b => NameOk b
  | .getBucketLocation b => NameOk b
  | .listBuckets => True
  | .putObject b k _ _ _ _ => PutOk s b k
  | .getObject b k _ => GetOk s b k
  | .headObject b k => HeadOk s b k
  | .deleteObject b k => DeleteOk s b k
  | .deleteObjects b ks => DeleteObjectsOk s b ks
  | .copyObject sb sk db dk => CopyOk s sb sk db dk
  | .listObjectsV2 b p _ _ _ => ListOk b p
  | .listObjects b p _ _ _ => ListOk b p
  | .createMultipartUpload _ b k _ => CreateUploadOk s b k
  | .uploadPart .. => True
  | .uploadPartCopy _ b k u n sb sk r => UploadPartCopyOk s b k u n sb sk r
  | .listParts .. => True
  | .completeMultipartUpload who b k u parts => CompleteOk s who b k u parts
  | .abortMultipartUpload .. => True

instance (s : State) (op : Op) : Decidable (Good s op) := by
  cases op <;> (unfold Good; infer_instance)

theorem inv_empty : Inv {} := by
  refine ⟨?_, ?_, ?_, ?_, ?_, ?_, ?_, ?_, ?_⟩ <;> simp [keysNodup]

theorem step_refines (H : Hashes) (dl : Nat) {s : State} (hi : Inv s) {op : Op} (hg : Good s op) : Refines H dl s op := by
  cases op with
  | createBucket b => exact createBucket_refines H dl hi hg
  | deleteBucket b => exact deleteBucket_refines H dl hi hg
  | headBucket b => exact headBucket_refines H dl hi hg
  | getBucketLocation b => exact getBucketLocation_refines H dl hi hg
  | listBuckets => exact listBuckets_refines H dl hi
  | putObject b k c md cks clen => exact put_refines H dl hi hg
  | getObject b k r => exact get_refines H dl hi hg
  | headObject b k => exact head_refines H dl hi hg
  | deleteObject b k => exact delete_refines H dl hi hg
  | deleteObjects b ks => exact deleteObjects_refines H dl hi hg
  | copyObject sb sk db dk => exact copy_refines H dl hi hg
  | listObjectsV2 b p d a m => exact listV2_refines H dl hi hg
  | listObjects b p d a m => exact listV1_refines H dl hi hg
  | createMultipartUpload w b k md => exact createUpload_refines H dl hi hg
  | uploadPart w b k u n c => exact uploadPart_refines H dl hi
  | uploadPartCopy w b k u n sb sk r => exact uploadPartCopy_refines H dl hi hg
  | listParts w b k u => exact listParts_refines H dl hi
  | completeMultipartUpload w b k u parts => exact complete_refines H dl hi hg
  | abortMultipartUpload w b k u => exact abort_refines H dl hi

/-- every request of the history meets `Good` in the state the backend is in when it arrives -/
def GoodRun (H : Hashes) (dl : Nat) : State → List Op → Prop
  | _, [] => True
  | s, op :: ops => Good s op ∧ GoodRun H dl (step H dl s op).1 ops

instance (H : Hashes) (dl : Nat) : ∀ (s : State) (ops : List Op), Decidable (GoodRun H dl s ops)
  | _, [] => isTrue trivial
  | s, op :: ops =>
    have := instDecidableGoodRun H dl (step H dl s op).1 ops
    by unfold GoodRun; infer_instance

theorem history_refines (H : Hashes) (dl : Nat) : ∀ (ops : List Op) (s : State), Inv s → GoodRun H dl s ops →
    (run H dl s ops).2 = (StoreSpec.run H (abs s) ops).2 ∧
    abs (run H dl s ops).1 = (StoreSpec.run H (abs s) ops).1 ∧ Inv (run H dl s ops).1 := by
  intro ops
  induction ops with
  | nil => intro s hi _; exact ⟨rfl, rfl, hi⟩
  | cons op ops ih =>
    intro s hi hg
    obtain ⟨hg1, hg2⟩ := hg
    obtain ⟨h1, h2, h3⟩ := step_refines H dl hi hg1
    obtain ⟨i1, i2, i3⟩ := ih (step H dl s op).1 h3 hg2
    simp only [run, StoreSpec.run]
    rw [h2] at i1 i2
    exact ⟨by simp [h1, i1], i2, i3⟩

end S3V.FsStore
