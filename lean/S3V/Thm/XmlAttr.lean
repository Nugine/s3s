import S3V.Thm.XmlWf
import S3V.Thm.XmlToken
import S3V.Thm.XmlUtf8
/-!
Attributes (code since 680006e): what `Deserializer::attribute` — quick-xml's attribute iterator, attribute-value
normalisation, `unescape` — reads from a start tag is what `start_of` / `attr_value` wrote into it.
-/
namespace S3V.Xml
open S3V

/-- a (key, raw value) pair that `start_of` can write so that the iterator reads it back -/
def PairOk (kv : Bytes × Bytes) : Prop := keyPlain kv.1 = true ∧ ∀ c ∈ kv.2, c ≠ cQuot

theorem encAttrs_struct (fs : Flds) (vs : List FVal) : encAttrs (.struct fs) (.struct vs) = attrsOf (attrPairs fs vs) := by
  simp only [encAttrs, attrsOf]

theorem attrKeyOk_plain {k : Bytes} (h : attrKeyOk k = true) : keyPlain k = true ∧ k ≠ xmlnsXsiKey ∧ k ≠ xmlnsKey := by
  simp only [attrKeyOk, Bool.and_eq_true] at h
  refine ⟨by simp only [keyPlain, Bool.and_eq_true]; exact h.1.1, ?_, ?_⟩
  · simpa using h.1.2
  · simpa using h.2

theorem attrsOf_append (a b : List (Bytes × Bytes)) : attrsOf (a ++ b) = attrsOf a ++ attrsOf b := by
  simp [attrsOf]

/-- the ` xmlns="…"` of a root as a (key, raw value) pair, so that `nsAttr` is an `attrsOf` like the rest -/
def nsPairsOf : Option Bytes → List (Bytes × Bytes)
  | none => []
  | some uri => [(xmlnsKey, escape uri)]

theorem nsAttr_eq (ns : Option Bytes) : nsAttr ns = attrsOf (nsPairsOf ns) := by
  cases ns <;> simp [nsAttr, nsPairsOf, attrsOf, attrSeg, xmlnsKey]

/-- `try_get_attribute(name)` over what `start_of` wrote: the raw value of the first pair with that key -/
theorem attrFind_written (name : Bytes) : ∀ (ps : List (Bytes × Bytes)) (fuel : Nat), (∀ kv ∈ ps, PairOk kv) →
    (attrsOf ps).length < fuel →
    attrFind name fuel (attrsOf ps) = .ok ((ps.find? fun kv => kv.1 = name).map (·.2))
  | [], fuel, _, hf => by
    cases fuel with
    | zero => simp at hf
    | succ k => simp [attrsOf, attrFind, attrNext]
  | kv :: ps, fuel, hok, hf => by
    cases fuel with
    | zero => simp at hf
    | succ k =>
      obtain ⟨hk, hv⟩ := hok kv (by simp)
      rw [attrsOf_cons] at hf ⊢
      simp only [attrFind, attrNext_seg kv.1 kv.2 _ hk hv]
      by_cases hn : kv.1 = name
      · simp [hn]
      · have hlen : 0 < (attrSeg kv.1 kv.2).length := by simp [attrSeg]
        rw [if_neg hn, attrFind_written name ps k (fun x hx => hok x (by simp [hx]))
          (by simp only [List.length_append] at hf; omega)]
        simp [List.find?, hn]

/-! ### which pair a member's name finds -/

/-- the pairs one member contributes (the inline `match` of `attrPairs`) -/
def memberPairs (tag : Bytes) : Shape → FVal → List (Bytes × Bytes)
  | .attr, .one (.str b) => nsDeclFor tag ++ [(tag, escapeAttr b)]
  | _, _ => []

theorem attrPairs_cons (tag : Bytes) (p : Pres) (sh : Shape) (s : Sch) (rest : Flds) (fv : FVal) (fvs : List FVal) :
    attrPairs (.cons tag p sh s rest) (fv :: fvs) = memberPairs tag sh fv ++ attrPairs rest fvs := rfl

theorem nsDeclFor_key (tag : Bytes) : ∀ kv ∈ nsDeclFor tag, kv = (xmlnsXsiKey, escapeAttr xmlnsXsi) := by
  intro kv hkv
  unfold nsDeclFor at hkv
  split at hkv
  · exact List.mem_singleton.mp hkv
  · cases hkv

/-- a member writes its own name, after the declaration `xmlns:xsi` if the name has that prefix -/
theorem mem_memberPairs {tag : Bytes} {sh : Shape} {fv : FVal} {kv : Bytes × Bytes} (h : kv ∈ memberPairs tag sh fv) :
    kv = (xmlnsXsiKey, escapeAttr xmlnsXsi) ∨ ∃ b, kv = (tag, escapeAttr b) := by
  unfold memberPairs at h
  split at h
  · rcases List.mem_append.mp h with h | h
    · exact .inl (nsDeclFor_key tag kv h)
    · exact .inr ⟨_, List.mem_singleton.mp h⟩
  · cases h

theorem attrPairs_key : ∀ (fs : Flds) (fvs : List FVal), ∀ kv ∈ attrPairs fs fvs, kv.1 = xmlnsXsiKey ∨ kv.1 ∈ fs.tags
  | .nil, _, kv, h => by simp [attrPairs] at h
  | .cons _ _ _ _ _, [], kv, h => by simp [attrPairs] at h
  | .cons tag p sh s rest, fv :: fvs, kv, h => by
    rw [attrPairs_cons, List.mem_append] at h
    rcases h with h | h
    · rcases mem_memberPairs h with rfl | ⟨b, rfl⟩
      · exact .inl rfl
      · exact .inr (List.mem_cons_self ..)
    · exact (attrPairs_key rest fvs kv h).imp_right (List.mem_cons_of_mem _)

/-- the raw value among the written pairs that the name `t` finds: what `Deserializer::attribute(t)` goes on with -/
def attrSlot (fs : Flds) (fvs : List FVal) (t : Bytes) : Option Bytes :=
  ((attrPairs fs fvs).find? fun kv => kv.1 = t).map (·.2)

theorem attrSlot_not_mem {t : Bytes} (ht : t ≠ xmlnsXsiKey) (fs : Flds) (fvs : List FVal) (h : t ∉ fs.tags) :
    attrSlot fs fvs t = none := by
  have : (attrPairs fs fvs).find? (fun kv => kv.1 = t) = none := by
    rw [List.find?_eq_none]
    intro kv hkv hk
    rcases attrPairs_key fs fvs kv hkv with h1 | h1
    · exact ht ((of_decide_eq_true hk).symm.trans h1)
    · exact h (of_decide_eq_true hk ▸ h1)
  rw [attrSlot, this]
  rfl

theorem attrSlot_cons_skip {tag : Bytes} {sh : Shape} {fv : FVal} (h : memberPairs tag sh fv = []) (p : Pres) (s : Sch)
    (rest : Flds) (fvs : List FVal) (t : Bytes) :
    attrSlot (.cons tag p sh s rest) (fv :: fvs) t = attrSlot rest fvs t := by
  rw [attrSlot, attrPairs_cons, h]
  rfl

theorem attrSlot_cons_ne {t tag : Bytes} (ht : t ≠ xmlnsXsiKey) (hne : t ≠ tag) (p : Pres) (sh : Shape) (s : Sch)
    (rest : Flds) (fv : FVal) (fvs : List FVal) :
    attrSlot (.cons tag p sh s rest) (fv :: fvs) t = attrSlot rest fvs t := by
  have hm : (memberPairs tag sh fv).find? (fun kv => kv.1 = t) = none := by
    rw [List.find?_eq_none]
    intro kv hkv hk
    rcases mem_memberPairs hkv with rfl | ⟨b, rfl⟩
    · exact ht (of_decide_eq_true hk).symm
    · exact hne (of_decide_eq_true hk).symm
  rw [attrSlot, attrPairs_cons, List.find?_append, hm, Option.none_or]
  rfl

theorem attrSlot_cons_attr {t : Bytes} (ht : t ≠ xmlnsXsiKey) (tag : Bytes) (p : Pres) (s : Sch) (rest : Flds) (b : Bytes)
    (fvs : List FVal) :
    attrSlot (.cons tag p .attr s rest) (.one (.str b) :: fvs) t =
      if tag = t then some (escapeAttr b) else attrSlot rest fvs t := by
  have hns : (nsDeclFor tag).find? (fun kv => kv.1 = t) = none := by
    rw [List.find?_eq_none]
    intro kv hkv hk
    rw [nsDeclFor_key tag kv hkv] at hk
    exact ht (of_decide_eq_true hk).symm
  simp only [attrSlot, attrPairs_cons, memberPairs, List.find?_append, hns, Option.none_or, List.find?_cons,
    List.find?_nil]
  by_cases h : tag = t
  · simp only [h, decide_true, Option.some_or, Option.map_some, if_true]
  · simp only [h, decide_false, Option.none_or, if_false]

/-! ### every pair the serialiser writes is read back -/

theorem attrPairs_ok : ∀ (fs : Flds) (fvs : List FVal), fs.wf = true → ∀ kv ∈ attrPairs fs fvs, PairOk kv
  | .nil, _, _, kv, h => by simp [attrPairs] at h
  | .cons _ _ _ _ _, [], _, kv, h => by simp [attrPairs] at h
  | .cons tag p sh s rest, fv :: fvs, hwf, kv, h => by
    simp only [Flds.wf, Bool.and_eq_true] at hwf
    rw [attrPairs_cons, List.mem_append] at h
    rcases h with h | h
    · have hsh : sh = .attr := by
        cases sh <;> first | rfl | cases h
      subst hsh
      rcases mem_memberPairs h with rfl | ⟨b, rfl⟩
      · exact ⟨(by decide : keyPlain xmlnsXsiKey = true), escapeAttr_noQuot _⟩
      · exact ⟨(attrKeyOk_plain hwf.2.2).1, escapeAttr_noQuot _⟩
    · exact attrPairs_ok rest fvs hwf.2.1 kv h

theorem nsPairsOf_good (ns : Option Bytes) : ∀ kv ∈ nsPairsOf ns, PairGood kv := by
  cases ns with
  | none => exact fun _ h => nomatch h
  | some uri =>
    intro kv h
    cases List.mem_singleton.mp h
    exact ⟨(by decide : goodName xmlnsKey = true), fun c hc => (escape_no uri c hc).2⟩

/-- what `Deserializer::attribute` does with the raw value `try_get_attribute` found: `str::from_utf8`, the
normalisation, `unescape` -/
def attrRead : Option Bytes → Except DeErr (Option Bytes)
  | none => .ok none
  | some raw =>
    if utf8Valid raw then
      match unescape (attrNormalize raw) with
      | some s => .ok (some s)
      | none => .error .invalidXml
    else .error .invalidContent

/-- the string `attr_value` wrote (a Rust `String`: valid UTF-8) is read back -/
theorem attrRead_escapeAttr {b : Bytes} (hv : utf8Valid b = true) : attrRead (some (escapeAttr b)) = .ok (some b) := by
  simp only [attrRead, utf8Valid_escapeAttr hv, if_true, attrNormalize_escapeAttr, unescape_escapeAttr]

/-- **`Deserializer::attribute(k)` over any attributes `start_of` can write** reads the raw value of the first pair
that has the key -/
theorem attrValue_attrsOf {ps : List (Bytes × Bytes)} (hok : ∀ kv ∈ ps, PairOk kv) (k : Bytes) :
    attrValue k (attrsOf ps) = attrRead ((ps.find? fun kv => kv.1 = k).map (·.2)) := by
  simp only [attrValue, attrFind_written k ps ((attrsOf ps).length + 1) hok (by omega)]
  cases (ps.find? fun kv => kv.1 = k).map (·.2) <;> rfl

/-- `attrValue_attrsOf` on the start tag written for a struct value (`ns`: the namespace a root declares,
`content_with_ns`; `none` for every other element), through the member's own look-up `attrSlot` -/
theorem attrValue_written (ns : Option Bytes) (fs : Flds) (fvs : List FVal)
    (hwf : fs.wf = true) (t : Bytes) (ht' : t ≠ xmlnsKey) :
    attrValue t (nsAttr ns ++ attrsOf (attrPairs fs fvs)) = attrRead (attrSlot fs fvs t) := by
  rw [nsAttr_eq, ← attrsOf_append, attrValue_attrsOf fun kv hkv => (List.mem_append.mp hkv).elim
    (fun h => (nsPairsOf_good ns kv h).imp_left goodName_keyPlain) (attrPairs_ok fs fvs hwf kv)]
  -- the name of a member is not `xmlns`: the look-up passes the namespace pair
  cases ns with
  | none => rfl
  | some uri =>
    rw [attrSlot]
    exact congrArg _ (congrArg _ (List.find?_cons_of_neg (by simpa using fun e : xmlnsKey = t => ht' e.symm)))

end S3V.Xml
