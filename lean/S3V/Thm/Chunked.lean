import S3V.Model.Chunked
import S3V.Thm.ChunkedSpec
/-!
# Lemmas: the frame-level readers of `AwsChunkedStream` commute with concatenation

Stream abstraction: the state `(prev, fs)` of the Rust code (unread tail of the current frame, frames
still to come) stands for the byte string `prev ++ transportBytes fs` and the flag
`transportBroken fs`. `MetaRes.Post` / `ReadRes.Post` read an answer of a reader as a statement about
that byte string and that flag: what was read off its front and what state stands for the rest, or
why nothing can be read. Each reader answers what the reference decoder finds on the byte string
(`readMeta_post`: `splitLine`; `readData_post`: `chunkBody`; under them `takeData_post`,
`readExpect_post`, `readCrlf_post`). Before them: `splitNl` is `splitLine`.
-/
namespace S3V.Chunked
open S3V S3V.ChunkedSpec

theorem splitNl_eq_splitLine (b : Bytes) : splitNl b = splitLine b := by
  induction b with
  | nil => rfl
  | cons c cs ih =>
    rw [splitLine, ← ih, splitNl, splitNl, List.dropWhile_cons, List.takeWhile_cons]
    by_cases hc : c = 10
    · subst hc
      rfl
    · have h1 : (c != LF) = true := bne_iff_ne.mpr hc
      rw [if_neg hc, if_pos h1, if_pos h1]
      cases List.dropWhile (fun x => x != LF) cs with
      | nil => rfl
      | cons x r => rfl

/-- what an answer of the header reader says of the bytes `bs` left and of whether the transport fails: no line feed
    to come, or the header line and the state that stands for the bytes behind it -/
def MetaRes.Post (bs : Bytes) (broken : Bool) : MetaRes → Prop
  | .eof => splitLine bs = none ∧ broken = false
  | .err => splitLine bs = none ∧ broken = true
  | .ok line prev fs => splitLine bs = some (line, prev ++ transportBytes fs) ∧ transportBroken fs = broken

theorem readMetaGo_post : ∀ (fs : List Frame) (buf : Bytes), splitLine buf = none →
    (readMetaGo fs buf).Post (buf ++ transportBytes fs) (transportBroken fs)
  | [], _, hbuf => ⟨by rwa [transportBytes, List.append_nil], rfl⟩
  | .err :: _, _, hbuf => ⟨by rwa [transportBytes, List.append_nil], rfl⟩
  | .data b :: fs, buf, hbuf => by
    rw [readMetaGo, transportBytes, transportBroken, splitNl_eq_splitLine]
    cases hb : splitLine b with
    | none =>
      have hbb : splitLine (buf ++ b) = none := by
        rw [splitLine_append_none hbuf, hb]
        rfl
      rw [← List.append_assoc]
      exact readMetaGo_post fs _ hbb
    | some p =>
      refine ⟨?_, rfl⟩
      rw [splitLine_append_none hbuf, splitLine_append_some hb]
      rfl

theorem readMeta_post (prev : Bytes) (fs : List Frame) :
    (readMeta prev fs).Post (prev ++ transportBytes fs) (transportBroken fs) := by
  rw [readMeta, splitNl_eq_splitLine]
  cases hp : splitLine prev with
  | none => exact readMetaGo_post fs prev hp
  | some p => exact ⟨splitLine_append_some hp _, rfl⟩

/-- what an answer of a data reader says of the bytes left and of whether the transport fails: they run out (`dry`),
    a byte is not the one expected (`bad`; it comes after bytes were read and says nothing of how the transport ends),
    or pieces were taken and a state is left that stands for `rest` -/
def ReadRes.Post (broken : Bool) (dry bad : Prop) (ok : List Bytes → Bytes → Prop) : ReadRes → Prop
  | .eof => dry ∧ broken = false
  | .underlying => dry ∧ broken = true
  | .format => bad
  | .ok pieces prev fs => ok pieces (prev ++ transportBytes fs) ∧ transportBroken fs = broken

theorem ReadRes.Post.imp {b : Bool} {dry dry' bad bad' : Prop} {ok ok' : List Bytes → Bytes → Prop} {x : ReadRes}
    (h : x.Post b dry bad ok) (h1 : dry → dry') (h2 : bad → bad') (h3 : ∀ p r, ok p r → ok' p r) :
    x.Post b dry' bad' ok' := by
  cases x with
  | eof | underlying => exact ⟨h1 h.1, h.2⟩
  | format => exact h2 h
  | ok p rem fs => exact ⟨h3 _ _ h.1, h.2⟩

/-- an answer that is not `ok` is passed on as it is; after `ok` the next reader goes on with what is left of the stream -/
theorem ReadRes.Post.bind {b : Bool} {dry bad : Prop} {ok ok' : List Bytes → Bytes → Prop} {x : ReadRes}
    {k : List Bytes → Bytes → List Frame → ReadRes} (h : x.Post b dry bad ok)
    (hk : ∀ p rem fs, ok p (rem ++ transportBytes fs) → (k p rem fs).Post (transportBroken fs) dry bad ok') :
    (match (generalizing := false) x with
      | .ok p rem fs => k p rem fs
      | r => r).Post b dry bad ok' := by
  cases x with
  | ok p rem fs => exact h.2 ▸ hk p rem fs h.1
  | _ => exact h

theorem readDataGo_post : ∀ (fs : List Frame) (need : Nat) (acc : List Bytes), 0 < need →
    (readDataGo fs need acc).Post (transportBroken fs) ((transportBytes fs).length < need) False
      fun p rest => ∃ d, p.flatten = acc.flatten ++ d ∧ d.length = need ∧ transportBytes fs = d ++ rest
  | [], _, _, hneed => ⟨hneed, rfl⟩
  | .err :: _, _, _, hneed => ⟨hneed, rfl⟩
  | .data f :: fs, need, acc, _ => by
    rw [readDataGo, transportBytes, transportBroken]
    by_cases hle : need ≤ f.length
    · rw [if_pos hle]
      exact ⟨⟨f.take need, by rw [List.flatten_append, List.flatten_singleton], List.length_take_of_le hle,
        by rw [← List.append_assoc, List.take_append_drop]⟩, rfl⟩
    · obtain ⟨m, rfl⟩ := Nat.exists_eq_add_of_lt (Nat.lt_of_not_le hle)
      rw [if_neg hle, Nat.add_assoc, Nat.add_sub_cancel_left]
      refine (readDataGo_post fs (m + 1) (acc ++ [f]) (Nat.succ_pos m)).imp ?_ id ?_
      · rw [List.length_append]
        exact (Nat.add_lt_add_left · _)
      · rintro p rest ⟨d, h1, h2, h3⟩
        rw [List.flatten_append, List.flatten_singleton, List.append_assoc] at h1
        exact ⟨f ++ d, h1, by rw [List.length_append, h2], by rw [h3, List.append_assoc]⟩

theorem takeData_post (prev : Bytes) (fs : List Frame) (n : Nat) :
    (takeData prev fs n).Post (transportBroken fs) ((prev ++ transportBytes fs).length < n) False
      fun p rest => p.flatten.length = n ∧ prev ++ transportBytes fs = p.flatten ++ rest := by
  unfold takeData
  by_cases h0 : n = 0
  · rw [if_pos h0]
    exact ⟨⟨h0.symm, rfl⟩, rfl⟩
  · rw [if_neg h0]
    by_cases hle : n ≤ prev.length
    · rw [if_pos hle]
      refine ⟨⟨?_, ?_⟩, rfl⟩
      · rw [List.flatten_singleton]
        exact List.length_take_of_le hle
      · rw [List.flatten_singleton, ← List.append_assoc, List.take_append_drop]
    · obtain ⟨m, rfl⟩ := Nat.exists_eq_add_of_lt (Nat.lt_of_not_le hle)
      rw [if_neg hle, Nat.add_assoc, Nat.add_sub_cancel_left]
      refine (readDataGo_post fs (m + 1) [prev] (Nat.succ_pos m)).imp ?_ id ?_
      · rw [List.length_append]
        exact (Nat.add_lt_add_left · _)
      · rintro p rest ⟨d, h1, h2, h3⟩
        rw [List.flatten_singleton] at h1
        rw [h1, h3, List.length_append, List.append_assoc, h2]
        exact ⟨rfl, rfl⟩

theorem readExpect_post (e : UInt8) (rem : Bytes) (fs : List Frame) :
    (readExpect e rem fs).Post (transportBroken fs) (rem ++ transportBytes fs = [])
      (∃ x r, rem ++ transportBytes fs = x :: r ∧ x ≠ e) fun _ rest => rem ++ transportBytes fs = e :: rest := by
  fun_induction readExpect e rem fs with
  | case1 xs fs => exact ⟨rfl, rfl⟩
  | case2 x xs fs hx => exact ⟨x, _, rfl, hx⟩
  | case3 | case4 => exact ⟨rfl, rfl⟩
  | case5 f fs ih => exact ih

/-- `chunkBody` behind the data bytes: CR LF, a wrong byte, or the end -/
theorem chunkBody_append (d t : Bytes) :
    chunkBody d.length (d ++ t) =
      match t with
      | [] => .short
      | [c1] => if c1 = 13 then .short else .badCrlf
      | c1 :: c2 :: r => if c1 = 13 ∧ c2 = 10 then .ok d r else .badCrlf := by
  rw [chunkBody, if_neg (Nat.not_lt.mpr (List.length_append ▸ Nat.le_add_right _ _)), List.drop_left, List.take_left]
  rfl

/-- the fast path and the two byte readers say the same of the bytes behind the data `d` -/
theorem readCrlf_post (d rem : Bytes) (fs : List Frame) :
    (readCrlf rem fs).Post (transportBroken fs) (chunkBody d.length (d ++ (rem ++ transportBytes fs)) = .short)
      (chunkBody d.length (d ++ (rem ++ transportBytes fs)) = .badCrlf)
      fun _ rest => chunkBody d.length (d ++ (rem ++ transportBytes fs)) = .ok d rest := by
  rw [readCrlf, chunkBody_append]
  by_cases hf : rem.take 2 = [CR, LF]
  · rw [if_pos hf]
    match rem, hf with
    | _ :: _ :: r, hf =>
      cases hf
      exact ⟨rfl, rfl⟩
  · rw [if_neg hf]
    refine ((readExpect_post CR rem fs).imp ?_ ?_ fun _ _ h => h).bind fun _ rem1 fs1 h1 =>
      (readExpect_post LF rem1 fs1).imp ?_ ?_ ?_
    · -- CR: the bytes run out
      intro h
      rw [h]
    · -- CR: another byte stands there
      rintro ⟨x, r, ht, hx⟩
      rw [ht]
      cases r with
      | nil => exact if_neg hx
      | cons => exact if_neg fun h => hx h.1
    · -- LF: the bytes run out behind the CR
      intro h
      rw [h1, h]
      rfl
    · -- LF: another byte stands behind the CR
      rintro ⟨x, r, ht, hx⟩
      rw [h1, ht]
      exact if_neg fun h => hx h.2
    · -- both read
      intro _ rest h
      rw [h1, h]
      rfl

theorem readData_post (prev : Bytes) (fs : List Frame) (n : Nat) :
    (readData prev fs n).Post (transportBroken fs) (chunkBody n (prev ++ transportBytes fs) = .short)
      (chunkBody n (prev ++ transportBytes fs) = .badCrlf)
      fun p rest => chunkBody n (prev ++ transportBytes fs) = .ok p.flatten rest := by
  rw [readData]
  refine ((takeData_post prev fs n).imp (fun h => if_pos h) False.elim fun _ _ h => h).bind fun p rem fs1 h => ?_
  rw [h.2, ← h.1]
  exact (readCrlf_post p.flatten rem fs1).bind fun _ _ _ h2 => ⟨h2, rfl⟩

end S3V.Chunked
