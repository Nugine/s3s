import S3V.Thm.EvStream
import S3V.Thm.BytesText
import S3V.Thm.Decimal
/-!
# Lemmas for C15: the XML payload of Stats / Progress events is read back by the spec's reader

`readCounters root (xmlPayload root d) = some (some (countersOf d))` for every `Details` (all `Option Int`
combinations, every integer), via: `splitAt1` over a delimiter-free prefix, `parseLong ∘ fmtLong = id`
(resting on `digitsVal_fmtDec_zero` of `Base/Bytes.lean`), one child element, the three optional children.
-/
namespace S3V.EvStreamThm
open S3V S3V.EvStream S3V.EvStreamSpec

theorem splitAt1_append (stop : UInt8) (a r : Bytes) (h : ∀ c ∈ a, c ≠ stop) :
    splitAt1 stop (a ++ stop :: r) = some (a, r) :=
  CutsAtFirst.append (f := splitAt1) ⟨fun _ => rfl, fun _ _ _ => rfl⟩ r (List.forall_mem_ne'.mp h)

theorem skipWs_lt (r : Bytes) : skipWs (60 :: r) = 60 :: r := by
  simp [skipWs, isWs]

/-- an element name the reader can take back: no `>` inside, not starting with `/` -/
def NameOk (n : Bytes) : Prop := (∀ c ∈ n, c ≠ 62) ∧ n.head? ≠ some 47

theorem NameOk.head_append {n : Bytes} (hn : NameOk n) (r : Bytes) : (n ++ 62 :: r).head? ≠ some 47 := by
  cases n with
  | nil => simp
  | cons c cs => simpa using hn.2

theorem openTag_elem (name r : Bytes) (hn : NameOk name) :
    openTag (60 :: (name ++ 62 :: r)) = some (name, r) := by
  unfold openTag
  rw [skipWs_lt]
  simp only [hn.head_append r, if_false]
  exact splitAt1_append 62 name r hn.1

theorem closeTag_close (name r : Bytes) (hn : ∀ c ∈ name, c ≠ 62) :
    closeTag name (60 :: 47 :: (name ++ 62 :: r)) = some r := by
  unfold closeTag
  rw [skipWs_lt]
  simp [splitAt1_append 62 name r hn]

theorem closeTag_open (root r : Bytes) (hr : r.head? ≠ some 47) : closeTag root (60 :: r) = none := by
  unfold closeTag
  rw [skipWs_lt]
  split
  · rename_i r' heq
    obtain ⟨_, rfl⟩ := List.cons.inj heq
    exact absurd rfl hr
  · rfl

theorem parseLong_fmtLong (v : Int) : parseLong (fmtLong v) = some v := by
  -- the digits start with a digit, so a text without `-` is not taken for a negative one
  obtain ⟨c, cs, hf, hc⟩ := digits_cons (digits_fmtDec v.natAbs)
  have hd := digitsVal_fmtDec_zero v.natAbs
  unfold fmtLong
  by_cases hv : v < 0
  · rw [if_pos hv, parseLong, if_neg (fmtDec_ne_nil _), hd]
    exact congrArg some (by simp only [Int.ofNat_eq_natCast]; omega)
  · rw [hf] at hd
    rw [if_neg hv, hf]
    unfold parseLong
    split
    · next ds heq => exact absurd (List.cons.inj heq).1 (digit_ne c hc 45 (by decide))
    · rw [if_neg (List.cons_ne_nil _ _), hd]
      exact congrArg some (by simp only [Int.ofNat_eq_natCast]; omega)

theorem fmtLong_no_lt (v : Int) : ∀ c ∈ fmtLong v, c ≠ 60 := by
  unfold fmtLong
  intro c hc
  split at hc
  · simp only [List.mem_cons] at hc
    rcases hc with rfl | hc
    · decide
    · exact digit_ne c (fmtDec_all_digits _ c hc) 60 (by decide)
  · exact digit_ne c (fmtDec_all_digits _ c hc) 60 (by decide)

theorem childrenFuel_child (root name : Bytes) (hn : NameOk name) (v : Int) (f : Nat) (r : Bytes) :
    childrenFuel root (f + 1) (xmlElem name (fmtLong v) ++ r) =
      (childrenFuel root f r).map fun (cs, r') => ((name, v) :: cs, r') := by
  have e1 : xmlElem name (fmtLong v) ++ r =
      60 :: (name ++ 62 :: (fmtLong v ++ 60 :: (47 :: (name ++ 62 :: r)))) := by
    simp [xmlElem]
  have hclose : closeTag root (xmlElem name (fmtLong v) ++ r) = none := by
    rw [e1]
    exact closeTag_open _ _ (hn.head_append _)
  rw [childrenFuel, hclose]
  dsimp only
  rw [e1, openTag_elem name _ hn]
  simp only [Option.bind_some, splitAt1_append 60 (fmtLong v) _ (fmtLong_no_lt v), parseLong_fmtLong,
    closeTag_close name r hn.1]

theorem childrenFuel_end (root : Bytes) (hr : ∀ c ∈ root, c ≠ 62) (f : Nat) (r : Bytes) :
    childrenFuel root (f + 1) (60 :: 47 :: (root ++ 62 :: r)) = some ([], r) := by
  rw [childrenFuel, closeTag_close root r hr]

/-- the children the reader should find, in the order the serialiser writes them -/
def optChild (name : Bytes) : Option Int → List (Bytes × Int)
  | none => []
  | some v => [(name, v)]

def childrenOf (d : Details) : List (Bytes × Int) :=
  optChild nBytesProcessed d.bytesProcessed ++ (optChild nBytesReturned d.bytesReturned ++
    optChild nBytesScanned d.bytesScanned)

theorem childrenFuel_opt (root name : Bytes) (hn : NameOk name) (v : Option Int) (f : Nat) (r : Bytes)
    (cs : List (Bytes × Int)) (r' : Bytes) (h : ∀ g, f ≤ g → childrenFuel root g r = some (cs, r')) :
    ∀ g, f + 1 ≤ g → childrenFuel root g (xmlOptLong name v ++ r) = some (optChild name v ++ cs, r') := by
  intro g hg
  cases v with
  | none => simpa [xmlOptLong, optChild] using h g (by omega)
  | some v =>
    obtain ⟨g', rfl⟩ : ∃ g', g = g' + 1 := ⟨g - 1, by omega⟩
    simp only [xmlOptLong, optChild]
    rw [childrenFuel_child root name hn v g' r, h g' (by omega)]
    rfl

theorem childrenFuel_details (root : Bytes) (hr : ∀ c ∈ root, c ≠ 62) (d : Details) (r : Bytes) :
    ∀ g, 4 ≤ g → childrenFuel root g (detailsContent d ++ 60 :: 47 :: (root ++ 62 :: r))
      = some (childrenOf d, r) := by
  -- one unit of fuel for the closing tag, one more for each of the three optional children in front of it
  have h0 : ∀ g, 1 ≤ g → childrenFuel root g (60 :: 47 :: (root ++ 62 :: r)) = some ([], r) := by
    intro g hg
    obtain ⟨g', rfl⟩ : ∃ g', g = g' + 1 := ⟨g - 1, by omega⟩
    exact childrenFuel_end root hr g' r
  have h1 := childrenFuel_opt root nBytesScanned ⟨by decide, by decide⟩ d.bytesScanned 1 _ _ _ h0
  have h2 := childrenFuel_opt root nBytesReturned ⟨by decide, by decide⟩ d.bytesReturned 2 _ _ _ h1
  have h3 := childrenFuel_opt root nBytesProcessed ⟨by decide, by decide⟩ d.bytesProcessed 3 _ _ _ h2
  intro g hg
  have := h3 g hg
  simpa [detailsContent, childrenOf, List.append_assoc] using this

/-- the middle of the XML declaration: `xml version="1.0" encoding="UTF-8"?` -/
def declMid : Bytes := [120, 109, 108, 32, 118, 101, 114, 115, 105, 111, 110, 61, 34, 49, 46, 48, 34,
  32, 101, 110, 99, 111, 100, 105, 110, 103, 61, 34, 85, 84, 70, 45, 56, 34, 63]

theorem parseDetailsDoc_xmlPayload (root : Bytes) (hroot : NameOk root) (d : Details) :
    parseDetailsDoc (xmlPayload root d) = some (root, childrenOf d) := by
  have e : xmlPayload root d =
      60 :: 63 :: (declMid ++ 62 :: (60 :: (root ++ 62 :: (detailsContent d ++ 60 :: 47 :: (root ++ 62 :: []))))) :=
    rfl
  unfold parseDetailsDoc
  have hfuel : 4 ≤ (xmlPayload root d).length + 1 := by rw [e]; simp; omega
  generalize (xmlPayload root d).length + 1 = fuel at hfuel
  rw [e, skipWs_lt]
  simp only [skipDecl, splitAt1_append 62 declMid _ (by decide), Option.map_some, Option.bind_some,
    openTag_elem root _ hroot, childrenFuel_details root hroot.1 d [] fuel hfuel]
  simp [skipWs]

theorem nameOk_stats : NameOk vStats := ⟨by decide, by decide⟩
theorem nameOk_progress : NameOk vProgress := ⟨by decide, by decide⟩

def countersOf (d : Details) : Counters := ⟨d.bytesScanned, d.bytesProcessed, d.bytesReturned⟩

theorem xmlPayload_ne_nil (root : Bytes) (d : Details) : xmlPayload root d ≠ [] := by
  simp [xmlPayload, xmlDecl]

theorem readCounters_xmlPayload (root : Bytes) (hroot : NameOk root) (d : Details) :
    readCounters root (xmlPayload root d) = some (some (countersOf d)) := by
  unfold readCounters
  simp only [xmlPayload_ne_nil, if_false, parseDetailsDoc_xmlPayload root hroot d, Option.bind_some, ne_eq,
    not_true_eq_false]
  obtain ⟨p, r, s⟩ := d
  cases p <;> cases r <;> cases s <;> rfl

end S3V.EvStreamThm
