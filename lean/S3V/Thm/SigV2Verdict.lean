import S3V.Thm.SigV2Sts
/-!
# Lemmas: what the V2 branches of `SignatureContext::check` do (C11)

`presented` names the credentials `check` looks at, `judge` what it does with them; `check_eq` puts the two
together, `check_accept_iff` reads off when a request is accepted.
-/
namespace S3V.SigV2Thm
open S3V S3V.SigV2

/-- the V2 credentials the code reads off a request -/
structure Presented where
  mode : Mode
  accessKey : Bytes
  signature : Bytes
  /-- `expires_time` of a presigned URL, in nanoseconds since the epoch -/
  expiresNs : Option Int
deriving DecidableEq, Repr

/-- which credentials `check` looks at: none when `authorization` is repeated; the query parameters as
    soon as the query has `Signature` (also when they do not parse: no fall-back to the header);
    otherwise the `AWS ak:sig` header -/
def presented (c : Ctx) : Option Presented :=
  if ((getAll c.hs (v2b!"authorization")).drop 1).isEmpty then
    match presignedQs c.qs with
    | some q => (parsePresigned q).map fun p => ⟨.presignedUrl, p.accessKey, p.signature, some p.expiresNs⟩
    | none =>
      match getUnique c.hs (v2b!"authorization") with
      | none => none
      | some a => (parseAuthV2 a).map fun x => ⟨.headerAuth, x.1, x.2, none⟩
  else none

theorem presented_eq_some {c : Ctx} {pr : Presented} (h : presented c = some pr) :
    (∃ q p, presignedQs c.qs = some q ∧ parsePresigned q = some p ∧
      pr = ⟨.presignedUrl, p.accessKey, p.signature, some p.expiresNs⟩) ∨
    (∃ x : Bytes × Bytes, presignedQs c.qs = none ∧ pr = ⟨.headerAuth, x.1, x.2, none⟩) := by
  unfold presented at h
  split at h
  · cases hq : presignedQs c.qs with
    | some q =>
      rw [hq] at h
      obtain ⟨p, hp, rfl⟩ := Option.map_eq_some_iff.mp h
      exact .inl ⟨q, p, rfl, hp, rfl⟩
    | none =>
      rw [hq] at h
      dsimp only at h
      split at h
      · cases h
      · obtain ⟨x, -, rfl⟩ := Option.map_eq_some_iff.mp h
        exact .inr ⟨x, rfl, rfl⟩
  · cases h

/-- when the query has `Signature`, the credentials looked at are those `PresignedUrlV2::parse` read -/
theorem presented_of_presignedQs {c : Ctx} {q : Pairs} {pr : Presented} (hq : presignedQs c.qs = some q)
    (h : presented c = some pr) :
    ∃ p, parsePresigned q = some p ∧ pr = ⟨.presignedUrl, p.accessKey, p.signature, some p.expiresNs⟩ := by
  rcases presented_eq_some h with ⟨q', p, hq', hp, rfl⟩ | ⟨x, hq', -⟩
  · cases hq.symm.trans hq'; exact ⟨p, hp, rfl⟩
  · cases hq.symm.trans hq'

theorem presented_header {c : Ctx} (h : ((getAll c.hs (v2b!"authorization")).drop 1).isEmpty = true)
    (hq : presignedQs c.qs = none) :
    presented c =
      ((getUnique c.hs (v2b!"authorization")).bind parseAuthV2).map fun x => ⟨.headerAuth, x.1, x.2, none⟩ := by
  rw [presented, if_pos h, hq]
  cases getUnique c.hs (v2b!"authorization") <;> rfl

/-- the `has_date` test of `v2_check_header_auth` (a `let` inside the model's `checkHeaderAuth`) -/
def hasDate (c : Ctx) : Bool :=
  !(getAll c.hs (v2b!"date")).isEmpty || !(getAll c.hs (v2b!"x-amz-date")).isEmpty

/-- `create_string_to_sign` on the fields of the context -/
def stsOf (m : Mode) (c : Ctx) : Bytes := stringToSign m c.method c.uriPath c.qs c.hs c.vhBucket

/-- the `SignatureContext` of a request as the specification sees it -/
def ctxOf (r : SigV2Spec.Req) : Ctx := ⟨r.method, r.path, implQs r, implHeaders r, r.vhBucket⟩

theorem stsOf_ctxOf (mode : SigV2Spec.Mode) (r : SigV2Spec.Req) : stsOf (implMode mode) (ctxOf r) = stsImpl mode r := rfl

/-! ## what `check` does with the credentials it looks at -/

section
variable (hmac : Bytes → Bytes → Bytes) (b64 : Bytes → Bytes) (lookup : Bytes → Option Bytes) (nowNs : Int)

/-- `v2_check_header_auth` and `v2_check_presigned_url` after parsing, as one function of the credentials: the time
    stamp is asked of a header request, the expiry of a presigned URL (only a presigned URL has one); both end with
    the look-up of the secret and the comparison of the signature made with it -/
def judge (c : Ctx) (p : Presented) : Verdict :=
  if p.mode = .headerAuth ∧ hasDate c = false then .reject .InvalidRequest
  else if ∃ t, p.expiresNs = some t ∧ nowNs > t then .reject .AccessDenied
  else match lookup p.accessKey with
    | none => .reject .NotSignedUp
    | some secret =>
      if calcSignature hmac b64 secret (stsOf p.mode c) ≠ p.signature then .reject .SignatureDoesNotMatch
      else .accept p.accessKey

theorem judge_accept_iff (c : Ctx) (p : Presented) (ak : Bytes) :
    judge hmac b64 lookup nowNs c p = .accept ak ↔
      p.accessKey = ak ∧ ∃ secret, lookup ak = some secret ∧
        p.signature = b64 (hmac secret (stsOf p.mode c)) ∧
        (p.mode = .headerAuth → hasDate c = true) ∧ ∀ e, p.expiresNs = some e → nowNs ≤ e := by
  -- the two refusals of `judge` are the negations of the last two conjuncts; past them the key and the signature decide
  fun_cases judge hmac b64 lookup nowNs c p
  next h => exact ⟨nofun, fun ⟨_, _, _, _, hdate, _⟩ => by rw [hdate h.1] at h; cases h.2⟩
  next _ h => exact ⟨nofun, fun ⟨_, _, _, _, _, he⟩ => h.elim fun t ht => absurd (he t ht.1) (Int.not_le.mpr ht.2)⟩
  next _ _ hl => exact ⟨nofun, fun ⟨hk, s, hs, _⟩ => by rw [← hk, hl] at hs; cases hs⟩
  next _ _ secret hl hs =>
    exact ⟨nofun, fun ⟨hk, s, hl', hs', _⟩ => by rw [← hk, hl] at hl'; cases hl'; exact absurd hs'.symm hs⟩
  next hd he secret hl hs =>
    refine ⟨fun h => ?_, fun ⟨hk, _⟩ => congrArg _ hk⟩
    cases h
    exact ⟨rfl, secret, hl, (Decidable.of_not_not hs).symm, fun hm => (Bool.not_eq_false _).mp fun hh => hd ⟨hm, hh⟩,
      fun e hx => Int.not_lt.mp fun hlt => he ⟨e, hx, hlt⟩⟩

theorem judge_ne_pass (c : Ctx) (p : Presented) : judge hmac b64 lookup nowNs c p ≠ .pass := by
  fun_cases judge hmac b64 lookup nowNs c p <;> nofun

/-- `check` is `judge` on the credentials it looks at; with none to look at it passes the request on,
    unless `authorization` is repeated or the query has a `Signature` that comes with unusable parameters -/
theorem check_eq (c : Ctx) :
    check hmac b64 lookup nowNs c =
      match presented c with
      | some p => judge hmac b64 lookup nowNs c p
      | none =>
        if ((getAll c.hs (v2b!"authorization")).drop 1).isEmpty && (presignedQs c.qs).isNone then .pass
        else .reject .InvalidRequest := by
  unfold check presented
  cases ((getAll c.hs (v2b!"authorization")).drop 1).isEmpty with
  | false => rfl
  | true =>
    rw [if_pos rfl, if_pos rfl]
    unfold v2Check
    cases presignedQs c.qs with
    | some q =>
      dsimp only
      unfold checkPresigned
      cases parsePresigned q with
      | none => rfl
      | some p =>
        -- no header request, and the expiry is there: `judge`'s first test is void, its second the code's; what is left
        -- are the same `if`s decided through different instances (`congr`)
        simp only [Option.map_some, judge, stsOf, reduceCtorEq, false_and, if_false, Option.some.injEq, exists_eq_left']
        congr
    | none =>
      dsimp only
      cases getUnique c.hs (v2b!"authorization") with
      | none => rfl
      | some a =>
        dsimp only
        cases parseAuthV2 a with
        | none => rfl
        | some x =>
          show (if !hasDate c then _ else _) = judge hmac b64 lookup nowNs c ⟨.headerAuth, x.1, x.2, none⟩
          -- a header request without expiry: `judge`'s first test is the code's, its second void
          simp only [judge, stsOf, Bool.not_eq_true', true_and, reduceCtorEq, false_and, exists_false, if_false]
          congr

theorem check_of_presented {c : Ctx} {p : Presented} (h : presented c = some p) :
    check hmac b64 lookup nowNs c = judge hmac b64 lookup nowNs c p := by
  rw [check_eq, h]

end

/-- `v2_check` returns `None` exactly when `Authorization` is not repeated, the query (if any) has no `Signature`
    and there is no unique `Authorization` value of the form `AWS ak:sig` -/
theorem check_pass_iff (hmac : Bytes → Bytes → Bytes) (b64 : Bytes → Bytes) (lookup : Bytes → Option Bytes)
    (nowNs : Int) (c : Ctx) :
    check hmac b64 lookup nowNs c = .pass ↔
      ((getAll c.hs (v2b!"authorization")).drop 1).isEmpty = true ∧ presignedQs c.qs = none ∧
      (getUnique c.hs (v2b!"authorization")).bind parseAuthV2 = none := by
  rw [check_eq]
  constructor
  · intro h
    cases hp : presented c with
    | some p => rw [hp] at h; exact absurd h (judge_ne_pass _ _ _ _ _ _)
    | none =>
      rw [hp] at h
      dsimp only at h
      split at h
      · rename_i hc
        rw [Bool.and_eq_true, Option.isNone_iff_eq_none] at hc
        rw [presented_header hc.1 hc.2, Option.map_eq_none_iff] at hp
        exact ⟨hc.1, hc.2, hp⟩
      · cases h
  · rintro ⟨h1, h2, h3⟩
    rw [presented_header h1 h2, h3, h1, h2]
    rfl

theorem check_accept_iff (hmac : Bytes → Bytes → Bytes) (b64 : Bytes → Bytes) (lookup : Bytes → Option Bytes)
    (nowNs : Int) (c : Ctx) (ak : Bytes) :
    check hmac b64 lookup nowNs c = .accept ak ↔
      ∃ p secret, presented c = some p ∧ p.accessKey = ak ∧ lookup ak = some secret ∧
        p.signature = b64 (hmac secret (stsOf p.mode c)) ∧
        (p.mode = .headerAuth → hasDate c = true) ∧
        (∀ e, p.expiresNs = some e → nowNs ≤ e) := by
  rw [check_eq]
  cases presented c with
  | none =>
    dsimp only
    constructor
    · intro h; split at h <;> cases h
    · rintro ⟨_, _, h, _⟩; cases h
  | some p =>
    dsimp only
    rw [judge_accept_iff]
    constructor
    · rintro ⟨hk, s, h⟩; exact ⟨p, s, rfl, hk, h⟩
    · rintro ⟨p', s, hp, hk, h⟩; cases hp; exact ⟨hk, s, h⟩

end S3V.SigV2Thm
