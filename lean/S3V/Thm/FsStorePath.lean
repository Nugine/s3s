import S3V.Model.FsStore
import S3V.Thm.BytesText
/-!
# C18 lemmas: keys and paths (what `keyPath` answers, `keyPath_eq_some`; joining components is injective on admissible paths)
-/
namespace S3V.FsStore

def CompOk (c : Bytes) : Prop := c ≠ [] ∧ slash ∉ c
def PathOk (p : Path) : Prop := p ≠ [] ∧ ∀ c ∈ p, CompOk c

theorem splitSlash_splits : SplitsAt slash splitSlash :=
  ⟨rfl, fun _ _ _ _ h => by rw [splitSlash, h]⟩

theorem splitSlash_joinWith {p : Path} (hne : p ≠ []) (h : ∀ c ∈ p, slash ∉ c) : splitSlash (joinWith [slash] p) = p :=
  splitSlash_splits.split_join (fun _ => rfl) (fun _ _ _ => rfl) hne h

theorem PathOk.join_inj {p q : Path} (hp : PathOk p) (hq : PathOk q)
    (h : joinWith [slash] p = joinWith [slash] q) : p = q := by
  have := congrArg splitSlash h
  rwa [splitSlash_joinWith hp.1 fun c hc => (hp.2 c hc).2, splitSlash_joinWith hq.1 fun c hc => (hq.2 c hc).2] at this

/-- the path of a key: its segments other than `` and `.`, when the key has no root, none of them is `..` and one is left -/
theorem keyPath_eq_some {k : Bytes} {p : Path} :
    keyPath k = some p ↔
      k.head? ≠ some slash ∧ (splitSlash k).filter (fun s => s ≠ [] ∧ s ≠ dot) = p ∧ dotdot ∉ p ∧ p ≠ [] := by
  unfold keyPath
  dsimp only
  generalize (splitSlash k).filter _ = X
  have hany : (X.any (· = dotdot) = true) ↔ dotdot ∈ X := by simp
  by_cases hh : k.head? = some slash
  · rw [if_pos hh]; exact ⟨nofun, fun h => absurd hh h.1⟩
  by_cases hd : dotdot ∈ X
  · rw [if_neg hh, if_pos (hany.mpr hd)]; exact ⟨nofun, fun ⟨_, h, h2, _⟩ => absurd (h ▸ hd) h2⟩
  by_cases he : X = []
  · rw [if_neg hh, if_neg (mt hany.mp hd), if_pos he]; exact ⟨nofun, fun ⟨_, h, _, h3⟩ => absurd (h ▸ he) h3⟩
  · rw [if_neg hh, if_neg (mt hany.mp hd), if_neg he]
    exact ⟨fun h => Option.some.inj h ▸ ⟨hh, rfl, hd, he⟩, fun h => congrArg some h.2.1⟩

theorem keyPath_pathOk {k : Bytes} {p : Path} (h : keyPath k = some p) : PathOk p := by
  obtain ⟨_, rfl, _, hne⟩ := keyPath_eq_some.mp h
  refine ⟨hne, fun c hc => ?_⟩
  obtain ⟨hc, hpass⟩ := List.mem_filter.mp hc
  exact ⟨(of_decide_eq_true hpass).1, splitSlash_splits.not_mem_of_mem hc⟩

theorem prefixes_mem {p q : Path} (h : q ∈ prefixes p) : q ≠ [] ∧ q <+: p := by
  induction p generalizing q with
  | nil => simp [prefixes] at h
  | cons a t ih =>
    simp only [prefixes, List.mem_cons, List.mem_map] at h
    rcases h with rfl | ⟨q', hq', rfl⟩
    · exact ⟨by simp, t, rfl⟩
    · exact ⟨by simp, List.cons_prefix_cons.mpr ⟨rfl, (ih hq').2⟩⟩

theorem PathOk.prefix_dropLast {p q : Path} (hp : PathOk p) (h : q ∈ prefixes p.dropLast) :
    PathOk q ∧ q.length < p.length := by
  obtain ⟨h1, h2⟩ := prefixes_mem h
  refine ⟨⟨h1, fun c hc => hp.2 c (List.dropLast_subset p (h2.subset hc))⟩, ?_⟩
  have hle := h2.length_le
  rw [List.length_dropLast] at hle
  have hpl : p.length ≠ 0 := fun h0 => hp.1 (List.length_eq_zero_iff.mp h0)
  omega

end S3V.FsStore
