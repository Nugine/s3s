import S3V.Spec.FsPathOwn
import S3V.Thm.BytesText
/-!
# Lemmas about the path model (C17)

A path is reasoned about through its component list. `Good n`: the string `n` is exactly one `Normal` component; `AllNormal l`:
names only (the form `NoDots` asks for; inside the proofs such a list is `ns.map .normal` with `∀ n ∈ ns, Good n`, see
`exists_names`); `RootOk`: what `FileSystem::new` guarantees of the root. Each path function of `fs.rs` is characterised
by the component list of what it returns (`resolve_single`, `getBucketPath_shape`, `getObjectPath_shape`): the root's components,
then names.
-/
namespace S3V.FsPath

/-- `splitSlash` is `split('/')`: the facts about it are those of `Thm/BytesText` -/
theorem splitSlash_splits : SplitsAt 47 splitSlash :=
  ⟨rfl, fun _ _ _ _ h => by rw [splitSlash, h]⟩

theorem splitSlash_append (a b : Bytes) : splitSlash (a ++ 47 :: b) = splitSlash a ++ splitSlash b :=
  splitSlash_splits.append a b

theorem splitSlash_noslash {s : Bytes} (h : (47 : UInt8) ∉ s) : splitSlash s = [s] := splitSlash_splits.of_not_mem h

/-- exactly one `Normal` component -/
def Good (n : Bytes) : Prop := n ≠ [] ∧ n ≠ [46] ∧ n ≠ [46, 46] ∧ (47 : UInt8) ∉ n

theorem segComp_good {n : Bytes} (h : Good n) : segComp n = some (.normal n) := by
  simp [segComp, h.1, h.2.1, h.2.2.1]

theorem body_append (a b : Bytes) : body (a ++ 47 :: b) = body a ++ body b := by
  simp [body, splitSlash_append]

theorem body_nil : body [] = [] := by simp [body, splitSlash, segComp]

theorem body_good {n : Bytes} (h : Good n) : body n = [.normal n] := by
  simp [body, splitSlash_noslash h.2.2.2, segComp_good h]

/-- what the body of a path yields: `ParentDir`, or a `Normal` whose name is good -/
def BodyComp (c : Comp) : Prop := c = .parentDir ∨ ∃ n, c = .normal n ∧ Good n

theorem mem_body {s : Bytes} {c : Comp} (h : c ∈ body s) : BodyComp c := by
  obtain ⟨seg, hseg, hc⟩ := List.mem_filterMap.mp h
  unfold segComp at hc
  split at hc
  · cases hc
  split at hc
  · cases hc
  split at hc
  · exact .inl (Option.some.inj hc).symm
  · next h1 h2 h3 => exact .inr ⟨seg, (Option.some.inj hc).symm, h1, h2, h3, splitSlash_splits.not_mem_of_mem hseg⟩

theorem isAbsolute_iff {s : Bytes} : isAbsolute s = true ↔ ∃ t, s = 47 :: t := by
  unfold isAbsolute
  split
  · next t => exact ⟨fun _ => ⟨t, rfl⟩, fun _ => rfl⟩
  · next hne => exact ⟨nofun, fun ⟨t, e⟩ => absurd e (hne t)⟩

theorem isAbsolute_cons_ne {c : UInt8} (hc : c ≠ 47) (cs : Bytes) : isAbsolute (c :: cs) = false :=
  Bool.eq_false_iff.mpr fun h => have ⟨_, e⟩ := isAbsolute_iff.mp h; hc (List.cons.inj e).1

theorem components_abs {s : Bytes} (h : isAbsolute s = true) : components s = .rootDir :: body s := by
  obtain ⟨t, rfl⟩ := isAbsolute_iff.mp h
  rfl

theorem components_rel {s : Bytes} (h : isAbsolute s = false) :
    components s = if (splitSlash s).head? = some [46] then .curDir :: body s else body s := by
  unfold components
  split
  · cases h
  · rfl

theorem components_rel_cases {s : Bytes} (h : isAbsolute s = false) :
    components s = body s ∨ components s = .curDir :: body s := by
  rw [components_rel h]
  split
  · exact .inr rfl
  · exact .inl rfl

theorem components_eq_body {s : Bytes} (hrel : isAbsolute s = false) (h : Comp.curDir ∉ components s) :
    components s = body s :=
  (components_rel_cases hrel).resolve_right fun h' => h (h' ▸ List.mem_cons_self)

theorem isAbsolute_of_rootDir {s : Bytes} {l : List Comp} (h : components s = .rootDir :: l) : isAbsolute s = true := by
  cases hs : isAbsolute s with
  | true => rfl
  | false =>
    rcases components_rel_cases hs with h' | h' <;> rw [h] at h'
    · have : Comp.rootDir ∈ body s := h' ▸ List.mem_cons_self
      rcases mem_body this with h0 | ⟨_, h0, _⟩ <;> cases h0
    · cases h'

theorem isAbsolute_of_not_rootDir {s : Bytes} (h : Comp.rootDir ∉ components s) : isAbsolute s = false :=
  Bool.eq_false_iff.mpr fun ha => h (components_abs ha ▸ List.mem_cons_self)

theorem isAbsolute_good {n : Bytes} (h : Good n) : isAbsolute n = false := by
  cases n with
  | nil => rfl
  | cons c cs => exact isAbsolute_cons_ne (fun e => h.2.2.2 (e ▸ List.mem_cons_self)) cs

theorem components_good {n : Bytes} (h : Good n) : components n = [.normal n] := by
  rw [components_rel (isAbsolute_good h), splitSlash_noslash h.2.2.2, List.head?_cons,
    if_neg (fun e => h.2.1 (Option.some.inj e)), body_good h]

theorem mem_components {s : Bytes} {n : Bytes} (h : Comp.normal n ∈ components s) : Good n := by
  have key : Comp.normal n ∈ body s := by
    by_cases ha : isAbsolute s = true
    · rw [components_abs ha] at h
      simpa using h
    · rcases components_rel_cases (by simpa using ha) with h' | h' <;> rw [h'] at h <;> simpa using h
  rcases mem_body key with h' | ⟨m, hm, hg⟩
  · cases h'
  · cases hm; exact hg

theorem body_subset {s : Bytes} {c : Comp} (h : c ∈ body s) : c ∈ components s := by
  cases ha : isAbsolute s with
  | true => exact components_abs ha ▸ List.mem_cons_of_mem _ h
  | false =>
    rcases components_rel_cases ha with e | e <;> rw [e]
    · exact h
    · exact List.mem_cons_of_mem _ h

theorem components_join {a b : Bytes} (ha : isAbsolute a = true) (hb : isAbsolute b = false) :
    components (join a b) = components a ++ body b ∧ isAbsolute (join a b) = true := by
  obtain ⟨t, rfl⟩ := isAbsolute_iff.mp ha
  unfold join
  rw [if_neg (by simp [hb])]
  by_cases hl : (47 :: t : Bytes).getLast? = some 47
  · -- the left operand ends with `/`: no separator is inserted
    obtain ⟨l', hl'⟩ := List.getLast?_eq_some_iff.mp hl
    rw [if_neg (fun h => h.2 hl)]
    refine ⟨?_, rfl⟩
    rw [components_abs (s := 47 :: t ++ b) rfl, components_abs ha, hl', List.append_assoc]
    show _ :: body (l' ++ 47 :: b) = _ :: body (l' ++ 47 :: []) ++ _
    rw [body_append, body_append, body_nil, List.append_nil]
    rfl
  · rw [if_pos ⟨List.cons_ne_nil _ _, hl⟩]
    refine ⟨?_, rfl⟩
    rw [components_abs (s := 47 :: t ++ 47 :: b) rfl, components_abs ha, body_append]
    rfl

theorem splitSlash_joinSlash {names : List Bytes} (hne : names ≠ []) (h : ∀ n ∈ names, (47 : UInt8) ∉ n) :
    splitSlash (joinSlash names) = names :=
  splitSlash_splits.split_join (fun _ => rfl) (fun a b t => by simp [joinSlash]) hne h

theorem filterMap_segComp_good {names : List Bytes} (h : ∀ n ∈ names, Good n) :
    names.filterMap segComp = names.map .normal := by
  induction names with
  | nil => rfl
  | cons a r ih =>
    rw [List.filterMap_cons, segComp_good (h a (by simp)), List.map_cons,
      ih (fun n hn => h n (List.mem_cons_of_mem _ hn))]

theorem body_joinSlash {names : List Bytes} (h : ∀ n ∈ names, Good n) :
    body (joinSlash names) = names.map .normal := by
  cases names with
  | nil => simp [joinSlash, body_nil]
  | cons a r =>
    unfold body
    rw [splitSlash_joinSlash (by simp) (fun n hn => (h n hn).2.2.2), filterMap_segComp_good h]

theorem components_render_abs {names : List Bytes} (h : ∀ n ∈ names, Good n) :
    components (render ([47] :: names) true) = .rootDir :: names.map .normal ∧
      isAbsolute (render ([47] :: names) true) = true := by
  cases names with
  | nil => exact ⟨by decide, rfl⟩
  | cons a r =>
    have e : render ([47] :: a :: r) true = 47 :: joinSlash (a :: r) := by simp [render]
    rw [e]
    refine ⟨?_, rfl⟩
    have habs : isAbsolute (47 :: joinSlash (a :: r)) = true := rfl
    rw [components_abs habs]
    have : (47 :: joinSlash (a :: r) : Bytes) = [] ++ 47 :: joinSlash (a :: r) := rfl
    rw [this, body_append, body_nil, body_joinSlash h]
    rfl

def names : List Comp → List Bytes
  | [] => []
  | .normal n :: r => n :: names r
  | _ :: r => names r

def AllNormal (l : List Comp) : Prop := ∀ c ∈ l, ∃ n, c = .normal n

theorem AllNormal.append {a b : List Comp} (ha : AllNormal a) (hb : AllNormal b) : AllNormal (a ++ b) :=
  List.forall_mem_append.mpr ⟨ha, hb⟩

theorem allNormal_map (ns : List Bytes) : AllNormal (ns.map .normal) := by
  intro c hc
  simp only [List.mem_map] at hc
  obtain ⟨n, _, rfl⟩ := hc
  exact ⟨n, rfl⟩

theorem names_map (ns : List Bytes) : names (ns.map .normal) = ns := by
  induction ns with
  | nil => rfl
  | cons a r ih => simp [names, ih]

theorem mem_names {l : List Comp} {n : Bytes} (h : n ∈ names l) : Comp.normal n ∈ l := by
  induction l with
  | nil => cases h
  | cons c r ih =>
    cases c with
    | normal m =>
      rcases List.mem_cons.mp h with rfl | h
      · exact List.mem_cons_self
      · exact List.mem_cons_of_mem _ (ih h)
    | _ => exact List.mem_cons_of_mem _ (ih h)

/-- A component list that is names only is carried as the list of its names, with their goodness: it is born from the
    `components` of some string, where every name is good, and this is the form `render`, `dedotStep` and
    `StrictlyInBucket` work with. (`AllNormal` is the form `NoDots` of the specification asks for.) -/
theorem exists_names {l : List Comp} (h : ∀ c ∈ l, ∃ n, c = .normal n ∧ Good n) :
    ∃ ns : List Bytes, l = ns.map .normal ∧ ∀ n ∈ ns, Good n := by
  induction l with
  | nil => exact ⟨[], rfl, nofun⟩
  | cons c r ih =>
    obtain ⟨n, rfl, hn⟩ := h c List.mem_cons_self
    obtain ⟨ns, rfl, hns⟩ := ih fun x hx => h x (List.mem_cons_of_mem _ hx)
    exact ⟨n :: ns, rfl, List.forall_mem_cons.mpr ⟨hn, hns⟩⟩

theorem body_names {s : Bytes} (h : Comp.parentDir ∉ components s) :
    ∃ ns : List Bytes, body s = ns.map .normal ∧ ∀ n ∈ ns, Good n :=
  exists_names fun _ hc => (mem_body hc).elim (fun e => absurd (e ▸ body_subset hc) h) id

theorem allNormal_body {s : Bytes} (h : Comp.parentDir ∉ components s) : AllNormal (body s) :=
  have ⟨ns, e, _⟩ := body_names h
  e ▸ allNormal_map ns

theorem map_osStr_normal (ns : List Bytes) : (ns.map Comp.normal).map osStr = ns := by
  induction ns with
  | nil => rfl
  | cons a r ih => simp [osStr, ih]

/-! ## path-dedot

The token list of path-dedot is the root token, when the path so far is absolute, and then a stack of names (`Toks`); one turn
of its loop is `pop` on that stack. `dedotFrom_cases` reads `parse_dot_from` / `absolutize_from` off the stack once; what is
said of their results below and in `FsPathAbs` follows from it. -/

theorem rest_bodyComp {s : Bytes} {first : Comp} {rest : List Comp} (h : components s = first :: rest) :
    ∀ c ∈ rest, BodyComp c := by
  intro c hc
  apply mem_body
  cases ha : isAbsolute s with
  | true =>
    rw [components_abs ha] at h
    exact (List.cons.inj h).2 ▸ hc
  | false =>
    rw [components_rel ha] at h
    split at h
    · exact (List.cons.inj h).2 ▸ hc
    · exact h ▸ List.mem_cons_of_mem _ hc

/-- token list of path-dedot: the root token (when absolute), then the stack of names -/
def Toks (fr : Bool) (g : List Bytes) : List Bytes := if fr then [47] :: g else g

/-- one loop turn on the stack of names behind the root token: `..` drops the last name (none on the empty stack: clamped
    at the root, or nothing to drop), a name is pushed -/
def pop (g : List Bytes) : Comp → List Bytes
  | .parentDir => g.dropLast
  | .normal n => g ++ [n]
  | _ => g

theorem dedotStep_toks (fr : Bool) (g : List Bytes) (f : Bool) {c : Comp} (hc : BodyComp c) :
    ∃ f', dedotStep fr (Toks fr g, f) c = (Toks fr (pop g c), f') ∧ (f' = false → f = false ∧ c ≠ .parentDir) := by
  rcases hc with rfl | ⟨n, rfl, _⟩
  · refine ⟨true, ?_, nofun⟩
    cases fr <;> cases g <;> simp [dedotStep, Toks, pop]
  · refine ⟨f, ?_, fun h => ⟨h, nofun⟩⟩
    cases fr <;> simp [dedotStep, Toks, pop, osStr]

theorem foldl_dedotStep (fr : Bool) : ∀ (rest : List Comp) (g : List Bytes) (f : Bool), (∀ c ∈ rest, BodyComp c) →
    ∃ f', rest.foldl (dedotStep fr) (Toks fr g, f) = (Toks fr (rest.foldl pop g), f') ∧
      (f' = false → f = false ∧ .parentDir ∉ rest)
  | [], g, f, _ => ⟨f, rfl, fun h => ⟨h, List.not_mem_nil⟩⟩
  | c :: rest, g, f, h => by
    obtain ⟨f₁, e₁, h₁⟩ := dedotStep_toks fr g f (h c List.mem_cons_self)
    obtain ⟨f₂, e₂, h₂⟩ := foldl_dedotStep fr rest (pop g c) f₁ fun c hc => h c (List.mem_cons_of_mem _ hc)
    refine ⟨f₂, by rw [List.foldl_cons, e₁, e₂, List.foldl_cons], fun hf => ?_⟩
    obtain ⟨hf₁, hr⟩ := h₂ hf
    obtain ⟨hf0, hc⟩ := h₁ hf₁
    exact ⟨hf0, fun hm => (List.mem_cons.mp hm).elim (fun e => hc e.symm) hr⟩

theorem foldl_pop_normals : ∀ (ks g : List Bytes), (ks.map Comp.normal).foldl pop g = g ++ ks
  | [], g => (List.append_nil g).symm
  | k :: ks, g => by rw [List.map_cons, List.foldl_cons, foldl_pop_normals ks, pop, List.append_assoc]; rfl

theorem foldl_pop_good : ∀ {rest : List Comp} {g : List Bytes}, (∀ c ∈ rest, BodyComp c) → (∀ n ∈ g, Good n) →
    ∀ n ∈ rest.foldl pop g, Good n
  | [], _, _, hg => hg
  | c :: rest, g, hr, hg => by
    refine foldl_pop_good (g := pop g c) (fun x hx => hr x (List.mem_cons_of_mem _ hx)) ?_
    rcases hr c List.mem_cons_self with rfl | ⟨n, rfl, hn⟩
    · exact fun n hn => hg n (List.dropLast_subset _ hn)
    · exact List.forall_mem_append.mpr ⟨hg, fun _ hm => List.mem_singleton.mp hm ▸ hn⟩

theorem render_rel (t : List Bytes) : render t false = joinSlash t := by
  cases t with
  | nil => rfl
  | cons a r =>
    cases r with
    | nil => rfl
    | cons b r' => simp [render, joinSlash]

/-- what the rendered tokens spell -/
theorem body_render_toks : ∀ (fr : Bool) {g : List Bytes}, (∀ n ∈ g, Good n) →
    body (render (Toks fr g) fr) = g.map .normal
  | true, _, hg => by
    have hr := components_render_abs hg
    rw [components_abs hr.2] at hr
    exact (List.cons.inj hr.1).2
  | false, _, hg => by rw [Toks, if_neg nofun, render_rel, body_joinSlash hg]

/-- `parse_dot_from` / `absolutize_from` by their tokens: the result is the rendered final tokens (no tokens: the panic),
    or the string itself when nothing was rewritten -/
theorem dedotFrom_cases {ab : Bool} {cwd s : Bytes} {first : Comp} {rest : List Comp} {fr f : Bool} {g₀ : List Bytes}
    (hcs : components s = first :: rest) (h₀ : dedotStart ab cwd first = (Toks fr g₀, fr, f)) :
    dedotFrom ab cwd s =
        (if Toks fr (rest.foldl pop g₀) = [] then .panic else .ok (render (Toks fr (rest.foldl pop g₀)) fr)) ∨
      dedotFrom ab cwd s = .ok s ∧ f = false ∧ .parentDir ∉ rest := by
  obtain ⟨f', e, hf⟩ := foldl_dedotStep fr rest g₀ f (rest_bodyComp hcs)
  unfold dedotFrom
  rw [hcs]
  simp only [h₀, e]
  split
  · exact .inl rfl
  · split
    · exact .inl rfl
    · next hcond => exact .inr ⟨rfl, hf (Bool.eq_false_iff.mpr fun h => hcond (.inl h))⟩

theorem dedotFrom_abs_normals (ab : Bool) (cwd s : Bytes) {ns : List Bytes}
    (hc : components s = .rootDir :: ns.map .normal) (hg : ∀ n ∈ ns, Good n) :
    ∃ p, dedotFrom ab cwd s = .ok p ∧ components p = components s ∧ isAbsolute p = true := by
  rcases dedotFrom_cases (ab := ab) (cwd := cwd) (fr := true) (g₀ := []) hc rfl with h | h
  · rw [foldl_pop_normals] at h
    have hr := components_render_abs hg
    exact ⟨_, h.trans (if_neg (List.cons_ne_nil _ _)), hr.1.trans hc.symm, hr.2⟩
  · exact ⟨s, h.1, rfl, isAbsolute_of_rootDir hc⟩

theorem dedotFrom_single (cwd : Bytes) {s n : Bytes} (hc : components s = [.normal n]) :
    ∃ p, dedotFrom false cwd s = .ok p ∧ components p = [.normal n] ∧ isAbsolute p = false := by
  have hg : Good n := mem_components (s := s) (by rw [hc]; simp)
  rcases dedotFrom_cases (ab := false) (cwd := cwd) (fr := false) (g₀ := [n]) hc rfl with h | h
  · exact ⟨n, h, components_good hg, isAbsolute_good hg⟩
  · exact ⟨s, h.1, hc, isAbsolute_of_not_rootDir (by rw [hc]; simp)⟩

/-- what `FileSystem::new` guarantees of `self.root` (`canonicalize`): absolute, no `..` left -/
def RootOk (root : Bytes) : Prop := isAbsolute root = true ∧ Comp.parentDir ∉ components root

theorem RootOk.shape {root : Bytes} (h : RootOk root) :
    ∃ ns : List Bytes, components root = .rootDir :: ns.map .normal ∧ ∀ n ∈ ns, Good n :=
  have ⟨ns, e, hg⟩ := body_names h.2
  ⟨ns, (components_abs h.1).trans (congrArg _ e), hg⟩

theorem noDots_under {e : Env} (hr : RootOk e.root) {l ext : List Comp} (hl : l = components e.root ++ ext)
    (hext : AllNormal ext) : NoDots l := by
  obtain ⟨rs, hm, _⟩ := hr.shape
  exact ⟨rs.map Comp.normal ++ ext, by rw [hl, hm]; rfl, (allNormal_map rs).append hext⟩

theorem noDots_root {e : Env} (hr : RootOk e.root) : NoDots (components e.root) :=
  have ⟨rs, hm, _⟩ := hr.shape
  ⟨_, hm, allNormal_map rs⟩

/-- the virtual root `absolutize_virtually` computes is the root, unchanged in its components -/
theorem RootOk.vroot {root : Bytes} (h : RootOk root) (cwd : Bytes) :
    ∃ vr, dedotFrom true cwd root = .ok vr ∧ components vr = components root ∧ isAbsolute vr = true :=
  have ⟨_, hl, hn⟩ := h.shape
  dedotFrom_abs_normals true cwd root hl hn

theorem resolve_single (e : Env) (hr : RootOk e.root) {s n : Bytes} (hc : components s = [.normal n]) :
    ∃ p, resolveAbsPath e s = .ok p ∧ components p = components e.root ++ [.normal n] ∧ isAbsolute p = true := by
  obtain ⟨vr, hvr, hvc, hva⟩ := hr.vroot e.cwd
  obtain ⟨p, hp, hpc, hpa⟩ := dedotFrom_single e.cwd hc
  have hj := components_join hva hpa
  refine ⟨join vr p, by simp [resolveAbsPath, absolutizeVirtually, hvr, hp, hpa], ?_, hj.2⟩
  rw [hj.1, hvc, ← components_eq_body hpa (by rw [hpc]; simp), hpc]

theorem resolve_good (e : Env) (hr : RootOk e.root) {n : Bytes} (hg : Good n) :
    ∃ p, resolveAbsPath e n = .ok p ∧ components p = components e.root ++ [.normal n] ∧ isAbsolute p = true :=
  resolve_single e hr (components_good hg)

theorem resolve_good_shape (e : Env) (hr : RootOk e.root) {n p : Bytes} (hg : Good n)
    (h : resolveAbsPath e n = .ok p) : components p = components e.root ++ [.normal n] ∧ isAbsolute p = true := by
  obtain ⟨p', hp', hc, ha⟩ := resolve_good e hr hg
  rw [h] at hp'; cases hp'
  exact ⟨hc, ha⟩

theorem resolve_abs_under (e : Env) (hr : RootOk e.root) {s : Bytes} {ns : List Bytes}
    (hc : components s = components e.root ++ ns.map .normal) (hg : ∀ n ∈ ns, Good n) :
    ∃ p, resolveAbsPath e s = .ok p ∧ components p = components s ∧ isAbsolute p = true := by
  obtain ⟨rs, hl, hrs⟩ := hr.shape
  obtain ⟨vr, hvr, hvc, hva⟩ := hr.vroot e.cwd
  obtain ⟨p, hp, hpc, hpa⟩ := dedotFrom_abs_normals false e.cwd s (ns := rs ++ ns)
    (by rw [hc, hl, List.map_append]; rfl) (List.forall_mem_append.mpr ⟨hrs, hg⟩)
  have hsw : startsWith p vr = true := by
    unfold startsWith
    rw [hvc, hpc, hc]
    exact List.isPrefixOf_iff_prefix.mpr (List.prefix_append _ _)
  exact ⟨p, by simp [resolveAbsPath, absolutizeVirtually, hvr, hp, hpa, hsw], hpc, hpa⟩

theorem getBucketPath_shape (e : Env) (hr : RootOk e.root) {b p : Bytes} (h : getBucketPath e b = .ok p) :
    ∃ bn, components b = [.normal bn] ∧ Good bn ∧ components p = components e.root ++ [.normal bn] ∧
      isAbsolute p = true := by
  unfold getBucketPath at h
  split at h
  · next bn hc =>
    obtain ⟨p', hp', hpc, hpa⟩ := resolve_single e hr hc
    cases hp'.symm.trans h
    exact ⟨bn, hc, mem_components (s := b) (hc ▸ List.mem_cons_self), hpc, hpa⟩
  · cases h

/-- a name of one good component always resolves, so the only refusal is that of the name -/
theorem getBucketPath_error (e : Env) (hr : RootOk e.root) {b : Bytes} {x : Err} (h : getBucketPath e b = .error x) :
    x = .invalidBucketName := by
  unfold getBucketPath at h
  split at h
  · next bn hc =>
    obtain ⟨p, hp, _⟩ := resolve_single e hr hc
    rw [hp] at h
    cases h
  · exact (Except.error.inj h).symm

theorem getBucketPath_total (e : Env) (hr : RootOk e.root) {b bn : Bytes} (hc : components b = [.normal bn]) :
    ∃ p, getBucketPath e b = .ok p := by
  obtain ⟨p, hp, _⟩ := resolve_single e hr hc
  exact ⟨p, by simp [getBucketPath, hc, hp]⟩

/-- an accepting scan: the key is relative, has no `..`, and `r` says whether it has a name -/
theorem keyScan_some {l : List Comp} {h0 r : Bool} (h : keyScan l h0 = some r) :
    Comp.rootDir ∉ l ∧ Comp.parentDir ∉ l ∧ (r = true ↔ (h0 = true ∨ ∃ n, Comp.normal n ∈ l)) := by
  induction l generalizing h0 with
  | nil =>
    cases h
    simp
  | cons c cs ih =>
    cases c with
    | rootDir => cases h
    | parentDir => cases h
    | normal n =>
      obtain ⟨h1, h2, h3⟩ := ih (h0 := true) h
      exact ⟨by simp [h1], by simp [h2], by rw [h3]; simp⟩
    | curDir =>
      obtain ⟨h1, h2, h3⟩ := ih (h0 := h0) h
      exact ⟨by simp [h1], by simp [h2], by rw [h3]; simp⟩

theorem key_body {k : Bytes} {r : Bool} (h : keyScan (components k) false = some r) :
    ∃ ks : List Bytes, isAbsolute k = false ∧ body k = ks.map .normal ∧ (∀ n ∈ ks, Good n) ∧ (r = true ↔ ks ≠ []) := by
  obtain ⟨h1, h2, h3⟩ := keyScan_some h
  have hrel : isAbsolute k = false := isAbsolute_of_not_rootDir h1
  obtain ⟨ks, hks, hg⟩ := body_names h2
  refine ⟨ks, hrel, hks, hg, ?_⟩
  rw [h3]
  simp only [Bool.false_eq_true, false_or]
  constructor
  · rintro ⟨n, hn⟩ rfl
    rw [components_rel hrel, hks] at hn
    split at hn <;> simp at hn
  · intro hne
    obtain ⟨n, ns, rfl⟩ := List.exists_cons_of_ne_nil hne
    exact ⟨n, body_subset (hks ▸ List.mem_cons_self)⟩

theorem resolve_object (e : Env) (hr : RootOk e.root) {b k dir : Bytes} {r : Bool} (hdir : getBucketPath e b = .ok dir)
    (hscan : keyScan (components k) false = some r) :
    ∃ (bn : Bytes) (ks : List Bytes) (p : Bytes), components b = [.normal bn] ∧ Good bn ∧ isAbsolute k = false ∧
      body k = ks.map .normal ∧ (∀ n ∈ ks, Good n) ∧ (r = true ↔ ks ≠ []) ∧ resolveAbsPath e (join dir k) = .ok p ∧
      components p = components e.root ++ (bn :: ks).map .normal ∧ isAbsolute p = true := by
  obtain ⟨bn, hbc, hbg, hdc, hda⟩ := getBucketPath_shape e hr hdir
  obtain ⟨ks, hrel, hks, hg, hr'⟩ := key_body hscan
  have hcj : components (join dir k) = components e.root ++ (bn :: ks).map .normal := by
    rw [(components_join hda hrel).1, hdc, hks, List.append_assoc]
    rfl
  obtain ⟨p, hp, hpc, hpa⟩ := resolve_abs_under e hr hcj (List.forall_mem_cons.mpr ⟨hbg, hg⟩)
  exact ⟨bn, ks, p, hbc, hbg, hrel, hks, hg, hr', hp, hpc.trans hcj, hpa⟩

theorem getObjectPath_shape (e : Env) (hr : RootOk e.root) {b k p : Bytes} (h : getObjectPath e b k = .ok p) :
    ∃ (bn : Bytes) (ks : List Bytes), components b = [.normal bn] ∧ Good bn ∧ ks ≠ [] ∧ (∀ n ∈ ks, Good n) ∧
      body k = ks.map .normal ∧ isAbsolute k = false ∧
      components p = components e.root ++ (bn :: ks).map .normal ∧ isAbsolute p = true := by
  unfold getObjectPath at h
  split at h
  · cases h
  · next dir hdir =>
    split at h
    · next hscan =>
      obtain ⟨bn, ks, p', hbc, hbg, hrel, hks, hg, hne, hp', hpc, hpa⟩ := resolve_object e hr hdir hscan
      cases hp'.symm.trans h
      exact ⟨bn, ks, hbc, hbg, hne.mp rfl, hg, hks, hrel, hpc, hpa⟩
    · cases h

/-- `get_object_path` by its guards: the bucket's refusal, the key scan, then the joined path resolved -/
theorem getObjectPath_eq (e : Env) (b k : Bytes) : getObjectPath e b k =
    match getBucketPath e b with
    | .error x => .error x
    | .ok dir =>
      if keyScan (components k) false = some true then resolveAbsPath e (join dir k) else .error .invalidArgument := by
  unfold getObjectPath
  cases getBucketPath e b with
  | error x => rfl
  | ok dir =>
    rcases keyScan (components k) false with _ | _ | _ <;> rfl

end S3V.FsPath
