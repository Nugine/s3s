import S3V.Thm.FsStoreInv
/-!
# C18 lemmas: the directory tree of one bucket under the changes the backend makes — parent directories created, a file
written with its side files, a file removed — and how `abs` and the invariant see each of them
-/
namespace S3V.FsStore
open S3V.StoreSpec

/-- the loop of `Tree.mkdirAll` (`Tree.mkdirAll_eq`): a directory appended at each of the paths that has no entry yet -/
def addDirs (t : Tree) (qs : List Path) : Tree :=
  qs.foldl (fun t q => if alHas q t then t else t ++ [(q, Node.dir)]) t

/-- what holds of a tree and survives a directory appended at a free path among `qs` holds after the loop -/
theorem addDirs_induct {P : Tree → Prop} {qs : List Path}
    (step : ∀ t q, q ∈ qs → alLookup q t = none → P t → P (t ++ [(q, Node.dir)])) {t : Tree} (h : P t) : P (addDirs t qs) := by
  induction qs generalizing t with
  | nil => exact h
  | cons q qs ih =>
    refine ih (fun t q' hq' => step t q' (List.mem_cons_of_mem _ hq')) ?_
    cases hq : alLookup q t with
    | some n => simpa [alHas, hq] using h
    | none => simpa [alHas, hq] using step t q (List.mem_cons_self ..) hq h

theorem absTree_addDirs (s : State) (b : Bytes) (t : Tree) (qs : List Path) : absTree s b (addDirs t qs) = absTree s b t :=
  addDirs_induct (P := fun t' => absTree s b t' = absTree s b t)
    (fun t' q _ _ h => by rw [← h, absTree, List.filterMap_append]; exact List.append_nil _) rfl

theorem addDirs_node {t : Tree} {qs : List Path} {p : Path} (hp : p ∉ qs) : (addDirs t qs).node p = t.node p :=
  addDirs_induct (P := fun t' => t'.node p = t.node p)
    (fun t' q hq _ h => by
      have hne : q ≠ p := fun e => hp (e ▸ hq)
      rw [← h, Tree.node, alLookup_append, alLookup_cons, if_neg hne]
      exact Option.or_none) rfl

theorem Tree.mkdirAll_eq (t : Tree) (p : Path) :
    t.mkdirAll p = if (prefixes p).any (fun q => isFile (t.node q)) then none else some (addDirs t (prefixes p)) := rfl

theorem State.mkdirAll_eq {s : State} {b : Bytes} {t : Tree} (ht : s.tree b = some t) {q : Path}
    (hq : ∀ x ∈ prefixes q, isFile (t.node x) = false) : s.mkdirAll b q = some (s.setTree b (addDirs t (prefixes q))) := by
  have hany : (prefixes q).any (fun x => isFile (t.node x)) = false := by
    rw [List.any_eq_false]
    intro x hx
    simp [hq x hx]
  simp [State.mkdirAll, ht, Tree.mkdirAll_eq, hany]

/-- a file can be written at `p`: no proper prefix of `p` is a file, `p` itself is not a directory -/
def WriteOk (t : Tree) (p : Path) : Prop :=
  (∀ q ∈ prefixes p.dropLast, isFile (t.node q) = false) ∧ t.node p ≠ some Node.dir

instance (t : Tree) (p : Path) : Decidable (WriteOk t p) := by unfold WriteOk; infer_instance

theorem not_mem_prefixes_dropLast {p : Path} (hp : PathOk p) : p ∉ prefixes p.dropLast := by
  intro h
  have := (hp.prefix_dropLast h).2
  omega

theorem addDirs_ok {t : Tree} {p : Path} (h : TreeOk t) (hp : PathOk p) : TreeOk (addDirs t (prefixes p.dropLast)) :=
  addDirs_induct (fun _ _ hq hn h => h.append hn (hp.prefix_dropLast hq).1) h

/-- the tree of a bucket after `FileWriter::done` put a file at `p`: the missing parent directories, then the file -/
def withFile (t : Tree) (p : Path) (c : Bytes) : Tree := alInsert p (.file c) (addDirs t (prefixes p.dropLast))

theorem commitFile_eq {s : State} {bd : Bytes} {t : Tree} (ht : s.tree bd = some t) {p : Path}
    (hw : WriteOk t p) (hp : PathOk p) (c : Bytes) :
    s.commitFile bd p c = ({ s with buckets := alInsert bd (withFile t p c) s.buckets }, true) := by
  have htree : (State.setTree s bd (addDirs t (prefixes p.dropLast))).tree bd = some (addDirs t (prefixes p.dropLast)) :=
    alLookup_alInsert_self _ _ _
  unfold State.commitFile
  simp only [State.mkdirAll_eq ht hw.1, htree, Option.getD_some, addDirs_node (not_mem_prefixes_dropLast hp)]
  cases hn : t.node p with
  | none => simp [State.setTree, alInsert_alInsert, withFile]
  | some n =>
    cases n with
    | dir => exact absurd hn hw.2
    | file c0 => simp [State.setTree, alInsert_alInsert, withFile]

theorem absTree_withFile {s s' : State} (hi : Inv s) {b k : Bytes} {t : Tree} {p : Path} {c : Bytes}
    (ht : s.tree b = some t) (hp : PathOk p) (hk : joinWith [slash] p = k) (hw : t.node p ≠ some Node.dir)
    (hm : ∀ x, x ≠ (b, k) → alLookup x s'.metas = alLookup x s.metas)
    (hin : ∀ x, x ≠ (b, k) → alLookup x s'.infos = alLookup x s.infos) :
    absTree s' b (withFile t p c) =
      alInsert k ⟨c, absMeta s' b k, (alLookup (b, k) s'.infos).getD {}⟩ (absTree s b t) := by
  obtain ⟨hnd, hpaths⟩ := addDirs_ok (hi.tree ht) hp
  rw [← absTree_addDirs s b t (prefixes p.dropLast)]
  apply filterMap_alInsert (absObj s' b) (absObj s b) p (.file c) k _ _ hnd
  · simp [absObj, hk]
  · intro n hn
    have hl : t.node p = some n := by
      rw [← addDirs_node (not_mem_prefixes_dropLast hp)]; exact alLookup_of_mem_nodup hnd hn
    cases n with
    | dir => exact absurd hl hw
    | file c0 => exact ⟨⟨c0, absMeta s b k, (alLookup (b, k) s.infos).getD {}⟩, by simp [absObj, hk]⟩
  · intro q n hq hne
    have hne' : (b, joinWith [slash] q) ≠ (b, k) := fun heq =>
      hne ((hpaths _ hq).join_inj hp ((Prod.mk.inj heq).2.trans hk.symm))
    exact absObj_congr (hm _ hne') (hin _ hne')
  · exact hk ▸ absObj_shows hpaths hp

theorem absTree_erase {s : State} (hi : Inv s) {b k : Bytes} {t : Tree} {p : Path}
    (ht : s.tree b = some t) (hp : PathOk p) (hk : joinWith [slash] p = k) :
    absTree s b (alErase p t) = alErase k (absTree s b t) :=
  filterMap_alErase (absObj s b) p k t (hk ▸ absObj_shows (hi.tree ht).2 hp)

/-- a file written at `p` (key `k`) of an existing bucket `b`, its metadata and checksum side files set to `mv`, `iv`
    (removed when `none`) -/
theorem writeFile_core {s : State} (hi : Inv s) {b k : Bytes} {t : Tree} {p : Path}
    (ht : s.tree b = some t) (hp : PathOk p) (hk : joinWith [slash] p = k) (hw : t.node p ≠ some Node.dir) (c : Bytes)
    {mv : Option MetaFile} (hmv : mv ≠ some .corrupt) (iv : Option Cks) :
    let s' : State := { s with buckets := alInsert b (withFile t p c) s.buckets,
                               metas := alSet (b, k) mv s.metas, infos := alSet (b, k) iv s.infos }
    abs s' = (abs s).setObj b k ⟨c, metaOf mv, iv.getD {}⟩ ∧ Inv s' := by
  intro s'
  have habs : (abs s).bucket b = some (absTree s b t) := by rw [abs_bucket, ht]; rfl
  have hm : ∀ x, x ≠ (b, k) → alLookup x s'.metas = alLookup x s.metas := fun x hx => alLookup_alSet_ne hx _ _
  have hin : ∀ x, x ≠ (b, k) → alLookup x s'.infos = alLookup x s.infos := fun x hx => alLookup_alSet_ne hx _ _
  refine ⟨abs_objects ?_, hi.of_objects (hi.trees.insert ((addDirs_ok (hi.tree ht) hp).insert hp)) ?_ _⟩
  · have hother : ∀ b2, b2 ≠ b → ∀ x, absObj s' b2 x = absObj s b2 x := fun b2 hne x =>
      absObj_congr (hm _ fun h => hne (Prod.mk.inj h).1) (hin _ fun h => hne (Prod.mk.inj h).1)
    rw [abs_setTree (s' := s') hi rfl hother, absTree_withFile hi ht hp hk hw hm hin, absMeta_eq]
    simp only [s', alLookup_alSet_self, habs, Option.getD_some]
  · intro e he
    rcases alSet_mem he with ⟨x, rfl, rfl⟩ | he
    · exact fun h => hmv (congrArg some h)
    · exact hi.metaOk e he

/-- the entry at `p` (key `k`) of an existing bucket `b` removed, whether or not there was one -/
theorem removeFile_core {s : State} (hi : Inv s) {b k : Bytes} {t : Tree} {p : Path}
    (ht : s.tree b = some t) (hp : PathOk p) (hk : joinWith [slash] p = k) :
    abs (s.setTree b (alErase p t)) = { abs s with buckets := alInsert b (alErase k (absTree s b t)) (abs s).buckets } ∧
    Inv (s.setTree b (alErase p t)) := by
  refine ⟨abs_objects ?_, hi.of_objects (hi.trees.insert ((hi.tree ht).erase p)) hi.metaOk _⟩
  rw [← absTree_erase hi ht hp hk]
  exact abs_setTree hi rfl fun _ _ _ => rfl

/-- nothing at the path: erasing it and putting the tree back is no change -/
theorem setTree_erase_absent {s : State} {b : Bytes} {t : Tree} {p : Path} (ht : s.tree b = some t)
    (hn : t.node p = none) : s.setTree b (alErase p t) = s := by
  rw [State.setTree, alErase_absent hn, alInsert_same ht]

/-- `create_dir_all` of the parent of an admissible path changes nothing the store sees -/
theorem dirs_core {s : State} (hi : Inv s) {b : Bytes} {t : Tree} (ht : s.tree b = some t) {p : Path} (hp : PathOk p) :
    abs (s.setTree b (addDirs t (prefixes p.dropLast))) = abs s ∧ Inv (s.setTree b (addDirs t (prefixes p.dropLast))) := by
  constructor
  · refine store_ext ((abs_setTree (s' := s.setTree b _) hi rfl fun _ _ _ => rfl).trans ?_) rfl rfl
    rw [absTree_addDirs]
    exact abs_putBack ht
  · exact hi.of_objects (hi.trees.insert (addDirs_ok (hi.tree ht) hp)) hi.metaOk _

end S3V.FsStore
