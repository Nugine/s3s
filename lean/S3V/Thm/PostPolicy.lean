import S3V.Model.PostPolicy
import S3V.Spec.PostPolicy
import S3V.Model.SigV4
import S3V.Thm.DtoTimestampText
import S3V.Thm.SigV4Order
/-!
# Lemmas: the model of `post_policy.rs` refines the POST-policy specification

`S3V.PostPolicyModel` mirrors the Rust, `S3V.PostPolicy` is written from the AWS document.
1. decoding: whatever the visitors accept, the specification reads as the same policy (same instant, given that the
   instant reader agrees with `time`'s RFC 3339 parser on the expiration text; same conditions): `condGroup_refines`,
   `ofJson_refines`, `fromBase64_refines`;
2. evaluation: on the form as sent the specification's verdicts are the negations of the model's checks on the lower-cased,
   sorted field list — per condition (`condViolated_eq`), for the length ranges (`lengthViolated_eq`) and for the coverage
   of the fields (`uncovered_eq`); the expiration the code compares to the nanosecond and the specification in whole
   seconds, so there the code is only the stricter one. Hence `check_fields` and `check_content_length` imply that the
   specification finds no defect (`evaluation_refines`).
-/
namespace S3V.PostPolicyThm
open S3V S3V.Policy

abbrev MCond := S3V.PostPolicyModel.Cond
abbrev SCond := S3V.PostPolicy.Cond

def toSpec : MCond → SCond
  | .eq f v => .eq f v
  | .startsWith f p => .startsWith f p
  | .lengthRange a b => .lengthRange a b

/-! ## the duplicated helpers are the same functions -/

theorem lower_eq : PostPolicyModel.lower = PostPolicy.lower := rfl
theorem lower_eq' : S3V.SigV4.lower = PostPolicy.lower := rfl
theorem allDigits_eq : PostPolicyModel.allDigits = PostPolicy.allDigits := rfl
theorem fieldRef_eq : PostPolicyModel.fieldRef = PostPolicy.fieldRef := rfl
theorem startsWithB_eq : PostPolicyModel.startsWithB = PostPolicy.startsWithB := by
  funext p s
  induction p generalizing s with
  | nil => cases s <;> rfl
  | cons a as ih =>
    cases s with
    | nil => rfl
    | cons b bs => simp [PostPolicyModel.startsWithB, PostPolicy.startsWithB, ih]

theorem boundOf_refines {j : Json} {n : Nat} (h : PostPolicyModel.boundOf j = some n) : PostPolicy.boundOf j = some n := by
  -- the model's extra condition `≤ u64Max` only refuses more
  have aux : ∀ t : Bytes, (if PostPolicyModel.allDigits t && PostPolicyModel.decVal t ≤ PostPolicyModel.u64Max
        then some (PostPolicyModel.decVal t) else none) = some n →
      (if PostPolicy.allDigits t then some (PostPolicy.decVal t) else none) = some n := by
    intro t ht
    split at ht
    · rename_i hc
      rw [Bool.and_eq_true] at hc
      rw [← allDigits_eq, if_pos hc.1]
      exact ht
    · cases ht
  cases j with
  | num t => exact aux t h
  | str t => exact aux t h
  | _ => cases h

theorem mapM_obj_refines (ms : List (Bytes × Json)) (cs : List MCond)
    (h : ms.mapM (fun (kv : Bytes × Json) => match kv.2 with
        | .str s => some (PostPolicyModel.Cond.eq (PostPolicyModel.lower kv.1) s)
        | _ => none) = some cs) :
    ms.mapM (fun (kv : Bytes × Json) => match kv.2 with
        | .str s => some (PostPolicy.Cond.eq (PostPolicy.lower kv.1) s)
        | _ => none) = some (cs.map toSpec) := by
  refine mapM_refines (t := toSpec) ?_ ms cs h
  rintro ⟨k, v⟩ c hc
  cases v with
  | str s =>
    simp only [Option.some.injEq] at hc
    subst hc
    rfl
  | _ => cases hc

theorem condsOf_eqForm (f v : Bytes) :
    PostPolicy.condsOf (.arr [.str PostPolicy.sEq, .str f, .str v]) =
      (PostPolicy.fieldRef f).map fun n => [PostPolicy.Cond.eq n v] := by
  rw [PostPolicy.condsOf, if_pos rfl]

theorem condsOf_startsWith (f v : Bytes) :
    PostPolicy.condsOf (.arr [.str PostPolicy.sStartsWith, .str f, .str v]) =
      (PostPolicy.fieldRef f).map fun n => [PostPolicy.Cond.startsWith n v] := by
  rw [PostPolicy.condsOf, if_neg (by decide), if_pos rfl]

/-- both array patterns of `condsOf` read a `content-length-range` alike -/
theorem condsOf_lengthRange (lo hi : Json) :
    PostPolicy.condsOf (.arr [.str PostPolicy.sLengthRange, lo, hi]) =
      match PostPolicy.boundOf lo, PostPolicy.boundOf hi with
      | some a, some b => some [PostPolicy.Cond.lengthRange a b]
      | _, _ => none := by
  unfold PostPolicy.condsOf
  split
  · rename_i heq
    cases heq
  · rename_i heq
    simp only [Json.arr.injEq, List.cons.injEq, Json.str.injEq] at heq
    obtain ⟨rfl, rfl, rfl, -⟩ := heq
    rw [if_neg (by decide), if_neg (by decide), if_pos rfl]
    rfl
  · rename_i heq
    simp only [Json.arr.injEq, List.cons.injEq, Json.str.injEq] at heq
    obtain ⟨rfl, rfl, rfl, -⟩ := heq
    rw [if_pos rfl]
    rfl
  · rename_i h
    exact absurd rfl (h _ _ _)

theorem condGroup_refines {j : Json} {cs : List MCond} : PostPolicyModel.condGroup j = some cs →
    PostPolicy.condsOf j = some (cs.map toSpec) := by
  -- along the accepting branches of `condGroup`: an object, then an array headed by `eq`, `starts-with`,
  -- `content-length-range`; each is closed by the equation of `condsOf` for that form
  fun_cases PostPolicyModel.condGroup j
  all_goals try exact fun h => absurd h.symm (Option.some_ne_none cs)
  next ms hne =>
    intro h
    rw [PostPolicy.condsOf, if_neg hne]
    exact mapM_obj_refines ms cs h
  next f v =>
    intro h
    obtain ⟨n, hn, rfl⟩ := Option.map_eq_some_iff.mp h
    rw [show PostPolicyModel.sEq = PostPolicy.sEq from rfl, condsOf_eqForm, ← fieldRef_eq, hn]
    rfl
  next f v _ =>
    intro h
    obtain ⟨n, hn, rfl⟩ := Option.map_eq_some_iff.mp h
    rw [show PostPolicyModel.sStartsWith = PostPolicy.sStartsWith from rfl, condsOf_startsWith, ← fieldRef_eq, hn]
    rfl
  next lo hi a b hhi hlo _ _ =>
    intro h
    cases h
    rw [show PostPolicyModel.sLengthRange = PostPolicy.sLengthRange from rfl, condsOf_lengthRange, boundOf_refines hlo,
      boundOf_refines hhi]
    rfl

theorem member_of_filter_singleton (ms : List (Bytes × Json)) (name : Bytes) (x : Json)
    (h : (ms.filter fun m => m.1 = name).map (·.2) = [x]) : PostPolicy.member ms name = some x := by
  unfold PostPolicy.member
  rw [← List.head?_filter]
  cases hf : ms.filter (fun m => decide (m.1 = name)) with
  | nil => rw [hf] at h; simp at h
  | cons y ys =>
    rw [hf] at h
    simp at h
    simp [h.1]

/-- the policy document: what `PostPolicy::deserialize` accepts, the specification reads as the same policy, for every
    reader `rd` of the expiration text that agrees with `time`'s RFC 3339 parser where that parser succeeds; the
    nanosecond `Timestamp::parse(DateTime)` yields is below one second -/
theorem ofJson_refines (rd : Bytes → Option Int)
    (hrd : ∀ e t, Dto.parseRfc3339 e = some t → rd e = some t.unix)
    {j : Json} {pm : PostPolicyModel.Policy} (h : PostPolicyModel.ofJson j = some pm) :
    PostPolicy.ofJsonWith rd j = some ⟨pm.expUnix, pm.conditions.map toSpec⟩ ∧ pm.expNanos < 1000000000 := by
  cases j with
  | obj ms =>
    simp only [PostPolicyModel.ofJson] at h
    split at h
    · rename_i e cs he hc
      split at h
      · rename_i t css ht hm
        cases h
        have he' : PostPolicy.member ms PostPolicy.sExpiration = some (Json.str e) :=
          member_of_filter_singleton ms _ _ he
        have hc' : PostPolicy.member ms PostPolicy.sConditions = some (Json.arr cs) :=
          member_of_filter_singleton ms _ _ hc
        refine ⟨?_, Dto.parseRfc3339_nanos_lt ht⟩
        simp only [PostPolicy.ofJsonWith, he', hc', hrd e t ht, mapM_refines (fun _ _ => condGroup_refines) cs css hm]
        simp [List.map_flatten]
      · cases h
    · cases h
  | _ => simp [PostPolicyModel.ofJson] at h

theorem fromBase64_refines (rd : Bytes → Option Int)
    (hrd : ∀ e t, Dto.parseRfc3339 e = some t → rd e = some t.unix)
    {pol : Bytes} {pm : PostPolicyModel.Policy} (h : PostPolicyModel.fromBase64 pol = some pm) :
    PostPolicy.decodeWith rd pol = some ⟨pm.expUnix, pm.conditions.map toSpec⟩ ∧ pm.expNanos < 1000000000 := by
  unfold PostPolicyModel.fromBase64 at h
  unfold PostPolicy.decodeWith
  cases hb : Crypto.base64Decode pol with
  | none => rw [hb] at h; cases h
  | some text =>
    rw [hb] at h
    simp only at h ⊢
    cases hj : JsonText.parse text with
    | none => rw [hj] at h; cases h
    | some j =>
      rw [hj] at h
      exact ofJson_refines rd hrd h

/-- `now > expiration` on `OffsetDateTime`s (nanosecond precision) is at least as strict as the specification's comparison
    of whole seconds -/
theorem not_expired_seconds {nowNs unix : Int} {nanos : Nat} (hn : nanos < 1000000000)
    (h : ¬ nowNs > unix * 1000000000 + (nanos : Int)) : ¬ nowNs / 1000000000 > unix := by
  omega

/-- the values a condition is matched against: `Multipart::fields()` (lower-cased, stably sorted) filtered by the exact
    name are the values of the form fields of that name, case ignored, in form order -/
theorem multipartFields_values (form : List (Bytes × Bytes)) (field : Bytes) :
    ((SigV4.multipartFields form).filter fun p => p.1 = field).map (·.2) =
      (form.filter fun f => PostPolicy.lower f.1 = field).map (·.2) := by
  unfold SigV4.multipartFields
  rw [SigV4.filter_sortByFirst, List.filter_map, List.map_map]
  rfl

theorem holds_eq (bucket : Bytes) (form : List (Bytes × Bytes)) (field : Bytes) (f : Bytes → Bool) :
    PostPolicyModel.holds bucket (SigV4.multipartFields form) field f =
      (let vs := PostPolicy.valuesOf form bucket field; !(vs = []) && vs.all f) := by
  unfold PostPolicyModel.holds PostPolicy.valuesOf
  -- the model's `sBucket` is the specification's by `rfl`
  change (if field = PostPolicy.sBucket then _ else _) = _
  by_cases hb : field = PostPolicy.sBucket
  · simp [hb]
  · simp only [if_neg hb]
    rw [multipartFields_values]
    cases (form.filter fun f => PostPolicy.lower f.1 = field).map (·.2) with
    | nil => simp
    | cons v vs => simp

/-- per condition the two verdicts are each other's negation: after `holds_eq` both sides say that the values of the field
    are non-empty and all pass the test, the model positively, the specification as "not violated" -/
theorem condViolated_eq (bucket : Bytes) (form : List (Bytes × Bytes)) (c : MCond) :
    (PostPolicy.isEqViolated form bucket (toSpec c) || PostPolicy.isStartsViolated form bucket (toSpec c)) =
      !PostPolicyModel.condHolds bucket (SigV4.multipartFields form) c := by
  cases c with
  | eq f v =>
    simp [toSpec, PostPolicy.isEqViolated, PostPolicy.isStartsViolated, PostPolicyModel.condHolds, holds_eq,
      List.not_all_eq_any_not]
  | startsWith f p =>
    by_cases hp : p = [] <;>
      simp [toSpec, PostPolicy.isEqViolated, PostPolicy.isStartsViolated, PostPolicyModel.condHolds, holds_eq,
        startsWithB_eq, hp, List.not_all_eq_any_not]
  | lengthRange a b => rfl

theorem lengthViolated_eq (len : Nat) (cs : List MCond) :
    (cs.map toSpec).any (PostPolicy.isLengthViolated len) = (PostPolicyModel.checkContentLength len cs != .ok) := by
  induction cs with
  | nil => rfl
  | cons c cs ih =>
    rw [List.map_cons, List.any_cons, ih]
    cases c with
    | lengthRange lo hi =>
      by_cases h1 : len < lo
      · simp [toSpec, PostPolicy.isLengthViolated, PostPolicyModel.checkContentLength, h1]
      · by_cases h2 : len > hi <;>
          simp [toSpec, PostPolicy.isLengthViolated, PostPolicyModel.checkContentLength, h1, h2]
    | _ => rfl

theorem exempt_spec (n : Bytes) : PostPolicy.exempt n = PostPolicyModel.exempt (PostPolicy.lower n) := by
  unfold PostPolicy.exempt PostPolicyModel.exempt
  rw [startsWithB_eq]
  rfl

theorem covers_spec (n : Bytes) (c : MCond) : PostPolicy.covers n (toSpec c) = PostPolicyModel.covers (PostPolicy.lower n) c := by
  cases c <;> simp [toSpec, PostPolicy.covers, PostPolicyModel.covers]

theorem uncovered_eq (form : List (Bytes × Bytes)) (cs : List MCond) :
    form.any (fun f => !PostPolicy.exempt f.1 && !((cs.map toSpec).any (PostPolicy.covers f.1))) =
      !(SigV4.multipartFields form).all (fun f => PostPolicyModel.exempt f.1 || cs.any (PostPolicyModel.covers f.1)) := by
  rw [SigV4.multipartFields, SigV4.sortByFirst_eq, (sortBy_perm _ _).all_eq, List.all_map, List.not_all_eq_any_not]
  simp only [exempt_spec, covers_spec, List.any_map, Function.comp_def, Bool.not_or]
  rfl

theorem evaluation_refines (nowNs : Int) (pm : PostPolicyModel.Policy) (hn : pm.expNanos < 1000000000)
    (bucket : Bytes) (form : List (Bytes × Bytes)) (fileLen : Nat)
    (hf : PostPolicyModel.checkFields nowNs pm bucket (SigV4.multipartFields form) = true)
    (hl : PostPolicyModel.checkContentLength fileLen pm.conditions = .ok) :
    PostPolicy.defectOf (nowNs / 1000000000) ⟨pm.expUnix, pm.conditions.map toSpec⟩ form bucket fileLen = none := by
  unfold PostPolicyModel.checkFields at hf
  simp only [Bool.and_eq_true, Bool.not_eq_true', decide_eq_false_iff_not] at hf
  obtain ⟨⟨hexp, hconds⟩, hcov⟩ := hf
  have hc : ∀ c ∈ pm.conditions,
      PostPolicy.isEqViolated form bucket (toSpec c) = false ∧ PostPolicy.isStartsViolated form bucket (toSpec c) = false :=
    fun c hc => Bool.or_eq_false_iff.mp <| by rw [condViolated_eq, List.all_eq_true.mp hconds c hc]; rfl
  have h2 : (pm.conditions.map toSpec).any (PostPolicy.isEqViolated form bucket) = false := by
    rw [List.any_map]; exact List.any_eq_false.mpr fun c h => ne_true_of_eq_false (hc c h).1
  have h3 : (pm.conditions.map toSpec).any (PostPolicy.isStartsViolated form bucket) = false := by
    rw [List.any_map]; exact List.any_eq_false.mpr fun c h => ne_true_of_eq_false (hc c h).2
  have h4 : (pm.conditions.map toSpec).any (PostPolicy.isLengthViolated fileLen) = false := by
    rw [lengthViolated_eq, hl]; rfl
  have h5 := (uncovered_eq form pm.conditions).trans (congrArg (!·) hcov)
  unfold PostPolicy.defectOf
  simp only [not_expired_seconds hn hexp, h2, h3, h4, h5, if_false, Bool.false_eq_true, Bool.not_true]

end S3V.PostPolicyThm
