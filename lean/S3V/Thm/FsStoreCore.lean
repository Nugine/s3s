import S3V.Thm.FsStoreNames
import S3V.Thm.FsStoreTree
/-!
# C18: `head_object`, `delete_object` and the bucket operations refine the store
-/
namespace S3V.FsStore
open S3V.StoreSpec

/-- `head_object` comparable: names agree; for admissible names, when the bucket exists the path is not a leftover
    directory [else fs:leftover-directory]. A missing key in an existing bucket is inside (`NoSuchKey` on both sides: code
    since d6f1a3c, class fs:head-missing-key-code); the answers agree in every member, the ETag included (code since 42c2f29,
    class fs:head-without-etag) -/
def HeadOk (s : State) (b k : Bytes) : Prop :=
  NameOk b ∧ CanonKey k ∧ sideTooLong b k false = false ∧
  (bucketOk b = true →
    match keyPath k with
    | none => True
    | some p =>
      match s.tree b with
      | none => True
      | some t => ReadableNode (t.node p))

instance (s : State) (b k : Bytes) : Decidable (HeadOk s b k) := by
  unfold HeadOk; decide_pred

theorem head_refines (H : Hashes) (dl : Nat) {s : State} (hi : Inv s) {b k : Bytes} (hg : HeadOk s b k) :
    Refines H dl s (.headObject b k) := by
  obtain ⟨hname, hcanon, hshort, hbucket⟩ := hg
  rcases object_cases hi hname hcanon hbucket with hb | ⟨hb, hk | ⟨p, hk, _, _, ht | ⟨t, ht, hn | ⟨c, hn⟩⟩⟩⟩
  -- both refuse the bucket name; both refuse the key; the bucket is missing; the key is missing; a file is there
  · simp [Refines, step, StoreSpec.step, objPath, hb, hi]
  · simp [Refines, step, StoreSpec.step, objPath, hb, hk, hi]
  · simp [Refines, step, StoreSpec.step, objPath, State.node, hb, hk, ht, hi]
  · simp [Refines, step, StoreSpec.step, objPath, State.node, hb, hk, ht, hn, hi]
  · have hload := loadMeta_eq hi hshort (b := b) (k := k)
    simp [Refines, step, StoreSpec.step, objPath, State.node, hb, hk, ht, hn, hi, hload]

/-- `delete_object` comparable: names agree; for admissible names, when the bucket exists the path is not a leftover
    directory [else fs:leftover-directory]. A key that does not exist (success on both sides) and a missing bucket
    (`NoSuchBucket` on both sides) are inside (code since 20fee59; classes fs:delete-missing-key-error,
    fs:missing-bucket-reported-as-missing-key) -/
def DeleteOk (s : State) (b k : Bytes) : Prop :=
  NameOk b ∧ CanonKey k ∧
  (bucketOk b = true →
    match keyPath k with
    | none => True
    | some p =>
      match s.tree b with
      | none => True
      | some t => ReadableNode (t.node p))

instance (s : State) (b k : Bytes) : Decidable (DeleteOk s b k) := by
  unfold DeleteOk; decide_pred

theorem delete_refines (H : Hashes) (dl : Nat) {s : State} (hi : Inv s) {b k : Bytes} (hg : DeleteOk s b k) :
    Refines H dl s (.deleteObject b k) := by
  obtain ⟨hname, hcanon, hbucket⟩ := hg
  rcases object_cases hi hname hcanon hbucket with hb | ⟨hb, hk | ⟨p, hk, hp, hjoin, ht | ⟨t, ht, hn⟩⟩⟩
  -- both refuse the bucket name; both refuse the key; the bucket is missing; then: nothing at the key, or a file
  · simp [Refines, step, StoreSpec.step, objPath, hb, hi]
  · simp [Refines, step, StoreSpec.step, objPath, hb, hk, hi]
  · simp [Refines, step, StoreSpec.step, objPath, hb, hk, ht, hi]
  have hspec : StoreSpec.step H (abs s) (.deleteObject b k) =
      ({ abs s with buckets := alInsert b (alErase k (absTree s b t)) (abs s).buckets }, .ok) := by
    simp [StoreSpec.step, hb, hk, ht]
  -- nothing to delete, or a file: the file's entry is gone afterwards either way
  refine .of_eq ?_ hspec (removeFile_core hi ht.1 hp hjoin)
  rcases hn with hn | ⟨c, hn⟩
  · rw [setTree_erase_absent ht.1 hn.1]
    simp [step, objPath, hb, hk, ht, hn]
  · simp [step, objPath, hb, hk, ht, hn, hcanon.1]

theorem createBucket_refines (H : Hashes) (dl : Nat) {s : State} (hi : Inv s) {b : Bytes} (hg : NameOk b) :
    Refines H dl s (.createBucket b) := by
  rcases hg.cases with hb | hb
  case inr => simp [Refines, step, StoreSpec.step, hb, hi]
  cases hh : alHas b s.buckets with
  | true => simp [Refines, step, StoreSpec.step, hb, abs_alHas, hh, hi]
  | false =>
    have hnone : alLookup b s.buckets = none := by simpa [alHas] using hh
    refine .of_eq (r := .ok) (s' := { s with buckets := s.buckets ++ [(b, [])] })
      (a' := { abs s with buckets := (abs s).buckets ++ [(b, [])] }) (by simp [step, hb, hh])
      (by simp [StoreSpec.step, hb, abs_alHas, hh]) ⟨abs_objects ?_, hi.of_objects (hi.trees.append hnone Keyed.nil) hi.metaOk _⟩
    exact List.map_append

theorem absTree_nil_iff_files {s : State} {b : Bytes} {t : Tree} : absTree s b t = [] ↔ t.files = [] := by
  rw [absTree_eq_files, List.map_eq_nil_iff]

/-- `delete_bucket`: any name both sides accept or both refuse; a bucket that holds objects is refused by both
    (`BucketNotEmpty`: code since 24de822, class fs:delete-nonempty-bucket), an empty one — directories left behind do not count —
    is gone on both sides -/
theorem deleteBucket_refines (H : Hashes) (dl : Nat) {s : State} (hi : Inv s) {b : Bytes} (hname : NameOk b) :
    Refines H dl s (.deleteBucket b) := by
  rcases hname.cases with hb | hb
  case inr => simp [Refines, step, StoreSpec.step, hb, hi]
  rcases tree_cases s b with ht | ⟨t, ht⟩
  · simp [Refines, step, StoreSpec.step, hb, ht, hi]
  by_cases hempty : t.files = []
  case neg =>
    have hne : absTree s b t ≠ [] := fun h => hempty (absTree_nil_iff_files.mp h)
    simp [Refines, step, StoreSpec.step, hb, ht, hempty, hne, hi]
  refine .of_eq (r := .ok) (s' := { s with buckets := alErase b s.buckets })
    (a' := { abs s with buckets := alErase b (abs s).buckets }) (by simp [step, hb, ht, hempty])
    (by simp [StoreSpec.step, hb, ht, absTree_nil_iff_files.mpr hempty])
    ⟨abs_objects ?_, hi.of_objects (hi.trees.erase b) hi.metaOk _⟩
  exact alErase_map_val (fun b t => absTree s b t) b s.buckets

theorem headBucket_refines (H : Hashes) (dl : Nat) {s : State} (hi : Inv s) {b : Bytes} (hg : NameOk b) :
    Refines H dl s (.headBucket b) := by
  rcases hg.cases with hb | hb
  · cases hh : alHas b s.buckets <;> simp [Refines, step, StoreSpec.step, hb, abs_alHas, hh, hi]
  · simp [Refines, step, StoreSpec.step, hb, hi]

/-- `get_bucket_location` is `head_bucket` on both sides -/
theorem getBucketLocation_refines (H : Hashes) (dl : Nat) {s : State} (hi : Inv s) {b : Bytes} (hg : NameOk b) :
    Refines H dl s (.getBucketLocation b) :=
  headBucket_refines H dl hi hg

end S3V.FsStore
