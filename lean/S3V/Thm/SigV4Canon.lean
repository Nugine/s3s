import S3V.Thm.SigV4Order
/-!
# The canonical request of the model equals the one of the specification on well-formed requests

`canonImpl` is what header authentication builds, `wf` the region of agreement; the `on_missing` fallback of HTTP/2 is
accounted for as a change of the header lines (`effectiveRaw`). A presigned URL is canonicalised as the same request
without its signature parameter and with the payload line `UNSIGNED-PAYLOAD` (`presignedSignature_eq_header` in
`S3V/Thm/SigV4Verdict.lean`), so it needs no canonicalisation lemmas of its own.
-/
namespace S3V.SigV4
open S3V

/-- a request as the verifier sees it when it builds the canonical request -/
structure Req where
  method : Bytes
  /-- `decoded_uri_path` -/
  path : Bytes
  /-- the contents of `OrderedQs`: decoded pairs, stably sorted by name -/
  qs : List (Bytes × Bytes)
  /-- header lines in arrival order (names in any case; values `to_str`-able) -/
  headers : List (Bytes × Bytes)
  /-- the names listed in `SignedHeaders` -/
  signed : List Bytes
  payload : Payload

/-- `OrderedHeaders::from_headers` on the request's header lines -/
def Req.hs (r : Req) : List (Bytes × Bytes) := sortByFirst (r.headers.map fun p => (lower p.1, p.2))

/-- what `v4_check_header_auth` feeds into `create_canonical_request` -/
def canonImpl (sha256hex : Bytes → Bytes) (onMissing : Bytes → Option Bytes) (r : Req) : Bytes :=
  createCanonicalRequest sha256hex r.method r.path r.qs (findMultiple r.hs (sortBytes r.signed) onMissing) r.payload

/-- the specification's view of the same request -/
def Req.toSpec (sha256hex : Bytes → Bytes) (r : Req) : SigV4Spec.Request :=
  { method := r.method, path := r.path, query := r.qs, headers := r.headers, signedHeaders := r.signed,
    payload := payloadLine sha256hex r.payload }

def canonSpec (sha256hex : Bytes → Bytes) (r : Req) : Bytes := SigV4Spec.canonicalRequest (r.toSpec sha256hex)

/-! ## well-formedness: the region in which the (repaired) code and the specification agree -/

/-- among parameters of one (encoded) name, the (encoded) values already ascend -/
def dupOrdered : List (Bytes × Bytes) → Bool
  | [] => true
  | x :: xs => xs.all (fun y => y.1 ≠ x.1 || bLe x.2 y.2) && dupOrdered xs

/-- a parameter as `canonicalQueryImpl` encodes it before sorting -/
def encPair (p : Bytes × Bytes) : Bytes × Bytes := (uriEncode true p.1, uriEncode true p.2)

/-- a signed name is fine when it is not `authorization` and at least one header line carries it
    (`v4_check_header_auth` itself refuses a listed name without a line since 10af2bf) -/
def headerOK (r : Req) (n : Bytes) : Bool :=
  n ≠ b!"authorization" && !(r.headers.filter (fun h => lower h.1 = n)).isEmpty

/-- WF after the repairs b7c08fd / 10af2bf: the signed names are distinct, none is `authorization`, each is carried
    by a header line, and duplicate query names carry ascending values (the open class `sigv4-dup-query-unsorted`).
    Header values are unrestricted: inner space runs and repeated lines are canonicalised as specified. -/
def wf (r : Req) : Bool :=
  r.signed.all (headerOK r) && decide r.signed.Nodup && dupOrdered (r.qs.map encPair)

/-! ## small equalities between the twin definitions of model and specification -/

theorem lower_eq (s : Bytes) : lower s = SigV4Spec.lowercase s := rfl

theorem isTrimWs_eq : isTrimWs = SigV4Spec.isWs := rfl

theorem hexDigitUpper_eq (n : Nat) : hexDigitUpper n = SigV4Spec.upperHexDigit n := rfl

/-- the two list the four single characters `- . _ ~` in different orders -/
theorem isUnreserved_eq (c : UInt8) : isUnreserved c = SigV4Spec.unreserved c := by
  simp only [isUnreserved, SigV4Spec.unreserved]
  ac_rfl

theorem uriEncodeByte_eq (slash : Bool) (c : UInt8) :
    uriEncodeByte slash c = SigV4Spec.uriEncodeByte (!slash) c := by
  simp only [uriEncodeByte, SigV4Spec.uriEncodeByte, isUnreserved_eq, hexDigitUpper_eq]
  by_cases h47 : c = 47
  · subst h47
    cases slash <;> decide
  · simp [h47]

theorem uriEncode_eq (slash : Bool) (s : Bytes) : uriEncode slash s = SigV4Spec.uriEncode (!slash) s := by
  simp only [uriEncode, SigV4Spec.uriEncode]
  congr 1
  funext c
  exact uriEncodeByte_eq slash c

theorem intercalate_eq (sep : Bytes) (l : List Bytes) : intercalate sep l = SigV4Spec.joinWith sep l := by
  induction l with
  | nil => rfl
  | cons x xs ih =>
    cases xs with
    | nil => rfl
    | cons y ys => simp only [intercalate, SigV4Spec.joinWith, ih]

theorem sortBytes_eq (l : List Bytes) : sortBytes l = SigV4Spec.sortStrs l := by
  have hins : ∀ (x : Bytes) (l : List Bytes), insertBytes x l = SigV4Spec.insertStr x l := by
    intro x l
    induction l with
    | nil => rfl
    | cons y ys ih =>
      simp only [insertBytes, SigV4Spec.insertStr, SigV4Spec.strLe, strLt_eq_bLt, ih]
      cases bLt y x <;> simp
  induction l with
  | nil => rfl
  | cons x xs ih => simp only [sortBytes, SigV4Spec.sortStrs, ih, hins]

/-! the two sorts outside the sorted vector are the shared `sortBy` (`S3V/Thm/InsertionSort.lean`); the specification's
    insertion tests `pairLe x y` where the loop tests "`y` goes before `x`" -/

theorem insertBytes_eq_insBy : ∀ (x : Bytes) l, insertBytes x l = insBy (fun y x => bLt y x) x l :=
  insBy_of (fun _ => rfl) fun _ _ _ => rfl

theorem sortBytes_eq_sortBy : ∀ l, sortBytes l = sortBy (fun y x => bLt y x) l :=
  sortBy_of insertBytes_eq_insBy rfl fun _ _ => rfl

theorem insertPair_eq_insBy (x : Bytes × Bytes) (l : List (Bytes × Bytes)) :
    SigV4Spec.insertPair x l = insBy (fun y x => !SigV4Spec.pairLe x y) x l := by
  induction l with
  | nil => rfl
  | cons y ys ih =>
    rw [SigV4Spec.insertPair, insBy, ih]
    cases SigV4Spec.pairLe x y <;> rfl

theorem sortPairs_eq_sortBy : ∀ l, SigV4Spec.sortPairs l = sortBy (fun y x => !SigV4Spec.pairLe x y) l :=
  sortBy_of insertPair_eq_insBy rfl fun _ _ => rfl

theorem sortBytes_perm (l : List Bytes) : (sortBytes l).Perm l := sortBytes_eq_sortBy l ▸ sortBy_perm _ l

theorem sortPairs_perm (l : List (Bytes × Bytes)) : (SigV4Spec.sortPairs l).Perm l :=
  sortPairs_eq_sortBy l ▸ sortBy_perm _ l

theorem mem_sortPairs {y : Bytes × Bytes} {l : List (Bytes × Bytes)} : y ∈ SigV4Spec.sortPairs l ↔ y ∈ l :=
  (sortPairs_perm l).mem_iff

/-- inserting by name only is inserting by (name, value) when the new value is minimal among its name -/
theorem insertByFirst_eq_insertPair (x : Bytes × Bytes) (l : List (Bytes × Bytes))
    (h : ∀ y ∈ l, y.1 = x.1 → bLe x.2 y.2 = true) : insertByFirst x l = SigV4Spec.insertPair x l := by
  induction l with
  | nil => rfl
  | cons y ys ih =>
    simp only [insertByFirst, SigV4Spec.insertPair, pairLe_eq (h y (by simp)), ih (fun z hz => h z (by simp [hz]))]
    cases bLt y.1 x.1 <;> rfl

theorem sortByFirst_eq_sortPairs (l : List (Bytes × Bytes)) (h : dupOrdered l = true) :
    sortByFirst l = SigV4Spec.sortPairs l := by
  induction l with
  | nil => rfl
  | cons x xs ih =>
    simp only [dupOrdered, Bool.and_eq_true, List.all_eq_true, Bool.or_eq_true, decide_eq_true_eq] at h
    simp only [sortByFirst, SigV4Spec.sortPairs, ih h.2]
    apply insertByFirst_eq_insertPair
    intro y hy e
    rcases h.1 y (mem_sortPairs.mp hy) with h1 | h1
    · exact absurd e h1
    · exact h1

theorem joinQuery_eq (l : List (Bytes × Bytes)) :
    joinQuery l = SigV4Spec.joinWith [38] (l.map fun p => p.1 ++ [61] ++ p.2) := by
  induction l with
  | nil => rfl
  | cons x xs ih =>
    obtain ⟨n, v⟩ := x
    cases xs with
    | nil => rfl
    | cons y ys =>
      simp only [joinQuery, List.map_cons, SigV4Spec.joinWith] at ih ⊢
      rw [ih]

theorem canonicalQuery_eq (q : List (Bytes × Bytes)) (h : dupOrdered (q.map encPair) = true) :
    canonicalQueryImpl false q = SigV4Spec.canonicalQuery q := by
  have henc : (q.map fun p => (SigV4Spec.uriEncode false p.1, SigV4Spec.uriEncode false p.2)) = q.map encPair := by
    apply List.map_congr_left
    intro p _
    rw [encPair, uriEncode_eq, uriEncode_eq]
    rfl
  show joinQuery (sortByFirst (q.map encPair)) = _
  unfold SigV4Spec.canonicalQuery
  rw [joinQuery_eq, henc, ← sortByFirst_eq_sortPairs _ h]

/-- the code's run-collapsing loop is the specification's `collapseSpaces`: the flag says whether the byte before was
    a space -/
theorem collapseRuns_cons (c : UInt8) (l : Bytes) :
    c :: collapseRuns (c = 32) l = SigV4Spec.collapseSpaces (c :: l) := by
  induction l generalizing c with
  | nil => rfl
  | cons d ds ih =>
    by_cases h : c = 32 ∧ d = 32
    · obtain ⟨rfl, rfl⟩ := h
      simp only [collapseRuns, SigV4Spec.collapseSpaces, decide_true, Bool.and_self, if_true]
      exact ih 32
    · have h1 : (decide (d = 32) && decide (c = 32)) = false := by simpa [and_comm] using h
      have h2 : (decide (c = 32) && decide (d = 32)) = false := by simpa using h
      simp only [collapseRuns, SigV4Spec.collapseSpaces, h1, h2, Bool.false_eq_true, if_false, ih d]

theorem collapseRuns_false (l : Bytes) : collapseRuns false l = SigV4Spec.collapseSpaces l := by
  cases l with
  | nil => rfl
  | cons c cs =>
    rw [← collapseRuns_cons]
    simp [collapseRuns]

theorem canonValue_eq (v : Bytes) : collapseRuns false (trim v) = SigV4Spec.trimAll v := by
  rw [collapseRuns_false]
  rfl

/-! ## the header block: the selection grouped by name, and the two loops of `push_canonical_headers` over it -/

/-- `OrderedHeaders::from_headers` on raw header lines; `Req.hs r` is `hsOf r.headers` -/
def hsOf (raw : List (Bytes × Bytes)) : List (Bytes × Bytes) := sortByFirst (raw.map fun p => (lower p.1, p.2))

/-- the raw values of the lines that carry the name `n`, case ignored, in arrival order -/
def valsOf (raw : List (Bytes × Bytes)) (n : Bytes) : List Bytes := (raw.filter fun h => lower h.1 = n).map (·.2)

/-- `get_all_pairs` on the sorted header list = the lines of that name, in arrival order -/
theorem getAllPairs_hsOf (raw : List (Bytes × Bytes)) (n : Bytes) :
    getAllPairs (hsOf raw) n = (valsOf raw n).map fun v => (n, v) := by
  unfold hsOf valsOf
  rw [getAllPairs_sorted (sortByFirst_sorted _), filter_sortByFirst, List.filter_map, List.map_map]
  exact List.map_congr_left fun p hp => by
    have : lower p.1 = n := by simpa using (List.mem_filter.mp hp).2
    simp [this]

/-- continuing a line: further values of the name just emitted replace the line feed by `,` -/
theorem pushHeaderLines_continue (n : Bytes) (hn : n ≠ b!"authorization") (vs : List Bytes) (x : Bytes)
    (rest : List (Bytes × Bytes)) :
    pushHeaderLines (some n) (x ++ [10]) (vs.map (fun v => (n, v)) ++ rest) =
      pushHeaderLines (some n) (x ++ vs.flatMap (fun v => [44] ++ collapseRuns false (trim v)) ++ [10]) rest := by
  induction vs generalizing x with
  | nil => simp
  | cons v vs ih =>
    simp only [List.map_cons, List.cons_append, pushHeaderLines, hn, if_false, if_true, List.dropLast_concat]
    have := ih (x ++ [44] ++ collapseRuns false (trim v))
    simp only [List.append_assoc] at this ⊢
    rw [this]
    simp [List.flatMap_cons, List.append_assoc]

theorem joinWith_cons_flatMap (sep c : Bytes) (cs : List Bytes) :
    SigV4Spec.joinWith sep (c :: cs) = c ++ cs.flatMap (fun v => sep ++ v) := by
  induction cs generalizing c with
  | nil => simp [SigV4Spec.joinWith]
  | cons d ds ih =>
    simp only [SigV4Spec.joinWith, List.flatMap_cons, ih d, List.append_assoc]

theorem pushHeaderLines_group (n : Bytes) (hn : n ≠ b!"authorization") (last : Option Bytes) (hl : last ≠ some n)
    (v : Bytes) (vs : List Bytes) (ans : Bytes) (rest : List (Bytes × Bytes)) :
    pushHeaderLines last ans (((v :: vs).map fun v => (n, v)) ++ rest) =
      pushHeaderLines (some n)
        (ans ++ (n ++ [58] ++ SigV4Spec.joinWith [44] ((v :: vs).map fun v => collapseRuns false (trim v)) ++ [10])) rest := by
  simp only [List.map_cons, List.cons_append, pushHeaderLines, hn, if_false, hl]
  rw [pushHeaderLines_continue n hn vs (ans ++ n ++ [58] ++ collapseRuns false (trim v)) rest,
    joinWith_cons_flatMap, List.flatMap_map]
  simp [List.append_assoc]

/-- the first loop of `push_canonical_headers` on a selection grouped by name: one line `name:v1,v2` per name. The names
    are distinct and each has a value, so no two groups merge and none vanishes; none is `authorization`, which is skipped. -/
theorem pushHeaderLines_groups (vals : Bytes → List Bytes) (names : List Bytes) (last : Option Bytes) (ans : Bytes)
    (hok : ∀ n ∈ names, n ≠ b!"authorization" ∧ vals n ≠ []) (hnd : names.Nodup) (hlast : ∀ n ∈ names, last ≠ some n) :
    pushHeaderLines last ans (names.flatMap fun n => (vals n).map fun v => (n, v)) =
      ans ++ names.flatMap (fun n =>
        n ++ [58] ++ SigV4Spec.joinWith [44] ((vals n).map fun v => collapseRuns false (trim v)) ++ [10]) := by
  induction names generalizing last ans with
  | nil => simp [pushHeaderLines]
  | cons n ns ih =>
    obtain ⟨hna, hv⟩ := hok n (by simp)
    rw [List.nodup_cons] at hnd
    obtain ⟨v, vs, hvals⟩ := List.exists_cons_of_ne_nil hv
    rw [List.flatMap_cons, hvals, pushHeaderLines_group n hna last (hlast n (by simp)) v vs ans,
      ih (some n) _ (fun m hm => hok m (by simp [hm])) hnd.2
        (fun m hm e => hnd.1 (by injection e with e; rw [e]; exact hm))]
    simp [List.flatMap_cons, hvals, List.append_assoc]

theorem signedNamesGo_skip (n : Bytes) (vs : List Bytes) (rest : List (Bytes × Bytes)) :
    signedNamesGo (some n) ((vs.map fun v => (n, v)) ++ rest) = signedNamesGo (some n) rest := by
  induction vs with
  | nil => rfl
  | cons v vs ih => simp [signedNamesGo, ih]

/-- the second loop on the same selection: the `;` is written *before* a name, when a name was written already; hence
    the leading `;` when `last` is set -/
theorem signedNamesGo_groups (vals : Bytes → List Bytes) (names : List Bytes) (last : Option Bytes)
    (hok : ∀ n ∈ names, n ≠ b!"authorization" ∧ vals n ≠ []) (hnd : names.Nodup) (hlast : ∀ n ∈ names, last ≠ some n) :
    signedNamesGo last (names.flatMap fun n => (vals n).map fun v => (n, v)) =
      (if last.isSome && !names.isEmpty then [59] else []) ++ SigV4Spec.joinWith [59] names := by
  induction names generalizing last with
  | nil => simp [signedNamesGo, SigV4Spec.joinWith]
  | cons n ns ih =>
    obtain ⟨hna, hv⟩ := hok n (by simp)
    rw [List.nodup_cons] at hnd
    obtain ⟨v, vs, hvals⟩ := List.exists_cons_of_ne_nil hv
    have hl := hlast n (by simp)
    rw [List.flatMap_cons, hvals]
    simp only [List.map_cons, List.cons_append, signedNamesGo, hna, hl, decide_false, Bool.or_self,
      Bool.false_eq_true, if_false]
    rw [signedNamesGo_skip, ih (some n) (fun m hm => hok m (by simp [hm])) hnd.2
        (fun m hm e => hnd.1 (by injection e with e; rw [e]; exact hm))]
    cases ns with
    | nil => cases last <;> simp [SigV4Spec.joinWith]
    | cons m ms => cases last <;> simp [SigV4Spec.joinWith, List.append_assoc]

theorem headerOK_iff {r : Req} {n : Bytes} : headerOK r n = true ↔ n ≠ b!"authorization" ∧ valsOf r.headers n ≠ [] := by
  simp only [headerOK, valsOf, Bool.and_eq_true, decide_eq_true_eq, Bool.not_eq_true', List.isEmpty_eq_false_iff,
    ne_eq, List.map_eq_nil_iff]

/-- the selection, name by name, is the lines of the listed names whenever the fallback has nothing to add: every name
    has a line (`headerOK`), or there is no fallback -/
theorem findMultiple_eq (raw : List (Bytes × Bytes)) (onMissing : Bytes → Option Bytes) (names : List Bytes)
    (h : ∀ n ∈ names, valsOf raw n = [] → onMissing n = none) :
    findMultiple (hsOf raw) names onMissing = names.flatMap fun n => (valsOf raw n).map fun v => (n, v) := by
  unfold findMultiple
  rw [List.flatMap_def, List.flatMap_def]
  congr 1
  apply List.map_congr_left
  intro n hn
  rw [getAllPairs_hsOf]
  cases hv : valsOf raw n with
  | nil => rw [h n hn hv]; rfl
  | cons v vs => rfl

theorem canonicalHeaders_findMultiple (r : Req) (onMissing : Bytes → Option Bytes) (names : List Bytes)
    (h : ∀ n ∈ names, headerOK r n = true) (hnd : names.Nodup) :
    canonicalHeadersImpl (findMultiple r.hs names onMissing) =
      names.flatMap (fun n => n ++ [58] ++ SigV4Spec.joinWith [44] (SigV4Spec.headerValues r.headers n) ++ [10]) ∧
    signedHeadersImpl (findMultiple r.hs names onMissing) = SigV4Spec.joinWith [59] names := by
  have hok : ∀ n ∈ names, n ≠ b!"authorization" ∧ valsOf r.headers n ≠ [] := fun n hn => headerOK_iff.mp (h n hn)
  have hvals : ∀ n, (valsOf r.headers n).map (fun v => collapseRuns false (trim v)) = SigV4Spec.headerValues r.headers n := by
    intro n
    unfold valsOf SigV4Spec.headerValues
    rw [List.map_map]
    apply List.map_congr_left
    intro p _
    exact canonValue_eq p.2
  rw [show r.hs = hsOf r.headers from rfl,
    findMultiple_eq r.headers onMissing names fun n hn hv => absurd hv (headerOK_iff.mp (h n hn)).2]
  constructor
  · unfold canonicalHeadersImpl
    rw [pushHeaderLines_groups (valsOf r.headers) names none [] hok hnd (fun _ _ e => by cases e)]
    simp only [List.nil_append, hvals]
  · unfold signedHeadersImpl
    rw [signedNamesGo_groups (valsOf r.headers) names none hok hnd (fun _ _ e => by cases e)]
    simp

/-! ## the canonical request -/

theorem canon_impl_eq_spec (sha256hex : Bytes → Bytes) (onMissing : Bytes → Option Bytes) (r : Req)
    (h : wf r = true) : canonImpl sha256hex onMissing r = canonSpec sha256hex r := by
  simp only [wf, Bool.and_eq_true, List.all_eq_true, decide_eq_true_eq] at h
  obtain ⟨⟨hh, hnd⟩, hq⟩ := h
  have hnames : ∀ n ∈ sortBytes r.signed, headerOK r n = true :=
    fun n hn => hh n ((sortBytes_perm r.signed).mem_iff.mp hn)
  have hnd' : (sortBytes r.signed).Nodup := (sortBytes_perm r.signed).nodup_iff.mpr hnd
  obtain ⟨hc, hs⟩ := canonicalHeaders_findMultiple r onMissing (sortBytes r.signed) hnames hnd'
  have hquery := canonicalQuery_eq r.qs hq
  rw [sortBytes_eq] at hc hs
  simp only [canonImpl, canonSpec, createCanonicalRequest, SigV4Spec.canonicalRequest, Req.toSpec,
    SigV4Spec.canonicalHeaders, SigV4Spec.signedHeadersLine, hquery, uriEncode_eq, sortBytes_eq, hc, hs,
    Bool.not_false]

/-! ## HTTP/2: `:authority` stands in for a missing `host` line -/

/-- the header lines the specification sees -/
def effectiveRaw (http2 : Bool) (authority : Option Bytes) (raw : List (Bytes × Bytes)) : List (Bytes × Bytes) :=
  if http2 && !(raw.any fun h => lower h.1 = b!"host") then
    match authority with
    | some a => (b!"host", a) :: raw
    | none => raw
  else raw

theorem hostFallback_eq_some {http2 : Bool} {authority : Option Bytes} {n a : Bytes} :
    hostFallback http2 authority n = some a ↔ n = b!"host" ∧ http2 = true ∧ authority = some a := by
  unfold hostFallback
  rw [Option.ite_none_right_eq_some, Bool.and_eq_true, decide_eq_true_eq, and_assoc]

/-- selecting with the `on_missing` closure of the code = selecting, without any fallback, from the lines the
    specification sees -/
theorem findMultiple_fallback (http2 : Bool) (authority : Option Bytes) (raw : List (Bytes × Bytes)) (names : List Bytes) :
    findMultiple (hsOf raw) names (hostFallback http2 authority) =
      findMultiple (hsOf (effectiveRaw http2 authority raw)) names (fun _ => none) := by
  unfold findMultiple
  congr 1
  funext n
  rw [getAllPairs_hsOf, getAllPairs_hsOf]
  unfold valsOf
  have hl : lower b!"host" = b!"host" := by decide
  cases hf : hostFallback http2 authority n with
  | none =>
    -- nothing stands in for `n`: both sides see the same lines of that name
    have hsame : (effectiveRaw http2 authority raw).filter (fun h => lower h.1 = n) =
        raw.filter (fun h => lower h.1 = n) := by
      unfold effectiveRaw
      split
      · rename_i hc
        cases authority with
        | none => rfl
        | some a =>
          have hn : ¬ b!"host" = n := by
            intro e
            have := (hostFallback_eq_some (a := a)).mpr ⟨e.symm, (Bool.and_eq_true _ _ ▸ hc).1, rfl⟩
            rw [hf] at this
            cases this
          rw [List.filter_cons_of_neg (by rw [hl]; exact mt of_decide_eq_true hn)]
      · rfl
    rw [hsame]
  | some a =>
    -- `n` is `host`, and `:authority` is added exactly when no `host` line is there
    obtain ⟨rfl, rfl, rfl⟩ := hostFallback_eq_some.mp hf
    unfold effectiveRaw
    cases hany : raw.any fun h => lower h.1 = b!"host" with
    | false =>
      have hnone : (raw.filter fun h => lower h.1 = b!"host") = [] :=
        List.filter_eq_nil_iff.mpr (List.any_eq_false.mp hany)
      simp only [Bool.not_false, Bool.and_self, if_true]
      rw [List.filter_cons_of_pos (by rw [hl]; exact decide_eq_true rfl), hnone]
      simp only [List.map_cons, List.map_nil]
    | true =>
      simp only [Bool.not_true, Bool.and_false, Bool.false_eq_true, if_false]
      cases hsel : raw.filter fun h => lower h.1 = b!"host" with
      | nil =>
        rw [List.any_eq_false.mpr (List.filter_eq_nil_iff.mp hsel)] at hany
        cases hany
      | cons x xs => rfl

end S3V.SigV4
