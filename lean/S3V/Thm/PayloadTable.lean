import S3V.Gen.Payloads
import S3V.Thm.HttpBody
import S3V.Thm.XmlRoundtrip
import S3V.Thm.OpAll
/-!
# Lemmas: the per-operation body table (`Gen/Payloads.lean`) against the Smithy model

Shared by `Props/C02Payload.lean` (request body) and `Props/C03Payload.lean` (response body).
-/
namespace S3V.PayloadTable
open S3V S3V.Gen S3V.Xml S3V.XmlGen S3V.HttpBody

/-- does a body statement of the generated code fit what the Smithy model binds to the body?
* an XML payload member: the Rust type is the one named like the member's target shape, and the member is taken
  with `take_opt_xml_body` / written under `if let Some` exactly when Smithy does not mark it `required`;
* a structure that is itself the body: the type that carries its body members (`take_xml_body`, always required, on
  the input side; `set_xml_body(&x)` on the output side);
* a string payload: the raw body as text, optional exactly when not `required`;
* a streaming blob: the raw body; a streaming union: the event stream. -/
def bodyMatch : BodyImpl → BodySmithy → Bool
  | .xml ty o, .xml ty' _ req => ty == ty' && o == !req
  | .xml ty o, .xmlSelf ty' _ => ty == ty' && o == false
  | .xmlSelf ty _, .xmlSelf ty' _ => ty == ty'
  | .text o, .text req => o == !req
  | .stream, .blob streaming => streaming
  | .eventStream, .eventStream => true
  | _, _ => false

/-- the body rows of the code and of the model: both empty, or one row each, for the same member, fitting -/
def rowsMatch : List BodyRow → List SmithyBodyRow → Bool
  | [], [] => true
  | [r], [s] => r.member == s.member && bodyMatch r.body s.body
  | _, _ => false

/-- the root element name the model prescribes for the XML body of an operation, if it has one -/
def smithyRootOf : List SmithyBodyRow → Option Bytes
  | [s] => match s.body with
    | .xml _ root _ => some root
    | .xmlSelf _ root => some root
    | _ => none
  | _ => none

/-- the member names of the rows bound to the payload in the binding table of C02 / C03 (`Gen/Bindings.lean`) -/
def payloadMembers (bs : List Binding) : List (List UInt8) :=
  (bs.filter fun b => b.loc == .payload || b.loc == .bodySelf).map (·.member)

/-- the XML body statement of a `serialize_http`: the type written and whether the XML declaration goes in front
    (`set_xml_body` on a payload member or on the output itself: yes; `set_xml_body_no_decl`: no) -/
def _root_.S3V.Gen.BodyImpl.xmlOut : BodyImpl → Option (Ty × Bool)
  | .xml ty _ => some (ty, true)
  | .xmlSelf ty decl => some (ty, decl)
  | _ => none

/-- the values a root can carry (normal form): under a generated root every value of the schema in normal form; the
    hand-written `GetBucketLocationOutput` root carries `None` or a non-empty constraint (`Some("")` is written like
    `None`) -/
def FitsDoc (X : Ext) : SerRoot → Sch → Val → Prop
  | .location _ _, _, v => v = .struct [.absent] ∨ ∃ b : Bytes, b ≠ [] ∧ utf8Valid b = true ∧ v = .struct [.one (.str b)]
  | _, s, v => Fits X s v

theorem rows_of_match {rs : List BodyRow} {ss : List SmithyBodyRow} (h : rowsMatch rs ss = true) :
    (rs = [] ∧ ss = []) ∨ ∃ r s, rs = [r] ∧ ss = [s] ∧ r.member = s.member ∧ bodyMatch r.body s.body = true := by
  unfold rowsMatch at h
  split at h
  · exact .inl ⟨rfl, rfl⟩
  · simp only [Bool.and_eq_true, beq_iff_eq] at h
    exact .inr ⟨_, _, rfl, rfl, h⟩
  · cases h

theorem length_le_one_of_match {rs : List BodyRow} {ss : List SmithyBodyRow} (h : rowsMatch rs ss = true) :
    rs.length ≤ 1 ∧ rs.length = ss.length := by
  rcases rows_of_match h with ⟨h1, h2⟩ | ⟨r, s, h1, h2, _⟩ <;> simp [h1, h2]

/-! ## the classes of operations by body statement, as tests evaluated over `Op.all` -/

/-- the class of an operation by the body statement of its `deserialize_http` -/
def inClass (op : Op) : Bool :=
  match implInBody op with
  | [⟨_, .xml _ _⟩] => true
  | [⟨_, .stream⟩] => [Op.PutObject, .UploadPart, .WriteGetObjectResponse].contains op
  | [⟨_, .text false⟩] => op == .PutBucketPolicy
  | [] => smithyInBody op == []
  | _ => false

theorem inClass_all : ∀ op : Op, inClass op = true :=
  Op.forall_of_all (by decide +kernel)

/-- the class of an operation by the body statement of its `serialize_http` -/
def outClass (op : Op) : Bool :=
  match implOutBody op with
  | [⟨_, .xml _ _⟩] => true
  | [⟨_, .xmlSelf _ _⟩] => true
  | [⟨_, .stream⟩] => [Op.GetObject, .GetObjectTorrent].contains op
  | [⟨_, .text true⟩] => op == .GetBucketPolicy
  | [⟨_, .eventStream⟩] => op == .SelectObjectContent
  | [] => smithyOutBody op == []
  | _ => false

theorem outClass_all : ∀ op : Op, outClass op = true :=
  Op.forall_of_all (by decide +kernel)

end S3V.PayloadTable
