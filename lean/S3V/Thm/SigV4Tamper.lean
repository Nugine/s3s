import S3V.Thm.SigV4Inj
import S3V.Thm.Crypto
/-!
# Tampering changes the signature

Equal specified signatures mean equal signed views (`signature_inj`, under the explicit `NoCollision` hypothesis); and the
converse for texts: the canonical request is a rendering of the signed view (`canonical_eq_render`), so rewrites that keep
the view keep the signature.
-/
namespace S3V.SigV4
open S3V

theorem specHex_injective {a b : Bytes} (h : SigV4Spec.hex a = SigV4Spec.hex b) : a = b :=
  Crypto.hexLower_injective h

/-- the two no-collision hypotheses, about exactly the two messages involved -/
structure NoCollision (sha256hex : Bytes → Bytes) (hmac : Bytes → Bytes → Bytes) (secret timestamp : Bytes)
    (s : SigV4Spec.Scope) (r r' : SigV4Spec.Request) : Prop where
  /-- SHA-256 does not collide on the two canonical requests -/
  hash : sha256hex (SigV4Spec.canonicalRequest r) = sha256hex (SigV4Spec.canonicalRequest r') →
    SigV4Spec.canonicalRequest r = SigV4Spec.canonicalRequest r'
  /-- HMAC under the signing key does not collide on the two strings to sign -/
  mac : hmac (SigV4Spec.signingKey hmac secret s) (SigV4Spec.stringToSign sha256hex timestamp s (SigV4Spec.canonicalRequest r)) =
      hmac (SigV4Spec.signingKey hmac secret s) (SigV4Spec.stringToSign sha256hex timestamp s (SigV4Spec.canonicalRequest r')) →
    SigV4Spec.stringToSign sha256hex timestamp s (SigV4Spec.canonicalRequest r) =
      SigV4Spec.stringToSign sha256hex timestamp s (SigV4Spec.canonicalRequest r')

/-- **equal signatures, equal signed views**: hex loses nothing, the MAC and the hash do not collide on the two messages
    (`NoCollision`), the string to sign ends in the hash of the canonical request, and the canonical request determines
    the view (`canon_injective`) -/
theorem signature_inj {sha256hex : Bytes → Bytes} {hmac : Bytes → Bytes → Bytes} {secret timestamp : Bytes}
    {s : SigV4Spec.Scope} {r r' : SigV4Spec.Request} (h₁ : LineSafe r) (h₂ : LineSafe r')
    (hnc : NoCollision sha256hex hmac secret timestamp s r r')
    (h : SigV4Spec.signature sha256hex hmac secret timestamp s r = SigV4Spec.signature sha256hex hmac secret timestamp s r') :
    signedView r = signedView r' := by
  unfold SigV4Spec.signature SigV4Spec.sign at h
  have hsts := hnc.mac (specHex_injective h)
  unfold SigV4Spec.stringToSign at hsts
  exact canon_injective h₁ h₂ (hnc.hash (List.append_cancel_left hsts))

/-! ## the canonical request is a function of the signed view -/

/-- the canonical request written from a `SignedView` alone -/
def renderView (v : SignedView) : Bytes :=
  v.method ++ [10] ++ SigV4Spec.uriEncode true v.path ++ [10] ++
  SigV4Spec.joinWith [38] (v.query.map fun p => p.1 ++ [61] ++ p.2) ++ [10] ++
  (v.headers.flatMap fun p => p.1 ++ [58] ++ p.2 ++ [10]) ++ [10] ++
  SigV4Spec.joinWith [59] (v.headers.map (·.1)) ++ [10] ++ v.payload

theorem canonical_eq_render (r : SigV4Spec.Request) : SigV4Spec.canonicalRequest r = renderView (signedView r) := by
  have hnames : (signedView r).headers.map (·.1) = SigV4Spec.sortStrs r.signedHeaders := by
    unfold signedView
    rw [List.map_map]
    exact List.map_id _
  unfold SigV4Spec.canonicalRequest renderView
  rw [canonicalHeaders_lines, headerLines, List.flatMap_map, hnames]
  rfl

/-- header lines: only the sub-list of each signed name, with names compared case-insensitively and values
    `Trim`med, matters — so line order across names, name case and unsigned lines do not -/
theorem view_headers_congr {r r' : SigV4Spec.Request} (hm : r.method = r'.method) (hp : r.path = r'.path)
    (hq : r.query = r'.query) (hs : r.signedHeaders = r'.signedHeaders) (hpl : r.payload = r'.payload)
    (hh : ∀ n ∈ r.signedHeaders,
      (r.headers.filter fun h => SigV4Spec.lowercase h.1 = n).map (fun h => SigV4Spec.trimAll h.2) =
      (r'.headers.filter fun h => SigV4Spec.lowercase h.1 = n).map (fun h => SigV4Spec.trimAll h.2)) :
    signedView r = signedView r' := by
  unfold signedView
  rw [hm, hp, hq, hpl, ← hs]
  simp only [SignedView.mk.injEq, true_and, and_true]
  apply List.map_congr_left
  intro n hn
  have := hh n (mem_sortStrs hn)
  simp only [SigV4Spec.headerValues, this]

end S3V.SigV4
