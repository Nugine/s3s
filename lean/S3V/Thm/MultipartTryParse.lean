import S3V.Thm.MultipartScan
import S3V.Thm.Utf8Prefix
/-!
# Lemmas: the part loop and `try_parse` on an extension of the buffer (C09d)

A success of `try_parse` is kept on every longer buffer. A failure is kept too, unless the buffer ends in an
unterminated `--boundary`: there `split_to` matched the trailing piece (`S3V/Findings/C09.lean`). What still
holds there, and is all the accumulate loop needs: the early `InvalidFormat` (a field value that is not
UTF-8) stays a failure or becomes "need more data", because the longer value is the old value followed by
`CR LF --boundary…`, and a string that is not UTF-8 does not become UTF-8 by appending an ASCII byte and
more (`utf8Valid_prefix_before_ascii`). `PRes.Ext` states both.
-/
namespace S3V.Multipart
open S3V

/-- `ans.take (ans.length - 2)` is the field value, what `split_to` hands back less its last CRLF: the value cut out of the
    shorter slice is UTF-8 if the one cut out of the longer slice is -/
theorem splitTo_value_utf8 {pat s q ans r ans' r' : Bytes}
    (h : splitTo pat s = some (ans, r)) (h' : splitTo pat (s ++ q) = some (ans', r'))
    (hv : utf8Valid (ans'.take (ans'.length - 2)) = true) :
    utf8Valid (ans.take (ans.length - 2)) = true := by
  obtain ⟨y, rfl, hy⟩ := (splitTo_eq_some_iff.mp h).ans_ext (splitTo_eq_some_iff.mp h')
  rcases hy with rfl | hy
  · rwa [List.append_nil] at hv
  rcases (splitTo_eq_some_iff.mp h).ans_lines with rfl | ⟨w, rfl⟩
  · rfl
  · -- the longer value begins with the shorter one and the CR that followed it
    have hpre : w ++ [13] <+: (w ++ [13, 10] ++ y).take ((w ++ [13, 10] ++ y).length - 2) := by
      rw [List.prefix_take_iff]
      refine ⟨⟨10 :: y, by simp⟩, ?_⟩
      simp only [List.length_append, List.length_cons, List.length_nil]
      omega
    obtain ⟨x, hx⟩ := hpre
    rw [← hx, List.append_assoc] at hv
    have e1 : (w ++ [13, 10]).take ((w ++ [13, 10]).length - 2) = w := by simp
    rw [e1]
    exact utf8Valid_prefix_before_ascii (c := 13) (by decide) hv

/-- `R'` is an answer on `s ++ q` that agrees with the answer `R` on `s`: a success stays; a failure never
    becomes a success, and stays a failure unless `s` ends in an unterminated `--boundary` -/
def PRes.Ext (b s q : Bytes) : PRes → PRes → Prop
  | .needMore, _ => True
  | .parsed f n c r, R' => R' = .parsed f n c (r ++ q)
  | .invalid, R' => (∀ f n c r, R' ≠ .parsed f n c r) ∧ (¬ dashBoundary b <:+ s → R' = .invalid)

theorem PRes.Ext.invalid (b s q : Bytes) : PRes.Ext b s q .invalid .invalid := ⟨nofun, fun _ => rfl⟩

theorem PRes.Ext.mono {b s t q : Bytes} {R R' : PRes} (h : R.Ext b s q R') (hst : s <:+ t) : R.Ext b t q R' := by
  cases R with
  | needMore => trivial
  | parsed f n c r => exact h
  | invalid => exact ⟨h.1, fun hns => h.2 fun h3 => hns (h3.trans hst)⟩

theorem partsLoop_nil (b : Bytes) (fuel : Nat) (fields) : partsLoop b fuel [] fields = .needMore := by
  cases fuel with
  | zero => rfl
  | succ n => rfl

theorem partsStep_ext (b q : Bytes) (k k' : Bytes → List (Bytes × Bytes) → PRes)
    (s : Bytes) (fields : List (Bytes × Bytes))
    (hk : ∀ s' f', Shorter s' s → (k s' f').Ext b s' q (k' (s' ++ q) f'))
    (hnil : ∀ f', k [] f' = .needMore) :
    (partsStep b k s fields).Ext b s q (partsStep b k' (s ++ q) fields) := by
  unfold partsStep
  match parseHeaders s, parseHeaders_ext s q with
  | .more, _ => trivial
  | .error, hh => rw [hh]; exact .invalid b s q
  | .complete rest hdrs, hh =>
    have hrest := hh.1
    rw [hh.2]
    simp only
    cases lastHeader nameCD hdrs none with
    | none => trivial
    | some cdv =>
      simp only
      cases parseCD cdv with
      | none => exact .invalid b s q
      | some nf =>
        obtain ⟨name, fn⟩ := nf
        cases fn with
        | some fname =>
          simp only
          cases lastHeader nameCT hdrs none with
          | none => trivial
          | some ctv =>
            simp only
            by_cases hu : utf8Valid ctv = true
            · rw [if_pos hu, if_pos hu]
              rfl
            · rw [if_neg hu, if_neg hu]
              exact .invalid b s q
        | none =>
          simp only
          cases hsp : splitTo (dashBoundary b) rest with
          | none => trivial
          | some ar =>
            obtain ⟨ans, rest'⟩ := ar
            have hat := splitTo_eq_some_iff.mp hsp
            have hsh : Shorter rest' s := hat.shorter.trans hrest
            simp only
            by_cases hu : utf8Valid (ans.take (ans.length - 2)) = true
            · rw [if_pos hu]
              -- an empty rest is where `split_to` may have matched the unterminated last piece; the next round
              -- then asks for more data, which promises nothing
              by_cases h0 : rest' = []
              · rw [h0, hnil]
                trivial
              · rw [splitTo_eq_some_iff.mpr (hat.append q (Or.inl h0))]
                simp only
                rw [if_pos hu]
                exact (hk rest' _ hsh).mono hsh.1
            · rw [if_neg hu]
              constructor
              · cases hsp' : splitTo (dashBoundary b) (rest ++ q) with
                | none => exact nofun
                | some ar' =>
                  simp only
                  rw [if_neg fun hv => hu (splitTo_value_utf8 hsp hsp' hv)]
                  exact nofun
              · intro hns
                rw [splitTo_eq_some_iff.mpr (hat.append q (Or.inr fun h3 => hns (h3.trans hrest.1)))]
                simp only
                rw [if_neg hu]

theorem partsLoop_ext (b q : Bytes) : ∀ (fuel fuel' : Nat) (s : Bytes) (fields : List (Bytes × Bytes)),
    fuel ≤ fuel' → (partsLoop b fuel s fields).Ext b s q (partsLoop b fuel' (s ++ q) fields) := by
  intro fuel
  induction fuel with
  | zero => exact fun _ _ _ _ => trivial
  | succ n ih =>
    intro fuel' s fields hle
    obtain ⟨m, rfl⟩ : ∃ m, fuel' = m + 1 := ⟨fuel' - 1, by omega⟩
    rw [partsLoop, partsLoop]
    exact partsStep_ext b q _ _ s fields (fun s' f' _ => ih m s' f' (by omega)) (partsLoop_nil b n)

theorem firstLines_ext (b p q : Bytes) :
    match firstLines b p with
    | .inl r => r = .needMore ∨ r = .invalid ∧ firstLines b (p ++ q) = .inl .invalid
    | .inr slice => slice <:+ p ∧ firstLines b (p ++ q) = .inr (slice ++ q) := by
  -- a terminated line stays the first line of every extension, and leaves a suffix
  have ext {s l r : Bytes} := nextTerminatedLine_ext (s := s) (l := l) (r := r) q
  fun_cases firstLines b p
  -- no terminated line yet
  next => exact Or.inl rfl
  next => exact Or.inl rfl
  next rest line2 rest2 h2 hne h1 =>
    exact Or.inr ⟨rfl, by simp only [firstLines, (ext h1).2, (ext h2).2, if_pos hne, ↓reduceIte]⟩
  next rest line2 rest2 h2 heq h1 =>
    exact ⟨(ext h2).1.1.trans (ext h1).1.1, by simp only [firstLines, (ext h1).2, (ext h2).2, if_neg heq, ↓reduceIte]⟩
  next line rest h1 hl hne =>
    exact Or.inr ⟨rfl, by simp only [firstLines, (ext h1).2, if_neg hl, if_pos hne]⟩
  next line rest h1 hl heq =>
    exact ⟨(ext h1).1.1, by simp only [firstLines, (ext h1).2, if_neg hl, if_neg heq]⟩

/-- `PRes.Ext` for the answers of `try_parse`: a success also keeps the place where the file part starts -/
def Result.Ext (b p : Bytes) : Result → Result → Prop
  | .needMore, _ => True
  | .parsed f n c start, R' => start ≤ p.length ∧ R' = .parsed f n c start
  | .invalid, R' => (∀ f n c start, R' ≠ .parsed f n c start) ∧ (¬ dashBoundary b <:+ p → R' = .invalid)

theorem tryParse_ext (b p q : Bytes) : (tryParse b p).Ext b p (tryParse b (p ++ q)) := by
  unfold tryParse
  match firstLines b p, firstLines_ext b p q with
  | .inl _, .inl rfl => trivial
  | .inl _, .inr ⟨rfl, hf⟩ =>
    rw [hf]
    exact ⟨nofun, fun _ => rfl⟩
  | .inr slice, ⟨hsuf, hf⟩ =>
    rw [hf]
    simp only
    match partsLoop b (slice.length + 1) slice [],
      partsLoop_ext b q (slice.length + 1) ((slice ++ q).length + 1) slice [] (by simp) with
    | .needMore, _ => trivial
    | .parsed f n c r, hl =>
      rw [hl]
      refine ⟨Nat.sub_le _ _, ?_⟩
      show Result.parsed f n c ((p ++ q).length - (r ++ q).length) = .parsed f n c (p.length - r.length)
      rw [List.length_append, List.length_append, Nat.add_sub_add_right]
    | .invalid, ⟨hnp, hinv⟩ =>
      refine ⟨?_, fun hns => by rw [hinv fun h => hns (h.trans hsuf)]⟩
      intro f n c start
      cases hR : partsLoop b ((slice ++ q).length + 1) (slice ++ q) [] with
      | needMore => exact nofun
      | invalid => exact nofun
      | parsed f' n' c' r' => exact absurd hR (hnp f' n' c' r')

theorem tryParse_parsed_ext {b p : Bytes} {f : List (Bytes × Bytes)} {n c : Bytes} {start : Nat} (q : Bytes)
    (h : tryParse b p = .parsed f n c start) :
    start ≤ p.length ∧ tryParse b (p ++ q) = .parsed f n c start := by
  have := tryParse_ext b p q
  rw [h] at this
  exact this

theorem tryParse_invalid_ext {b p : Bytes} (q : Bytes) (h : tryParse b p = .invalid) :
    (∀ f n c start, tryParse b (p ++ q) ≠ .parsed f n c start) ∧
      (¬ dashBoundary b <:+ p → tryParse b (p ++ q) = .invalid) := by
  have := tryParse_ext b p q
  rw [h] at this
  exact this

theorem partsStep_congr (b : Bytes) (k k' : Bytes → List (Bytes × Bytes) → PRes) (s : Bytes)
    (fields : List (Bytes × Bytes)) (h : ∀ s' f', Shorter s' s → k s' f' = k' s' f') :
    partsStep b k s fields = partsStep b k' s fields := by
  -- every answer but one does not ask the continuation
  fun_cases partsStep b k s fields <;> simp +zetaDelta only [partsStep, *, ↓reduceIte, Bool.false_eq_true]
  -- the one that does hands it what `split_to` left of what `parse_headers` left
  exact h _ _ ((splitTo_eq_some_iff.mp ‹_›).shorter.trans (parseHeaders_shorter ‹_›))

/-- so the `fuel = 0` branch of `partsLoop` is dead in `tryParse` -/
theorem partsLoop_fuel (b : Bytes) : ∀ (n m : Nat) (s : Bytes) (fields : List (Bytes × Bytes)),
    s.length < n → s.length < m → partsLoop b n s fields = partsLoop b m s fields := by
  intro n
  induction n with
  | zero => intro m s fields h; omega
  | succ k ih =>
    intro m s fields hn hm
    cases m with
    | zero => omega
    | succ j =>
      rw [partsLoop, partsLoop]
      apply partsStep_congr
      intro s' f' hsh
      have := hsh.2
      exact ih j s' f' (by omega) (by omega)

end S3V.Multipart
