import S3V.Thm.XmlWf
import S3V.Thm.XmlStrict
import S3V.Thm.XmlEscape
import S3V.Thm.XmlUtf8
import S3V.Thm.XmlAttr
/-!
Round trip of the generic XML codec: `decode s (encode s v ++ stop …) = ok (v, stop …)` for every well-formed schema and
every value of it in normal form, by mutual structural induction on the schema. The last section is no round trip: the
encoder does not see what distinguishes a defaulted member from a required one (`Sch.serView`).
-/
namespace S3V.Xml
open S3V

mutual
  /-- `Fits X s v`: `v` is a value of schema `s` in *normal form*.
  Normal form = the values that have a restXml representation of their own:
  * a list member written flattened is not the empty list (`Some([])` and `[]` write nothing at all, which reads
    back as `None` / `MissingField`);
  * a member is `absent` only if it is optional;
  * a member bound to an attribute holds a string.
  Strings are Rust `String`s, i.e. valid UTF-8. Integers are in range. A timestamp is its own canonical rendering, ASCII
  and free of the bytes `text` escapes (what `fmt_timestamp` writes). -/
  def Fits (X : Ext) : Sch → Val → Prop
    | .str, .str b | .enm, .str b => utf8Valid b = true
    | .i32, .int i => i32Min ≤ i ∧ i ≤ i32Max
    | .i64, .int i => i64Min ≤ i ∧ i ≤ i64Max
    | .bool, .bool _ => True
    | .ts f, .ts t => X.tsParse f t = some t ∧ isAscii t = true ∧ escapeText t = t
    | .struct fs, .struct vs => FitsFields X fs vs
    | .union vs, .union tag v => FitsVariant X vs tag v
    | _, _ => False
  def FitsFields (X : Ext) : Flds → List FVal → Prop
    | .nil, [] => True
    | .cons _ pres shape s rest, fv :: fvs =>
      (match shape, fv with
        | .single, .one v => Fits X s v
        | .wrapped _, .many vs => ∀ v ∈ vs, Fits X s v
        | .flat, .many vs => vs ≠ [] ∧ ∀ v ∈ vs, Fits X s v
        | .attr, .one (.str b) => utf8Valid b = true
        | _, .absent => pres = .opt
        | _, _ => False) ∧ FitsFields X rest fvs
    | _, _ => False
  def FitsVariant (X : Ext) : Vars → Bytes → Val → Prop
    | .nil, _, _ => False
    | .cons t s rest, tag, v => if t = tag then Fits X s v else FitsVariant X rest tag v
end

/-! ### unfolding `Fits`, one equation per shape: the way to exhibit a concrete value (after `simp [Fits, FitsFields]` on a
value with a wrapped list the kernel rejects the proof term) -/

theorem fits_struct (X : Ext) (fs : Flds) (vs : List FVal) : Fits X (.struct fs) (.struct vs) = FitsFields X fs vs := by
  simp only [Fits]

theorem fits_str (X : Ext) (b : Bytes) : Fits X .str (.str b) = (utf8Valid b = true) := by simp only [Fits]

theorem fitsFields_nil (X : Ext) : FitsFields X .nil [] = True := by simp only [FitsFields]

theorem fitsFields_one (X : Ext) (t : Bytes) (p : Pres) (s : Sch) (r : Flds) (v : Val) (fvs : List FVal) :
    FitsFields X (.cons t p .single s r) (.one v :: fvs) = (Fits X s v ∧ FitsFields X r fvs) := by
  simp only [FitsFields]

theorem fitsFields_absent (X : Ext) (t : Bytes) (p : Pres) (sh : Shape) (s : Sch) (r : Flds) (fvs : List FVal) :
    FitsFields X (.cons t p sh s r) (.absent :: fvs) = (p = .opt ∧ FitsFields X r fvs) := by
  cases sh <;> simp only [FitsFields]

theorem fitsFields_wrapped (X : Ext) (t m : Bytes) (p : Pres) (s : Sch) (r : Flds) (vs : List Val) (fvs : List FVal) :
    FitsFields X (.cons t p (.wrapped m) s r) (.many vs :: fvs) = ((∀ v ∈ vs, Fits X s v) ∧ FitsFields X r fvs) := by
  simp only [FitsFields]

theorem fitsFields_flat (X : Ext) (t : Bytes) (p : Pres) (s : Sch) (r : Flds) (vs : List Val) (fvs : List FVal) :
    FitsFields X (.cons t p .flat s r) (.many vs :: fvs) = ((vs ≠ [] ∧ ∀ v ∈ vs, Fits X s v) ∧ FitsFields X r fvs) := by
  simp only [FitsFields]

theorem fitsFields_attr (X : Ext) (t : Bytes) (p : Pres) (s : Sch) (r : Flds) (b : Bytes) (fvs : List FVal) :
    FitsFields X (.cons t p .attr s r) (.one (.str b) :: fvs) = (utf8Valid b = true ∧ FitsFields X r fvs) := by
  simp only [FitsFields]

/-- what `FitsFields` asks of one member. Its `match` stands again there: inside the mutual block `FitsFields` cannot call a
function that calls `Fits` at the same `s`. `encField` and `memberPairs` do the same for `encodeFields` and `attrPairs`. -/
def FitsMember (X : Ext) (pres : Pres) (s : Sch) : Shape → FVal → Prop
  | .single, .one v => Fits X s v
  | .wrapped _, .many vs => ∀ v ∈ vs, Fits X s v
  | .flat, .many vs => vs ≠ [] ∧ ∀ v ∈ vs, Fits X s v
  | .attr, .one (.str b) => utf8Valid b = true
  | _, .absent => pres = .opt
  | _, _ => False

theorem fitsFields_cons (X : Ext) (t : Bytes) (p : Pres) (sh : Shape) (s : Sch) (r : Flds) (fv : FVal) (fvs : List FVal) :
    FitsFields X (.cons t p sh s r) (fv :: fvs) = (FitsMember X p s sh fv ∧ FitsFields X r fvs) := by
  simp only [FitsFields]
  rfl

def Flds.append : Flds → Flds → Flds
  | .nil, b => b
  | .cons t p sh s r, b => .cons t p sh s (r.append b)

theorem Flds.append_nil : ∀ a : Flds, a.append .nil = a
  | .nil => rfl
  | .cons t p sh s r => by simp [Flds.append, Flds.append_nil r]

/-- what one member contributes (the inline `match` of `encodeFields`) -/
def encField (tag : Bytes) (shape : Shape) (s : Sch) (fv : FVal) : List Ev :=
  match shape, fv with
  | .single, .one v => elemA tag (encAttrs s v) (encode s v)
  | .wrapped m, .many vs => elem tag (vs.flatMap fun v => elemA m (encAttrs s v) (encode s v))
  | .flat, .many vs => vs.flatMap fun v => elemA tag (encAttrs s v) (encode s v)
  | _, _ => []

theorem encodeFields_cons (tag : Bytes) (p : Pres) (shape : Shape) (s : Sch) (rest : Flds) (fv : FVal) (fvs : List FVal) :
    encodeFields (.cons tag p shape s rest) (fv :: fvs) = encField tag shape s fv ++ encodeFields rest fvs := by
  cases shape <;> cases fv <;> rfl

theorem elem_length (tag : Bytes) (inner : List Ev) : (elem tag inner).length = inner.length + 2 := by
  simp [elem]

/-! ### `skipText`, `expectEnd`, `forEach` on the events the encoder writes -/

theorem skipText_start (n a : Bytes) (r : List Ev) : skipText (.start n a :: r) = .start n a :: r := by
  simp [skipText]

theorem skipText_stop (n : Bytes) (r : List Ev) : skipText (.stop n :: r) = .stop n :: r := by
  simp [skipText]

theorem expectEnd_stop (n : Bytes) (r : List Ev) : expectEnd n (.stop n :: r) = .ok r := by
  simp [expectEnd, skipText]

theorem expectStart_start (n a : Bytes) (r : List Ev) : expectStart n (.start n a :: r) = .ok (a, r) := by
  simp [expectStart, skipText]

theorem forEach_stop {α : Type} (f : Bytes → Bytes → List Ev → α → R α) (fuel : Nat) (n : Bytes) (r : List Ev)
    (acc : α) : forEach f (fuel + 1) (.stop n :: r) acc = .ok (acc, .stop n :: r) := by
  simp [forEach, skipText]

theorem forEach_step {α : Type} (f : Bytes → Bytes → List Ev → α → R α) (fuel : Nat) (n a : Bytes)
    (r r' : List Ev) (acc acc' : α) (hf : f n a r acc = .ok (acc', .stop n :: r')) :
    forEach f (fuel + 1) (.start n a :: r) acc = forEach f fuel r' acc' := by
  simp [forEach, skipText, hf, expectEnd]

/-! ### the loop over written child elements -/

/-- `Loop f evs acc acc' rest`: `evs` is a run of complete elements `<n a>body</n>`, each of which the callback takes
whole, followed by the end tag of the parent; the callbacks turn `acc` into `acc'`, and `rest` (beginning with that end
tag) is left -/
inductive Loop {α : Type} (f : Bytes → Bytes → List Ev → α → R α) : List Ev → α → α → List Ev → Prop
  | stop (n : Bytes) (tail : List Ev) (acc : α) : Loop f (.stop n :: tail) acc acc (.stop n :: tail)
  | elem {n a : Bytes} {body more rest : List Ev} {acc acc' acc'' : α} :
      f n a (body ++ .stop n :: more) acc = .ok (acc', .stop n :: more) → Loop f more acc' acc'' rest →
      Loop f (.start n a :: (body ++ .stop n :: more)) acc acc'' rest

/-- `for_each_element` runs such a loop: one unit of fuel per element is enough -/
theorem Loop.forEach {α : Type} {f : Bytes → Bytes → List Ev → α → R α} {evs rest : List Ev} {acc acc' : α}
    (h : Loop f evs acc acc' rest) : ∀ fuel, evs.length < fuel → forEach f fuel evs acc = .ok (acc', rest) := by
  induction h with
  | stop n tail acc =>
    intro fuel hf
    cases fuel with
    | zero => cases hf
    | succ k => exact forEach_stop f k n tail acc
  | elem hcb _ ih =>
    intro fuel hf
    cases fuel with
    | zero => cases hf
    | succ k =>
      rw [forEach_step f k _ _ _ _ _ _ hcb]
      refine ih k ?_
      simp only [List.length_cons, List.length_append] at hf
      omega

/-- a loop of the callback of the members behind the first is a loop of the callback of all members, the first slot
untouched: the names it dispatches are names of those members, and the first member's name is none of them. So the
struct loop can be followed member by member from the front. -/
theorem Loop.cons (X : Ext) {tag : Bytes} {pres : Pres} {sh : Shape} {s : Sch} {rest : Flds} (htag : tag ∉ rest.tags)
    (slot : FVal) {evs r : List Ev} {acc acc' : List FVal}
    (h : Loop (fun name a evs acc => decodeField X rest name a evs acc) evs acc acc' r) :
    Loop (fun name a evs acc => decodeField X (.cons tag pres sh s rest) name a evs acc) evs (slot :: acc)
      (slot :: acc') r := by
  induction h with
  | stop n tail acc => exact .stop n tail _
  | elem hcb _ ih =>
    refine .elem ?_ ih
    have hmem := Flds.mem_tags_of_mem_elemTags (decodeField_known X _ _ _ _ _ _ hcb)
    rw [decodeField_skip X (.inr fun e => htag (by rw [← e]; exact hmem)), hcb]

/-- both list layouts keep the items read so far in the accumulator (`emb l`: the list itself for `list_content`, the
member's slot for a flattened list) and push each item behind them: the loop over the written items adds `vs` -/
theorem Loop.items {α : Type} {f : Bytes → Bytes → List Ev → α → R α} (emb : List Val → α) (s : Sch) (tag : Bytes)
    {more rest : List Ev} {res : α} : ∀ (vs : List Val),
    (∀ v ∈ vs, ∀ l r, f tag (encAttrs s v) (encode s v ++ .stop tag :: r) (emb l) = .ok (emb (l ++ [v]), .stop tag :: r)) →
    ∀ l : List Val, Loop f more (emb (l ++ vs)) res rest →
      Loop f ((vs.flatMap fun v => elemA tag (encAttrs s v) (encode s v)) ++ more) (emb l) res rest
  | [], _, l, h => by simpa using h
  | v :: vs, hf, l, h => by
    have ih := Loop.items emb s tag vs (fun v hv => hf v (List.mem_cons_of_mem _ hv)) (l ++ [v]) (by simpa using h)
    simp only [List.flatMap_cons, elemA, List.cons_append, List.append_assoc, List.nil_append] at ih ⊢
    exact .elem (hf v List.mem_cons_self l _) ih

/-! ### the `Ok(Self { … })` expression on a value that fits -/

theorem finish_fits (X : Ext) : ∀ (fs : Flds) (fvs : List FVal), FitsFields X fs fvs → fs.finish fvs = .ok fvs
  | .nil, [], _ => by simp [Flds.finish]
  | .nil, _ :: _, h => by simp [FitsFields] at h
  | .cons _ _ _ _ _, [], h => by simp [FitsFields] at h
  | .cons t pres shape s r, fv :: fvs, h => by
    simp only [FitsFields] at h
    have ih := finish_fits X r fvs h.2
    simp only [Flds.finish, ih]
    cases fv with
    | absent =>
      have hp : pres = .opt := by
        cases shape <;> simpa using h.1
      subst hp; rfl
    | one v => cases pres <;> rfl
    | many vs => cases pres <;> rfl

/-! ### the `let` block on the start tag the serialiser wrote -/

def initSlot : Shape → FVal → FVal
  | .attr, fv => fv
  | _, _ => .absent

theorem initSlot_absent (shape : Shape) : initSlot shape .absent = .absent := by cases shape <;> rfl

/-- the slots a struct deserialiser starts with on the start tag written for `fvs`: a member bound to an attribute
is already read, every other member is still `None` -/
def initSlots : Flds → List FVal → List FVal
  | .cons _ _ sh _ rest, fv :: fvs => initSlot sh fv :: initSlots rest fvs
  | _, _ => []

/-- **the `let` block reads the attributes the serialiser wrote**: on a start tag `a` in which the name of every member
bound to an attribute finds what the pairs written for the members (`attrPairs`) hold for it, `d.attribute` yields the
string that was written — so the deserialiser starts with these members read and every other member `None`. The
hypothesis passes to the members behind the first because their names are not the first's (`attrSlot_cons_ne`); on
the start tag `start_of` wrote for the whole struct it is `attrValue_written`. -/
theorem initAcc_written (X : Ext) (a : Bytes) :
    ∀ (S : Flds) (fvs : List FVal), S.wf = true → distinct S.tags = true → FitsFields X S fvs →
      (∀ t ∈ S.tags, attrKeyOk t = true → attrValue t a = attrRead (attrSlot S fvs t)) →
      S.initAcc a = .ok (initSlots S fvs)
  | .nil, fvs, _, _, hfit, _ => by
    cases fvs with
    | nil => simp [Flds.initAcc, initSlots]
    | cons _ _ => simp [FitsFields] at hfit
  | .cons _ _ _ _ _, [], _, _, hfit, _ => by simp [FitsFields] at hfit
  | .cons tag pres sh s Rf, fv :: fvs', hwf, hd, hfit, hsub => by
    simp only [FitsFields] at hfit
    simp only [Flds.wf, Bool.and_eq_true] at hwf
    obtain ⟨htagR, hdR⟩ := nodupB_cons.mp (distinct_eq_nodupB _ ▸ hd)
    have ih := initAcc_written X a Rf fvs' hwf.2.1 ((distinct_eq_nodupB _).trans hdR) hfit.2
      fun t ht hk => by
        rw [hsub t (List.mem_cons_of_mem _ ht) hk]
        exact congrArg attrRead
          (attrSlot_cons_ne (attrKeyOk_plain hk).2.1 (fun e => htagR (by rw [← e]; exact ht)) ..)
    cases sh with
    | attr =>
      have hkey : attrKeyOk tag = true := hwf.2.2
      have hxsi : tag ≠ xmlnsXsiKey := (attrKeyOk_plain hkey).2.1
      simp only [Flds.initAcc, ih, initSlots, initSlot, hsub tag List.mem_cons_self hkey]
      cases fv with
      | absent => rw [attrSlot_cons_skip rfl, attrSlot_not_mem hxsi Rf fvs' htagR]; rfl
      | one v =>
        cases v with
        | str b => rw [attrSlot_cons_attr hxsi, if_pos rfl, attrRead_escapeAttr (by simpa using hfit.1)]
        | _ => simp at hfit
      | many _ => simp at hfit
    | single => simp only [Flds.initAcc, ih, initSlots, initSlot]
    | wrapped m => simp only [Flds.initAcc, ih, initSlots, initSlot]
    | flat => simp only [Flds.initAcc, ih, initSlots, initSlot]

/-! ### a scalar: the text written for it is read back -/

theorem decodeStr_of_unescape {raw a : Bytes} (hv : utf8Valid raw = true) (hu : unescape raw = some a) :
    decodeStr raw = .ok a := by
  simp [decodeStr, hv, hu]

theorem decodeStr_escape {b : Bytes} (h : utf8Valid b = true) : decodeStr (escape b) = .ok b :=
  decodeStr_of_unescape (utf8Valid_escape h) (unescape_escape b)

theorem decodeStr_escapeText {b : Bytes} (h : utf8Valid b = true) : decodeStr (escapeText b) = .ok b :=
  decodeStr_of_unescape (utf8Valid_escapeText h) (unescape_escapeText b)

theorem decode_scalar_of_text (X : Ext) (s : Sch) {a : Bytes} {evs r : List Ev} {raw : Bytes} {v : Val}
    (hs : isScalar s = true) (htext : textOf evs = .ok (raw, r)) (hval : decodeScalarText X s raw = .ok v) :
    decode X s a evs = .ok (v, r) := by
  simp only [decode_scalar X hs, htext, hval]

/-- `Deserializer::text` on written character data: nothing for the empty text, otherwise a lone piece (fast path),
handed on with its line ends normalised — which is the piece as it is when it holds no literal CR, and the serialiser
writes none (`escapeText_noCr`) -/
theorem textOf_textEv (raw n : Bytes) (rest : List Ev) (hcr : ∀ c ∈ raw, c ≠ 13) :
    textOf (textEv raw ++ .stop n :: rest) = .ok (raw, .stop n :: rest) := by
  unfold textEv
  split
  next h => subst h; rfl
  next => simp [textOf, textLoop, normText_eq_self hcr]

theorem scalar_roundtrip (X : Ext) {s : Sch} {v : Val} (hs : isScalar s = true) (hfit : Fits X s v) :
    ∃ t, encode s v = textEv (escapeText t) ∧ decodeScalarText X s (escapeText t) = .ok v := by
  -- per kind the text is `b`, `fmtInt i`, `fmtBool b`, `t`. A string goes through `decodeStr_escapeText`; a numeral and
  -- `true` / `false` hold no byte that is escaped (`escapeText_fmtInt`, `escapeText_fmtBool`) and are read back
  -- (`parseInt_fmtInt` within the range `Fits` gives, `parseBool_fmtBool`); a timestamp is its own escaped text and its own
  -- canonical rendering by `Fits`; a schema and a value of different kinds contradict `Fits`
  cases s <;> cases hs <;> cases v <;> simp only [Fits] at hfit <;> refine ⟨_, rfl, ?_⟩
  all_goals simp_all [decodeScalarText, Except.map, decodeStr_escapeText, escapeText_fmtInt, parseInt_fmtInt,
    escapeText_fmtBool, parseBool_fmtBool]

/-- one member: in front of a loop that starts with this member's slot holding its value `fv`, the elements written for
`fv` (`encField`) make a loop that starts with the slot as the `let` block left it (`initSlot`) — nothing for an absent
member or one bound to an attribute, one arm for a single element, `Loop.items` for both list layouts -/
theorem member_roundtrip (X : Ext) {tag : Bytes} {pres : Pres} {shape : Shape} {s : Sch} {Rf : Flds} {B : List FVal}
    (hs : ∀ v, Fits X s v → ∀ n rest, decode X s (encAttrs s v) (encode s v ++ .stop n :: rest) = .ok (v, .stop n :: rest))
    {fv : FVal} (hfit : FitsMember X pres s shape fv) {more rest : List Ev} {res : List FVal}
    (h : Loop (fun name a evs acc => decodeField X (.cons tag pres shape s Rf) name a evs acc) more (fv :: B) res rest) :
    Loop (fun name a evs acc => decodeField X (.cons tag pres shape s Rf) name a evs acc)
      (encField tag shape s fv ++ more) (initSlot shape fv :: B) res rest := by
  cases fv with
  | absent =>
    have : encField tag shape s .absent = [] := by cases shape <;> rfl
    rw [this, initSlot_absent]
    exact h
  | one v =>
    cases shape with
    | single =>
      simp only [encField, elemA, List.cons_append, List.append_assoc, List.nil_append]
      exact .elem (decodeField_arm X (sh := .single) ⟨rfl, v, hs v hfit tag _, rfl⟩) h
    | attr => exact h
    | wrapped m => exact hfit.elim
    | flat => exact hfit.elim
  | many vs =>
    cases shape with
    | single => exact hfit.elim
    | attr => exact hfit.elim
    | wrapped m =>
      simp only [encField, Xml.elem, List.cons_append, List.append_assoc, List.nil_append]
      have hlist := (Loop.items (f := listItem (fun a evs => decode X s a evs) m) id s m vs
        (fun v hvm l r => by simp [Xml.listItem, hs v (hfit v hvm)]) [] (.stop tag more _)).forEach _ (Nat.lt_succ_self _)
      exact .elem (decodeField_arm X (sh := .wrapped m) ⟨rfl, _, hlist, rfl⟩) h
    | flat =>
      -- the first item turns the slot from `None` into a list, the others are pushed onto it
      obtain ⟨hne, hv⟩ := hfit
      cases vs with
      | nil => exact absurd rfl hne
      | cons v0 vs0 =>
        have arm : ∀ v ∈ v0 :: vs0, ∀ slot r, decodeField X (.cons tag pres .flat s Rf) tag (encAttrs s v)
            (encode s v ++ .stop tag :: r) (slot :: B) = .ok (slot.push v :: B, .stop tag :: r) :=
          fun v hvm slot r => decodeField_arm X (sh := .flat) ⟨v, hs v (hv v hvm) tag r, rfl⟩
        have tl := Loop.items (fun l => FVal.many l :: B) s tag vs0
          (fun v hvm l r => arm v (List.mem_cons_of_mem _ hvm) (.many l) r) [v0] h
        simp only [encField, List.flatMap_cons, elemA, List.cons_append, List.append_assoc, List.nil_append] at tl ⊢
        exact .elem (arm v0 List.mem_cons_self .absent _) tl

mutual
  /-- the round trip of a content on the start tag written for it; `ns` = the namespace the start tag declares in front
  of the attributes of the value: that of a root (`content_with_ns`), none for every other element -/
  theorem decode_encode_ns (X : Ext) : ∀ (s : Sch) (v : Val) (ns : Option Bytes),
      s.wf = true → Fits X s v → ∀ (n : Bytes) (rest : List Ev),
        decode X s (nsAttr ns ++ encAttrs s v) (encode s v ++ .stop n :: rest) = .ok (v, .stop n :: rest)
    | .str, _, _, _, hfit, n, rest | .enm, _, _, _, hfit, n, rest | .i32, _, _, _, hfit, n, rest
    | .i64, _, _, _, hfit, n, rest | .bool, _, _, _, hfit, n, rest | .ts _, _, _, _, hfit, n, rest => by
      obtain ⟨t, he, hd⟩ := scalar_roundtrip X rfl hfit
      rw [he]
      exact decode_scalar_of_text X _ rfl (textOf_textEv _ n rest (escapeText_noCr _)) hd
    | .struct fs, v, ns, hwf, hfit, n, rest => by
      cases v with
      | struct vs =>
        simp only [Fits] at hfit
        simp only [Sch.wf, Bool.and_eq_true] at hwf
        simp only [encode, encAttrs_struct]
        rw [decode.eq_1]  -- the arm of a struct
        cases hnil : fs.isNil with
        | true =>
          cases fs with
          | nil =>
            cases vs with
            | nil => simp [encodeFields]
            | cons _ _ => simp [FitsFields] at hfit
          | cons _ _ _ _ _ => simp [Flds.isNil] at hnil
        | false =>
          have hinit := initAcc_written X _ fs vs hwf.2 hwf.1 hfit fun t _ hk =>
            attrValue_written ns fs vs hwf.2 t (attrKeyOk_plain hk).2.2
          have hloop := (fields_roundtrip X fs vs n rest hwf.1 hwf.2 hfit).forEach _ (Nat.lt_succ_self _)
          simp only [Bool.false_eq_true, if_false, hinit, hloop, finish_fits X fs vs hfit]
      | _ => simp [Fits] at hfit
    | .union vars, v, _, hwf, hfit, n, rest => by
      cases v with
      | union tag v =>
        simp only [Fits] at hfit
        simp only [Sch.wf, Bool.and_eq_true] at hwf
        simp only [encode]
        obtain ⟨a, inner, henc, hdec⟩ := variant_roundtrip X vars tag v hwf.2 hfit
        rw [henc, decode.eq_2]  -- the arm of a union
        simp only [elemA, List.cons_append, List.append_assoc, List.nil_append, skipText_start]
        simp [hdec, expectEnd_stop]
      | _ => simp [Fits] at hfit
  /-- the `for_each_element` loop of a struct deserialiser over what the struct serialiser wrote: the slots start as
  `initSlots` (the members bound to an attribute are read already) and end as the value -/
  theorem fields_roundtrip (X : Ext) : ∀ (fs : Flds) (fvs : List FVal) (n : Bytes) (tail : List Ev),
      distinct fs.tags = true → fs.wf = true → FitsFields X fs fvs →
      Loop (fun name a evs acc => decodeField X fs name a evs acc)
        (encodeFields fs fvs ++ .stop n :: tail) (initSlots fs fvs) fvs (.stop n :: tail)
    | .nil, fvs, n, tail, _, _, hfit => by
      cases fvs with
      | cons _ _ => simp [FitsFields] at hfit
      | nil => exact .stop n tail _
    | .cons tag pres shape s Rf, [], n, tail, _, _, hfit => by simp [FitsFields] at hfit
    | .cons tag pres shape s Rf, fv :: fvs', n, tail, hd, hwf, hfit => by
      rw [fitsFields_cons] at hfit
      simp only [Flds.wf, Bool.and_eq_true] at hwf
      obtain ⟨htag, hd⟩ := nodupB_cons.mp (distinct_eq_nodupB _ ▸ hd)
      -- the loop over the members behind this one, lifted over this member's slot …
      have ih := (fields_roundtrip X Rf fvs' n tail ((distinct_eq_nodupB _).trans hd) hwf.2.1 hfit.2).cons X (pres := pres) (sh := shape) (s := s) htag fv
      -- … behind this member's elements, which go into its slot
      rw [encodeFields_cons, initSlots, List.append_assoc]
      exact member_roundtrip X (fun v hv => decode_encode_ns X s v none hwf.1 hv) hfit.1 ih
  theorem variant_roundtrip (X : Ext) : ∀ (vars : Vars) (tag : Bytes) (v : Val), vars.wf = true →
      FitsVariant X vars tag v →
      ∃ a inner, encodeVariant vars tag v = elemA tag a inner ∧
        ∀ more, decodeVariant X vars tag a (inner ++ .stop tag :: more) = .ok (.union tag v, .stop tag :: more)
    | .nil, _, _, _, hfit => by simp [FitsVariant] at hfit
    | .cons t s rest, tag, v, hwf, hfit => by
      simp only [Vars.wf, Bool.and_eq_true] at hwf
      simp only [FitsVariant] at hfit
      by_cases h : t = tag
      · subst h
        simp only [if_true] at hfit
        refine ⟨encAttrs s v, encode s v, by simp [encodeVariant], ?_⟩
        intro more
        have hrt : decode X s (encAttrs s v) (encode s v ++ .stop t :: more) = .ok (v, .stop t :: more) :=
          decode_encode_ns X s v none hwf.1 hfit t more
        simp [decodeVariant, hrt]
      · simp only [if_neg h] at hfit
        obtain ⟨a, inner, henc, hdec⟩ := variant_roundtrip X rest tag v hwf.2 hfit
        refine ⟨a, inner, by simp [encodeVariant, h, henc], ?_⟩
        intro more
        have h' : tag ≠ t := fun e => h e.symm
        simp [decodeVariant, h', hdec more]
end

/-! ### documents -/

theorem expectEof_nil : expectEof [] = .ok () := by simp [expectEof, skipText]

theorem decode_encode (X : Ext) : ∀ (s : Sch) (v : Val), s.wf = true → Fits X s v →
    ∀ (n : Bytes) (rest : List Ev),
      decode X s (encAttrs s v) (encode s v ++ .stop n :: rest) = .ok (v, .stop n :: rest) :=
  fun s v hwf hfit n rest => decode_encode_ns X s v none hwf hfit n rest

/-- `T::deserialize` + `expect_eof` reads back what `T::serialize` wrote (generated roots) -/
theorem decodeDoc_encodeDoc_named (X : Ext) (tag : Bytes) (ns : Option Bytes) (s : Sch) (v : Val)
    (hwf : s.wf = true) (hfit : Fits X s v) :
    decodeDoc X (.named tag) s (encodeDoc (.named tag ns) s v) = .ok v := by
  simp only [decodeDoc, encodeDoc, List.cons_append, expectStart_start]
  rw [decode_encode_ns X s v ns hwf hfit tag []]
  simp [expectEnd_stop, expectEof_nil]

/-- the two-level wrapper of `AssumeRoleOutput` (xml/mod.rs) -/
theorem decodeDoc_encodeDoc_nested (X : Ext) (outer inner : Bytes) (ns : Option Bytes) (s : Sch) (v : Val)
    (hwf : s.wf = true) (hfit : Fits X s v) :
    decodeDoc X (.nested outer inner) s (encodeDoc (.nested outer inner ns) s v) = .ok v := by
  simp only [decodeDoc, encodeDoc, elemA, List.cons_append, List.append_assoc, List.nil_append, expectStart_start]
  simp [decode_encode X s v hwf hfit inner [.stop outer], expectEnd_stop, expectEof_nil]

/-- the hand-written root of `GetBucketLocationOutput` writes its constraint as the generated root writes a string, and
no constraint as the empty string -/
theorem encodeDoc_location (tag : Bytes) (ns : Option Bytes) (s : Sch) :
    (∀ b, encodeDoc (.location tag ns) s (.struct [.one (.str b)]) = encodeDoc (.named tag ns) .str (.str b)) ∧
    encodeDoc (.location tag ns) s (.struct [.absent]) = encodeDoc (.named tag ns) .str (.str []) := by
  simp [encodeDoc, encode, encAttrs, textEv, escapeText, escape, replaceCr]

/-! ### the serialiser never looks at what distinguishes `dflt` from `req` -/

theorem attrPairs_serView : ∀ (fs : Flds) (vs : List FVal), attrPairs fs.serView vs = attrPairs fs vs
  | .nil, _ => by simp [Flds.serView, attrPairs]
  | .cons t p sh s r, [] => by simp [Flds.serView, attrPairs]
  | .cons t p sh s r, fv :: fvs => by
    rw [Flds.serView, attrPairs_cons, attrPairs_cons, attrPairs_serView r fvs]

theorem encAttrs_serView (s : Sch) (v : Val) : encAttrs s.serView v = encAttrs s v := by
  cases s <;> cases v <;> simp [Sch.serView, encAttrs, attrPairs_serView]

mutual
  theorem encode_serView : ∀ (s : Sch) (v : Val), encode s.serView v = encode s v
    | .struct fs, .struct vs => by simp [Sch.serView, encode, encodeFields_serView fs vs]
    | .union vars, .union tag v => by simp [Sch.serView, encode, encodeVariant_serView vars tag v]
    | .str, _ | .enm, _ | .i32, _ | .i64, _ | .bool, _ | .ts _, _ => by simp [Sch.serView]
    | .struct _, .str _ | .struct _, .int _ | .struct _, .bool _ | .struct _, .ts _ | .struct _, .union _ _ => by
      simp [Sch.serView, encode]
    | .union _, .str _ | .union _, .int _ | .union _, .bool _ | .union _, .ts _ | .union _, .struct _ => by
      simp [Sch.serView, encode]
  theorem encodeFields_serView : ∀ (fs : Flds) (vs : List FVal), encodeFields fs.serView vs = encodeFields fs vs
    | .nil, _ => by simp [Flds.serView, encodeFields]
    | .cons t p sh s r, [] => by simp [Flds.serView, encodeFields]
    | .cons t p sh s r, fv :: fvs => by
      simp only [Flds.serView]
      rw [encodeFields_cons, encodeFields_cons, encodeFields_serView r fvs]
      congr 1
      cases sh <;> cases fv <;> simp [encField, encode_serView s, encAttrs_serView s]
  theorem encodeVariant_serView : ∀ (vars : Vars) (tag : Bytes) (v : Val),
      encodeVariant vars.serView tag v = encodeVariant vars tag v
    | .nil, _, _ => by simp [Vars.serView, encodeVariant]
    | .cons t s r, tag, v => by
      simp [Vars.serView, encodeVariant, encode_serView s v, encAttrs_serView s v, encodeVariant_serView r tag v]
end

theorem encodeDoc_serView (r : SerRoot) (s : Sch) (v : Val) : encodeDoc r s.serView v = encodeDoc r s v := by
  cases r <;> simp only [encodeDoc, encode_serView, encAttrs_serView]

end S3V.Xml
