import S3V.Thm.XmlEscape
import S3V.Thm.Utf8Encode
/-!
`unescape` keeps UTF-8 valid. What it puts in place of a character reference is `utf8EncodeOne` of a scalar value, one
`Utf8Seq` for that value (`Thm/Utf8Encode.lean`); every other byte is copied. `&` and `;` are ASCII, so valid text can be
cut at both (`utf8Valid_prefix_before_ascii`): what the name between them is made of plays no part.
-/
namespace S3V.Xml
open S3V

theorem charRef_ok {num r : Bytes} (h : charRef num = some r) : utf8Valid r = true := by
  unfold charRef at h
  simp only at h
  -- `parse_number` refuses a missing number, 0, a value above 0x10FFFF and a surrogate; what is left is a scalar value,
  -- and `utf8EncodeOne` of a scalar value is one well-formed sequence (`utf8Valid_encodeOne`)
  split at h
  · cases h
  split at h
  · cases h
  split at h
  · cases h
  split at h
  · cases h
  · rename_i h1 h2
    cases h
    exact utf8Valid_encodeOne (by omega) h2

theorem resolveEntity_ok {pat r : Bytes} (h : resolveEntity pat = some r) : utf8Valid r = true := by
  unfold resolveEntity at h
  split at h
  · exact charRef_ok h
  -- the five named entities, each a concrete value
  · cases h; decide
  · cases h; decide
  · cases h; decide
  · cases h; decide
  · cases h; decide
  · cases h

/-- behind the bytes `p` already copied: a byte that is not `&` joins `p`, so that nothing has to be said about where a
multi-byte sequence ends; at a reference the text is cut in front of the `&` and of the `;`. -/
theorem utf8Valid_unescape_behind : ∀ (p : Bytes) {raw a : Bytes}, utf8Valid (p ++ raw) = true → unescape raw = some a →
    utf8Valid (p ++ a) = true
  | _, [], a, hv, h => by
    cases h
    exact hv
  | p, c :: cs, a, hv, h => by
    by_cases hc : c = cAmp
    · subst hc
      rw [unescape, if_pos rfl] at h
      obtain ⟨name, cs', r, a', hcs, hr, ha', rfl⟩ := unescapeEnt_ok cs [] a h
      rw [hcs] at hv
      have hp := utf8Valid_prefix_before_ascii (c := cAmp) (by decide) hv
      rw [utf8Valid_append_of_valid hp, utf8Valid_cons_ascii (by decide)] at hv
      have hname := utf8Valid_prefix_before_ascii (c := cSemi) (by decide) hv
      rw [utf8Valid_append_of_valid hname, utf8Valid_cons_ascii (by decide)] at hv
      exact utf8Valid_append hp (utf8Valid_append (resolveEntity_ok hr) (utf8Valid_unescape_behind [] hv ha'))
    · rw [unescape_cons_of_ne_amp hc, Option.map_eq_some_iff] at h
      obtain ⟨a', ha', rfl⟩ := h
      rw [List.append_cons] at hv ⊢
      exact utf8Valid_unescape_behind (p ++ [c]) hv ha'
termination_by _ raw => raw.length
decreasing_by
  · simp only [hcs, List.length_cons, List.length_append]
    omega
  · exact Nat.lt_succ_self _

theorem utf8Valid_unescape {raw a : Bytes} (hv : utf8Valid raw = true) (h : unescape raw = some a) : utf8Valid a = true :=
  utf8Valid_unescape_behind [] hv h

end S3V.Xml
