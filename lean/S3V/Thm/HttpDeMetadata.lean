import S3V.Thm.HttpDe
/-!
# Lemmas: `parse_opt_metadata` (model `S3V.HttpDe.parseOptMetadata`) reads back the `httpPrefixHeaders` encoding of a
metadata map

`metaStep` is the loop body of the helper (the model's local `step`, `parseOptMetadata_eq` by `rfl`); foreign names leave
the accumulator alone, each metadata name present exactly once appends its pair; `HeaderMap::keys` (`keys` =
`eraseDups` of the names) over `metaHeaders md ++ extra` is the metadata names followed by foreign names (`keys_append`). That the
names of `metaHeaders md` are pairwise distinct (the keys are) is used twice: `eraseDups` keeps them as they stand, and
each holds the one value it was sent with (`HttpDeThm.getAll_of_nodup`).
-/
namespace S3V.HttpDe

def metaStep (decStr : Bytes → Option Bytes) (H : List (Name × Bytes))
    (acc : Except Err (List (Bytes × Bytes))) (name : Name) : Except Err (List (Bytes × Bytes)) :=
  match acc with
  | .error e => .error e
  | .ok m =>
    match stripPrefix metaPrefix name with
    | none => .ok m
    | some key =>
      if key.isEmpty then .ok m
      else match getAll H name with
        | [v] => match decStr v with
          | some s => .ok (m ++ [(key, s)])
          | none => .error .invalidHeader
        | _ => .error .duplicateHeader

theorem parseOptMetadata_eq (decStr : Bytes → Option Bytes) (r : Req) :
    parseOptMetadata decStr r =
      match (keys r.headers).foldl (metaStep decStr r.headers) (.ok []) with
      | .error e => .error e
      | .ok [] => .ok none
      | .ok m => .ok (some m) := rfl

/-- the Smithy `httpPrefixHeaders` encoding of a metadata map: one header `x-amz-meta-<key>: <value>` per pair -/
def metaHeaders (enc : Bytes → Bytes) (md : List (Bytes × Bytes)) : List (Name × Bytes) :=
  md.map fun kv => (metaPrefix ++ kv.1, enc kv.2)

theorem stripPrefix_append (p k : Bytes) : stripPrefix p (p ++ k) = some k := by
  simp [stripPrefix, List.isPrefixOf_iff_prefix]

theorem foldl_metaStep_foreign (decStr : Bytes → Option Bytes) (H : List (Name × Bytes)) :
    ∀ (ns : List Name) (m : List (Bytes × Bytes)), (∀ n ∈ ns, stripPrefix metaPrefix n = none) →
      ns.foldl (metaStep decStr H) (.ok m) = .ok m
  | [], _, _ => rfl
  | n :: ns, m, h => by
    have hn := h n (by simp)
    simp only [List.foldl_cons, metaStep, hn]
    exact foldl_metaStep_foreign decStr H ns m fun x hx => h x (by simp [hx])

theorem foldl_metaStep_meta (decStr : Bytes → Option Bytes) (enc : Bytes → Bytes) (H : List (Name × Bytes)) :
    ∀ (md m : List (Bytes × Bytes)),
      (∀ kv ∈ md, kv.1 ≠ [] ∧ getAll H (metaPrefix ++ kv.1) = [enc kv.2] ∧ decStr (enc kv.2) = some kv.2) →
      (md.map fun kv => metaPrefix ++ kv.1).foldl (metaStep decStr H) (.ok m) = .ok (m ++ md)
  | [], m, _ => by simp
  | kv :: md, m, h => by
    obtain ⟨h1, h2, h3⟩ := h kv (by simp)
    have hne : kv.1.isEmpty = false := by
      cases hk : kv.1 with
      | nil => exact absurd hk h1
      | cons _ _ => rfl
    simp only [List.map_cons, List.foldl_cons, metaStep, stripPrefix_append, hne, Bool.false_eq_true, if_false, h2, h3]
    rw [foldl_metaStep_meta decStr enc H md (m ++ [kv]) fun x hx => h x (by simp [hx])]
    simp

/-- `HeaderMap::keys` of lines whose first part `A` has pairwise distinct names: those names as they stand, then names
    of the rest -/
theorem keys_append {A : List (Name × Bytes)} (hA : (A.map (·.1)).Nodup) (B : List (Name × Bytes)) :
    ∃ rest, keys (A ++ B) = A.map (·.1) ++ rest ∧ ∀ n ∈ rest, n ∈ B.map (·.1) := by
  refine ⟨((B.map (·.1)).removeAll (A.map (·.1))).eraseDups, ?_, fun n hn => ?_⟩
  · rw [keys, List.map_append, List.eraseDups_append, eraseDups_of_nodup _ hA]
  · exact (List.mem_filter.mp (List.mem_eraseDups.mp hn)).1

/-- for every map `md` with pairwise distinct, non-empty keys whose values survive the header text codec, sent as one
    header `x-amz-meta-<key>` per pair in front of any other headers `extra` (any number, repeated or not, none named
    `x-amz-meta-…`), the helper yields exactly `md` — `None` for the empty map. -/
theorem parseOptMetadata_roundtrip (decStr : Bytes → Option Bytes) (enc : Bytes → Bytes) (md : List (Bytes × Bytes))
    (extra : List (Name × Bytes)) (q : Option (List (Name × Bytes)))
    (hk : (md.map (·.1)).Nodup) (hne : ∀ kv ∈ md, kv.1 ≠ []) (hdec : ∀ kv ∈ md, decStr (enc kv.2) = some kv.2)
    (hex : ∀ p ∈ extra, ¬ metaPrefix <+: p.1) :
    parseOptMetadata decStr ⟨metaHeaders enc md ++ extra, q⟩ = .ok (if md = [] then none else some md) := by
  have hnames : (metaHeaders enc md).map (·.1) = md.map fun kv => metaPrefix ++ kv.1 := by
    simp [metaHeaders]
  have hnd : ((metaHeaders enc md).map (·.1)).Nodup := by
    rw [hnames]
    have : (md.map fun kv => metaPrefix ++ kv.1) = (md.map (·.1)).map (metaPrefix ++ ·) := by simp
    rw [this]
    exact List.Pairwise.map (metaPrefix ++ ·) (fun a b hab he => hab (List.append_cancel_left he)) hk
  obtain ⟨rest, hkeys, hrest⟩ := keys_append hnd extra
  have hforeign : ∀ n ∈ rest, stripPrefix metaPrefix n = none := by
    intro n hn
    obtain ⟨p, hp, rfl⟩ := List.mem_map.mp (hrest n hn)
    simp [stripPrefix, List.isPrefixOf_iff_prefix, hex p hp]
  have hget : ∀ kv ∈ md, kv.1 ≠ [] ∧ getAll (metaHeaders enc md ++ extra) (metaPrefix ++ kv.1) = [enc kv.2] ∧
      decStr (enc kv.2) = some kv.2 := by
    intro kv hkv
    refine ⟨hne kv hkv, ?_, hdec kv hkv⟩
    have hmem : (metaPrefix ++ kv.1, enc kv.2) ∈ metaHeaders enc md := List.mem_map.mpr ⟨kv, hkv, rfl⟩
    rw [HttpDeThm.getAll_append, HttpDeThm.getAll_of_nodup hnd hmem,
      HttpDeThm.getAll_foreign extra _ fun p hp he => hex p hp (he ▸ List.prefix_append _ _)]
    rfl
  rw [parseOptMetadata_eq]
  simp only [hkeys, hnames, List.foldl_append]
  rw [foldl_metaStep_meta decStr enc _ md [] hget, foldl_metaStep_foreign decStr _ _ _ hforeign]
  cases md <;> simp

end S3V.HttpDe
