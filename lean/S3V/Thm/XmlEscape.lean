import S3V.Model.Xml
import S3V.Thm.Decimal
/-!
Lemmas about the scalar text forms of the XML codec model: `unescape ∘ escape`, integers, booleans; text without a
literal CR passes the line-end and attribute-value normalisations unchanged.

The three escapers (`escape`, `escapeText`, `escapeAttr`) rewrite a few bytes and leave every other byte alone: each is
a substitution table (`Subst`; `escT`, `textT`, `attrT`, the later ones composed from the first and the `str::replace`
passes). What holds of a table's output is checked on its rows (`decide`) and on `[c]` for the other bytes.
-/
namespace S3V.Xml
open S3V

/-! ### `unescape` on one byte, on one reference -/

theorem unescape_cons_of_ne_amp {c : UInt8} (h : c ≠ cAmp) (cs : Bytes) :
    unescape (c :: cs) = (unescape cs).map (c :: ·) := by
  simp only [unescape, if_neg h]

theorem unescapeEnt_name : ∀ (name acc r : Bytes), (∀ c ∈ name, c ≠ cSemi ∧ c ≠ cAmp) →
    unescapeEnt acc (name ++ cSemi :: r) =
      (resolveEntity (acc.reverse ++ name)).bind fun v => (unescape r).map (v ++ ·)
  | [], acc, r, _ => by
    simp only [List.nil_append, List.append_nil, unescapeEnt, if_true]
    cases resolveEntity acc.reverse <;> rfl
  | c :: cs, acc, r, h => by
    have hc := h c (List.mem_cons_self ..)
    rw [List.cons_append, unescapeEnt, if_neg hc.1, if_neg hc.2,
      unescapeEnt_name cs (c :: acc) r fun d hd => h d (List.mem_cons_of_mem _ hd)]
    simp only [List.reverse_cons, List.append_assoc, List.singleton_append]

theorem unescape_ref {name v : Bytes} (hname : ∀ c ∈ name, c ≠ cSemi ∧ c ≠ cAmp) (hv : resolveEntity name = some v)
    (r : Bytes) : unescape (cAmp :: (name ++ cSemi :: r)) = (unescape r).map (v ++ ·) := by
  rw [unescape, if_pos rfl, unescapeEnt_name name [] r hname, List.reverse_nil, List.nil_append, hv]
  rfl

theorem unescapeEnt_ok : ∀ (cs acc a : Bytes), unescapeEnt acc cs = some a →
    ∃ name cs' r a', cs = name ++ cSemi :: cs' ∧ resolveEntity (acc.reverse ++ name) = some r ∧
      unescape cs' = some a' ∧ a = r ++ a'
  | [], _, _, h => by simp [unescapeEnt] at h
  | c :: cs, acc, a, h => by
    simp only [unescapeEnt] at h
    split at h
    · rename_i hc
      subst hc
      cases hr : resolveEntity acc.reverse with
      | none => simp [hr] at h
      | some r =>
        simp only [hr, Option.map_eq_some_iff] at h
        obtain ⟨a', ha', he⟩ := h
        exact ⟨[], cs, r, a', by simp, by simpa using hr, ha', he.symm⟩
    · split at h
      · cases h
      · obtain ⟨name, cs', r, a', h1, h2, h3, h4⟩ := unescapeEnt_ok cs (c :: acc) a h
        refine ⟨c :: name, cs', r, a', by simp [h1], ?_, h3, h4⟩
        simpa using h2

theorem unescape_passthrough : ∀ (p x : Bytes), (∀ c ∈ p, c ≠ cAmp) → unescape (p ++ x) = (unescape x).map (p ++ ·)
  | [], x, _ => by simp
  | c :: cs, x, h => by
    rw [List.cons_append, unescape_cons_of_ne_amp (h c (by simp)),
      unescape_passthrough cs x (fun y hy => h y (by simp [hy]))]
    cases unescape x <;> simp

/-- a substitution table: the bytes that are rewritten, each with what it becomes; every other byte stays -/
abbrev Subst := List (UInt8 × Bytes)

namespace Subst

def keys (T : Subst) : List UInt8 := T.map (·.1)

def sub (T : Subst) (c : UInt8) : Bytes := (T.lookup c).getD [c]

def apply (T : Subst) (t : Bytes) : Bytes := t.flatMap T.sub

/-- first `T`, then `U` -/
def comp (T U : Subst) : Subst := T.map (fun kv => (kv.1, U.apply kv.2)) ++ U

theorem apply_nil (T : Subst) : T.apply [] = [] := rfl

theorem apply_cons (T : Subst) (c : UInt8) (cs : Bytes) : T.apply (c :: cs) = T.sub c ++ T.apply cs := rfl

theorem apply_append (T : Subst) (a b : Bytes) : T.apply (a ++ b) = T.apply a ++ T.apply b :=
  List.flatMap_append

theorem sub_cases (T : Subst) (c : UInt8) : (c, T.sub c) ∈ T ∨ (c ∉ T.keys ∧ T.sub c = [c]) := by
  induction T with
  | nil => exact .inr ⟨List.not_mem_nil, rfl⟩
  | cons kv T ih =>
    unfold sub
    rw [List.lookup_cons]
    cases hk : c == kv.1 with
    | true => exact .inl (by rw [eq_of_beq hk]; exact List.mem_cons_self)
    | false =>
      refine ih.imp (List.mem_cons_of_mem _) fun h => ⟨?_, h.2⟩
      rw [keys, List.map_cons, List.mem_cons, not_or]
      exact ⟨ne_of_beq_false hk, h.1⟩

theorem forall_sub {T : Subst} {P : UInt8 → Bytes → Prop} (hrow : ∀ kv ∈ T, P kv.1 kv.2)
    (hplain : ∀ c, c ∉ T.keys → P c [c]) (c : UInt8) : P c (T.sub c) := by
  rcases T.sub_cases c with h | ⟨h, e⟩
  · exact hrow _ h
  · rw [e]; exact hplain c h

theorem sub_of_not_mem {T : Subst} {c : UInt8} (h : c ∉ T.keys) : T.sub c = [c] :=
  ((T.sub_cases c).resolve_left fun hm => h (List.mem_map_of_mem (f := (·.1)) hm)).2

theorem sub_single (c : UInt8) (ref : Bytes) (b : UInt8) : sub [(c, ref)] b = if b = c then ref else [b] := by
  unfold sub
  rw [List.lookup_cons]
  cases hk : b == c with
  | true => rw [if_pos (eq_of_beq hk)]; rfl
  | false => rw [if_neg (ne_of_beq_false hk)]; rfl

theorem mem_apply {T : Subst} {t : Bytes} {x : UInt8} (h : x ∈ T.apply t) : ∃ c ∈ t, x ∈ T.sub c := by
  simpa [apply, List.mem_flatMap] using h

theorem avoids {T : Subst} {bad : List UInt8} (hkey : ∀ b ∈ bad, b ∈ T.keys) (hrow : ∀ kv ∈ T, ∀ x ∈ kv.2, x ∉ bad)
    (t : Bytes) : ∀ x ∈ T.apply t, x ∉ bad := by
  intro x hx
  obtain ⟨c, -, hc⟩ := mem_apply hx
  refine forall_sub (P := fun _ v => ∀ x ∈ v, x ∉ bad) hrow (fun d hd y hy hb => ?_) c x hc
  rw [List.mem_singleton.mp hy] at hb
  exact hd (hkey d hb)

theorem apply_eq_self {T : Subst} : ∀ {t : Bytes}, (∀ c ∈ t, c ∉ T.keys) → T.apply t = t
  | [], _ => rfl
  | c :: cs, h => by
    rw [apply_cons, sub_of_not_mem (h c List.mem_cons_self), apply_eq_self fun d hd => h d (List.mem_cons_of_mem _ hd)]
    rfl

theorem apply_eq_nil {T : Subst} (hrow : ∀ kv ∈ T, kv.2 ≠ []) {t : Bytes} : T.apply t = [] ↔ t = [] := by
  constructor
  · intro h
    cases t with
    | nil => rfl
    | cons c cs =>
      rw [apply_cons] at h
      exact absurd (List.append_eq_nil_iff.mp h).1
        (forall_sub (P := fun _ v => v ≠ []) hrow (fun _ _ => List.cons_ne_nil _ _) c)
  · intro h
    rw [h, apply_nil]

theorem comp_sub (T U : Subst) (c : UInt8) : (T.comp U).sub c = U.apply (T.sub c) := by
  unfold comp
  induction T with
  | nil => simp [sub, apply]
  | cons kv T ih =>
    unfold sub at ih ⊢
    rw [List.map_cons, List.cons_append, List.lookup_cons, List.lookup_cons]
    cases c == kv.1 with
    | true => rfl
    | false => exact ih

theorem keys_comp (T U : Subst) : (T.comp U).keys = T.keys ++ U.keys := by
  simp [comp, keys, List.map_map, Function.comp_def]

theorem apply_comp (T U : Subst) (t : Bytes) : (T.comp U).apply t = U.apply (T.apply t) := by
  induction t with
  | nil => rfl
  | cons c cs ih => rw [apply_cons, apply_cons, apply_append, comp_sub, ih]

/-! ### a table whose rows are references to the byte they stand for -/

/-- `v` is `&name;` for a name that resolves to the byte `c` -/
def isRef (c : UInt8) (v : Bytes) : Bool :=
  match v with
  | 38 :: r => r.getLast? == some cSemi && r.dropLast.all (fun x => x != cSemi && x != cAmp) &&
      resolveEntity r.dropLast == some [c]
  | _ => false

theorem unescape_of_isRef {c : UInt8} {v : Bytes} (h : isRef c v = true) (r : Bytes) :
    unescape (v ++ r) = (unescape r).map (c :: ·) := by
  unfold isRef at h
  split at h
  · rename_i w
    simp only [Bool.and_eq_true, beq_iff_eq, List.all_eq_true, bne_iff_ne, ne_eq] at h
    obtain ⟨⟨hl, hn⟩, hr⟩ := h
    obtain ⟨name, rfl⟩ : ∃ name, w = name ++ [cSemi] := ⟨w.dropLast, by
      obtain ⟨ys, hys⟩ := List.getLast?_eq_some_iff.mp hl
      rw [hys, List.dropLast_concat]⟩
    rw [List.dropLast_concat] at hn hr
    have := unescape_ref (name := name) (v := [c]) hn hr r
    simpa [cAmp] using this
  · cases h

theorem unescape_apply {T : Subst} (hrow : ∀ kv ∈ T, isRef kv.1 kv.2 = true) (hamp : cAmp ∈ T.keys) :
    ∀ t : Bytes, unescape (T.apply t) = some t
  | [] => rfl
  | c :: cs => by
    have hc : ∀ r, unescape (T.sub c ++ r) = (unescape r).map (c :: ·) :=
      forall_sub (P := fun c v => ∀ r, unescape (v ++ r) = (unescape r).map (c :: ·))
        (fun kv hkv => unescape_of_isRef (hrow kv hkv))
        (fun d hd r => unescape_cons_of_ne_amp (fun e : d = cAmp => hd (e ▸ hamp)) r) c
    rw [apply_cons, hc, unescape_apply hrow hamp cs]
    rfl

end Subst

/-! ### `escape`, `escapeText`, `escapeAttr` as tables -/

/-- quick-xml's `escape`: the five predefined entities -/
def escT : Subst :=
  [(cLt, [38, 108, 116, 59]), (cGt, [38, 103, 116, 59]), (cAmp, [38, 97, 109, 112, 59]),  -- &lt; &gt; &amp;
   (cApos, [38, 97, 112, 111, 115, 59]), (cQuot, [38, 113, 117, 111, 116, 59])]          -- &apos; &quot;

/-- `str::replace(c, ref)` is the table of one row -/
theorem replaceRef_eq (c : UInt8) (ref : Bytes) : ∀ t : Bytes, replaceRef c ref t = Subst.apply [(c, ref)] t
  | [] => rfl
  | b :: bs => by rw [replaceRef, replaceRef_eq c ref bs, Subst.apply_cons, Subst.sub_single]

theorem replaceCr_eq : ∀ t : Bytes, replaceCr t = Subst.apply [(13, [38, 35, 49, 51, 59])] t
  | [] => rfl
  | b :: bs => by rw [replaceCr, replaceCr_eq bs, Subst.apply_cons, Subst.sub_single]

theorem escapeByte_eq (c : UInt8) : escapeByte c = escT.sub c := by
  unfold escapeByte
  by_cases h1 : c = cLt
  · rw [h1]; rfl
  by_cases h2 : c = cGt
  · rw [h2]; rfl
  by_cases h3 : c = cAmp
  · rw [h3]; rfl
  by_cases h4 : c = cApos
  · rw [h4]; rfl
  by_cases h5 : c = cQuot
  · rw [h5]; rfl
  rw [if_neg h1, if_neg h2, if_neg h3, if_neg h4, if_neg h5, Subst.sub_of_not_mem]
  simp only [Subst.keys, escT, List.map_cons, List.map_nil, List.mem_cons, List.not_mem_nil, or_false, not_or]
  exact ⟨h1, h2, h3, h4, h5⟩

theorem escape_eq : ∀ t : Bytes, escape t = escT.apply t
  | [] => rfl
  | c :: cs => by rw [escape, escape_eq cs, Subst.apply_cons, escapeByte_eq]

/-- `xml/ser.rs::text` -/
def textT : Subst := escT.comp [(13, [38, 35, 49, 51, 59])]  -- &#13;

theorem escapeText_eq (t : Bytes) : escapeText t = textT.apply t := by
  rw [escapeText, escape_eq, replaceCr_eq, textT, Subst.apply_comp]

/-- `xml/ser.rs::attr_value` -/
def attrT : Subst := ((escT.comp [(9, tabRef)]).comp [(10, lfRef)]).comp [(13, [38, 35, 49, 51, 59])]  -- &#13;

theorem escapeAttr_eq (t : Bytes) : escapeAttr t = attrT.apply t := by
  rw [escapeAttr, escape_eq, replaceRef_eq, replaceRef_eq, replaceCr_eq, attrT, Subst.apply_comp, Subst.apply_comp,
    Subst.apply_comp]

/-! ### what the three escapers write -/

theorem unescape_escape (t : Bytes) : unescape (escape t) = some t := by
  rw [escape_eq]; exact Subst.unescape_apply (by decide) (by decide) t

theorem escape_eq_self {t : Bytes} (h : ∀ c ∈ t, c ∉ escT.keys) : escape t = t := by
  rw [escape_eq]; exact Subst.apply_eq_self h

theorem escape_eq_nil {t : Bytes} : escape t = [] ↔ t = [] := by
  rw [escape_eq]; exact Subst.apply_eq_nil (by decide)

theorem escape_no (t : Bytes) : ∀ x ∈ escape t, x ≠ cLt ∧ x ≠ cQuot := by
  intro x hx
  simpa using Subst.avoids (T := escT) (bad := [cLt, cQuot]) (by decide) (by decide) t x (escape_eq t ▸ hx)

theorem replaceCr_append (a b : Bytes) : replaceCr (a ++ b) = replaceCr a ++ replaceCr b := by
  rw [replaceCr_eq, replaceCr_eq, replaceCr_eq, Subst.apply_append]

theorem replaceRef_append (c : UInt8) (ref a b : Bytes) :
    replaceRef c ref (a ++ b) = replaceRef c ref a ++ replaceRef c ref b := by
  rw [replaceRef_eq, replaceRef_eq, replaceRef_eq, Subst.apply_append]

theorem escapeText_nil : escapeText [] = [] := rfl

theorem unescape_escapeText (t : Bytes) : unescape (escapeText t) = some t := by
  rw [escapeText_eq]; exact Subst.unescape_apply (by decide) (by decide) t

theorem escapeText_eq_self {t : Bytes} (h : ∀ c ∈ t, c ∉ textT.keys) : escapeText t = t := by
  rw [escapeText_eq]; exact Subst.apply_eq_self h

theorem escapeText_eq_nil {t : Bytes} : escapeText t = [] ↔ t = [] := by
  rw [escapeText_eq]; exact Subst.apply_eq_nil (by decide)

/-! ### what the serialiser writes as text holds no `<`, no `>` (so no `]]>`) and no literal CR (so `Deserializer::text`
leaves its line ends alone) -/

theorem contains_cr_false {x : Bytes} (h : ∀ c ∈ x, c ≠ 13) : x.contains 13 = false := by
  cases hc : x.contains 13 with
  | false => rfl
  | true => exact absurd rfl (h 13 (List.contains_iff_mem.mp hc))

theorem normLineEnds_eq_self {x : Bytes} (h : ∀ c ∈ x, c ≠ 13) : normLineEnds x = x := by
  simp only [normLineEnds, contains_cr_false h, Bool.false_eq_true, if_false]

theorem normText_eq_self {x : Bytes} (h : ∀ c ∈ x, c ≠ 13) : normText x = x := by
  simp only [normText, contains_cr_false h, Bool.false_eq_true, if_false]

theorem escapeText_clean (t : Bytes) : ∀ x ∈ escapeText t, x ≠ cLt ∧ x ≠ cGt ∧ x ≠ 13 := by
  intro x hx
  simpa using Subst.avoids (T := textT) (bad := [cLt, cGt, 13]) (by decide) (by decide) t x (escapeText_eq t ▸ hx)

theorem escapeText_noCr (t : Bytes) : ∀ x ∈ escapeText t, x ≠ 13 :=
  fun x hx => (escapeText_clean t x hx).2.2

theorem escapeAttr_nil : escapeAttr [] = [] := rfl

theorem unescape_escapeAttr (t : Bytes) : unescape (escapeAttr t) = some t := by
  rw [escapeAttr_eq]; exact Subst.unescape_apply (by decide) (by decide) t

theorem escapeAttr_clean (t : Bytes) : ∀ x ∈ escapeAttr t, x ≠ 9 ∧ x ≠ 10 ∧ x ≠ 13 ∧ x ≠ cQuot ∧ x ≠ cLt := by
  intro x hx
  simpa using Subst.avoids (T := attrT) (bad := [9, 10, 13, cQuot, cLt]) (by decide) (by decide) t x (escapeAttr_eq t ▸ hx)

theorem escapeAttr_noQuot (t : Bytes) : ∀ x ∈ escapeAttr t, x ≠ cQuot :=
  fun x hx => (escapeAttr_clean t x hx).2.2.2.1

theorem attrNormalize_escapeAttr (t : Bytes) : attrNormalize (escapeAttr t) = escapeAttr t := by
  have hclean := escapeAttr_clean t
  rw [attrNormalize, normLineEnds_eq_self fun c hc => (hclean c hc).2.2.1]
  refine (List.map_congr_left fun c hc => ?_).trans (List.map_id _)
  simp only [(hclean c hc).1, (hclean c hc).2.1, decide_false, Bool.or_self, Bool.false_eq_true, if_false, id]

/-! ### integers and booleans: the formatter writes what the parser reads, and escaping leaves it alone -/

theorem isDigit_not_key {c : UInt8} (h : isDigit c = true) : c ∉ textT.keys := by
  simp only [isDigit, Bool.and_eq_true, decide_eq_true_eq] at h
  intro hc
  -- as numbers: a digit is 48 … 57, the keys are 13, 34, 38, 39, 60, 62
  have : c.toNat ∈ textT.keys.map UInt8.toNat := List.mem_map_of_mem hc
  simp [textT, escT, Subst.comp, Subst.keys, cLt, cGt, cAmp, cApos, cQuot] at this
  omega

theorem fmtInt_plain (i : Int) : ∀ c ∈ fmtInt i, c ∉ textT.keys := by
  intro c hc
  unfold fmtInt at hc
  split at hc
  · rcases List.mem_cons.mp hc with rfl | hc
    · decide
    · exact isDigit_not_key (fmtDec_all_digits _ c hc)
  · exact isDigit_not_key (fmtDec_all_digits _ c hc)

theorem escapeText_fmtInt (i : Int) : escapeText (fmtInt i) = fmtInt i := escapeText_eq_self (fmtInt_plain i)

theorem escape_fmtInt (i : Int) : escape (fmtInt i) = fmtInt i :=
  escape_eq_self fun c hc hk => fmtInt_plain i c hc (by rw [textT, Subst.keys_comp]; exact List.mem_append_left _ hk)

theorem fmtInt_ne_nil (i : Int) : fmtInt i ≠ [] := by
  unfold fmtInt
  split
  · simp
  · exact fmtDec_ne_nil _

theorem parseIntBody_eq_some_iff (lo hi : Int) (neg : Bool) (body : Bytes) (i : Int) :
    parseIntBody lo hi neg body = some i ↔
      ∃ v, DtoSpec.Digits body v ∧ i = (if neg then -(v : Int) else (v : Int)) ∧ lo ≤ i ∧ i ≤ hi := by
  unfold parseIntBody
  by_cases hb : body = []
  · simp [hb, DtoSpec.Digits]
  · rw [if_neg hb]
    cases hd : digitsVal body 0 with
    | none => simp [DtoSpec.Digits, hd]
    | some n =>
      simp only [DtoSpec.Digits, hd]
      constructor
      · intro h
        by_cases hr : lo ≤ (if neg then -(n : Int) else (n : Int)) ∧ (if neg then -(n : Int) else (n : Int)) ≤ hi
        · rw [if_pos hr] at h
          cases h
          exact ⟨n, ⟨hb, rfl⟩, rfl, hr.1, hr.2⟩
        · rw [if_neg hr] at h; cases h
      · rintro ⟨v, ⟨_, hv⟩, hi', h1, h2⟩
        cases hv
        subst hi'
        rw [if_pos ⟨h1, h2⟩]

/-- `iN::from_str` accepts exactly the decimal numerals `["+" | "-"] 1*DIGIT` whose value is in range, and denotes that
    value: no prefix parse, no white space, no wrap-around -/
theorem parseInt_eq_some_iff (lo hi : Int) (t : Bytes) (i : Int) :
    parseInt lo hi t = some i ↔
      (∃ ds v, DtoSpec.Digits ds v ∧
        ((t = ds ∧ i = (v : Int)) ∨ (t = 43 :: ds ∧ i = (v : Int)) ∨ (t = 45 :: ds ∧ i = -(v : Int)))) ∧
      lo ≤ i ∧ i ≤ hi := by
  constructor
  · intro h
    unfold parseInt at h
    split at h
    · rename_i r
      obtain ⟨v, hd, hi', h1, h2⟩ := (parseIntBody_eq_some_iff lo hi false r i).mp h
      exact ⟨⟨r, v, hd, Or.inr (Or.inl ⟨rfl, by simpa using hi'⟩)⟩, h1, h2⟩
    · rename_i r
      obtain ⟨v, hd, hi', h1, h2⟩ := (parseIntBody_eq_some_iff lo hi true r i).mp h
      exact ⟨⟨r, v, hd, Or.inr (Or.inr ⟨rfl, by simpa using hi'⟩)⟩, h1, h2⟩
    · obtain ⟨v, hd, hi', h1, h2⟩ := (parseIntBody_eq_some_iff lo hi false t i).mp h
      exact ⟨⟨t, v, hd, Or.inl ⟨rfl, by simpa using hi'⟩⟩, h1, h2⟩
  · rintro ⟨⟨ds, v, hd, hcase⟩, h1, h2⟩
    rcases hcase with ⟨rfl, rfl⟩ | ⟨rfl, rfl⟩ | ⟨rfl, rfl⟩
    · -- a numeral without sign does not begin with one
      obtain ⟨c, r, rfl, hc⟩ := digits_cons hd
      unfold parseInt
      split
      · rename_i r' heq; exact absurd (List.cons.inj heq).1 (digit_ne c hc 43 (by decide))
      · rename_i r' heq; exact absurd (List.cons.inj heq).1 (digit_ne c hc 45 (by decide))
      · exact (parseIntBody_eq_some_iff lo hi false _ _).mpr ⟨v, hd, by simp, h1, h2⟩
    · unfold parseInt
      exact (parseIntBody_eq_some_iff lo hi false _ _).mpr ⟨v, hd, by simp, h1, h2⟩
    · unfold parseInt
      exact (parseIntBody_eq_some_iff lo hi true _ _).mpr ⟨v, hd, by simp, h1, h2⟩

theorem parseInt_fmtInt {lo hi i : Int} (h1 : lo ≤ i) (h2 : i ≤ hi) : parseInt lo hi (fmtInt i) = some i := by
  refine (parseInt_eq_some_iff lo hi _ i).mpr ⟨?_, h1, h2⟩
  unfold fmtInt
  split
  · exact ⟨_, _, digits_fmtDec i.natAbs, Or.inr (Or.inr ⟨rfl, by omega⟩)⟩
  · exact ⟨_, _, digits_fmtDec i.toNat, Or.inl ⟨rfl, by omega⟩⟩

theorem parseBool_fmtBool (b : Bool) : parseBool (fmtBool b) = some b := by
  cases b <;> simp [parseBool, fmtBool]

theorem escape_fmtBool (b : Bool) : escape (fmtBool b) = fmtBool b := by
  cases b <;> simp [fmtBool, escape, escapeByte, cLt, cGt, cAmp, cApos, cQuot]

theorem escapeText_fmtBool (b : Bool) : escapeText (fmtBool b) = fmtBool b := by
  cases b <;> decide

theorem fmtBool_ne_nil (b : Bool) : fmtBool b ≠ [] := by cases b <;> simp [fmtBool]

end S3V.Xml
