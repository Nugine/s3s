import S3V.Model.Path
import S3V.Spec.Path
import S3V.Thm.Utf8Prefix
import S3V.Thm.BytesText
/-!
# Lemmas for C12: `urlencoding::decode` — exactly-once decoding of a percent-spelling, undecoded ASCII prefixes
-/
namespace S3V.Path
open S3V S3V.Net S3V.Host S3V.PathSpec

theorem fromHexDigit_eq_hexValue : fromHexDigit = hexValue := rfl

theorem pctDecodeFuel_nil (f : Nat) : pctDecodeFuel f [] = [] := by cases f <;> rfl

/-- any fuel that covers the length gives the same result -/
theorem pctDecodeFuel_fuel {s : Bytes} : ∀ f g, s.length ≤ f → s.length ≤ g →
    pctDecodeFuel f s = pctDecodeFuel g s := by
  intro f
  induction f generalizing s with
  | zero =>
    intro g hf _
    have : s = [] := by cases s <;> simp_all
    subst this
    rw [pctDecodeFuel_nil, pctDecodeFuel_nil]
  | succ f ih =>
    intro g hf hg
    cases s with
    | nil => rw [pctDecodeFuel_nil, pctDecodeFuel_nil]
    | cons c r =>
      cases g with
      | zero => simp at hg
      | succ g =>
        simp only [List.length_cons, Nat.add_le_add_iff_right] at hf hg
        simp only [pctDecodeFuel]
        by_cases hc : c = pct
        · simp only [hc, if_true]
          cases r with
          | nil => rfl
          | cons a r1 =>
            cases r1 with
            | nil => rfl
            | cons b r2 =>
              simp only [List.length_cons] at hf hg
              dsimp only  -- reduces the `match` on the pattern `% a b`
              -- after `%ab` the decoder goes on at one of three places, according to which of `a`, `b` is a
              -- hex digit: behind both, at `b`, or at `a`; each recursive call gets the smaller fuel
              rw [ih (s := r2) g (by omega) (by omega),
                ih (s := b :: r2) g (by simp; omega) (by simp; omega),
                ih (s := a :: b :: r2) g (by simp; omega) (by simp; omega)]
        · simp only [hc, if_false]
          rw [ih g hf hg]

theorem pctDecodeBytes_lenient : LenientDecode hexValue pctDecodeBytes :=
  ⟨rfl, fun t (hc : _ ≠ pct) => by simp only [pctDecodeBytes, List.length_cons, pctDecodeFuel, if_neg hc],
    fun {a b x y} t hx hy => by
      unfold pctDecodeBytes
      simp only [List.length_cons, pctDecodeFuel, pct, if_true, fromHexDigit_eq_hexValue, hx, hy]
      rw [pctDecodeFuel_fuel (t.length + 1 + 1) t.length (by omega) (Nat.le_refl _)]⟩

theorem pctDecodeBytes_spelling {e k : Bytes} (h : Spelling e k) : pctDecodeBytes e = k := by
  induction h with
  | nil => rfl
  | lit hc _ ih => rw [pctDecodeBytes_lenient.lit _ hc, ih]
  | enc hx hy hv _ ih => rw [pctDecodeBytes_lenient.esc_byte _ hx hy hv, ih]

theorem spelling_lit_append {p : Bytes} (hp : pct ∉ p) {e k : Bytes} (h : Spelling e k) :
    Spelling (p ++ e) (p ++ k) := by
  induction p with
  | nil => exact h
  | cons c r ih =>
    obtain ⟨hc, hr⟩ := List.ne_and_not_mem_of_not_mem_cons hp
    exact .lit hc.symm (ih hr)

theorem urlDecode_spelling {e k : Bytes} (h : Spelling e k) (hu : utf8Valid k = true) :
    urlDecode e = some k := by
  unfold urlDecode
  cases hc : e.contains pct with
  | true => simp only [if_true, pctDecodeBytes_spelling h, hu]
  | false =>
    have hm : pct ∉ e := fun hm => by rw [List.contains_iff_mem.mpr hm] at hc; cases hc
    rw [← pctDecodeBytes_spelling h, pctDecodeBytes_lenient.noPct hm]
    rfl

/-! ### what `pctEncode` writes is a spelling -/

theorem hexValue_upperHexDigit : ∀ n, n < 16 → hexValue (upperHexDigit n) = some n := by
  decide

theorem pctEncode_spelling (mask : UInt8 → Bool) (k : Bytes) : Spelling (pctEncode mask k) k := by
  induction k with
  | nil => exact .nil
  | cons c k ih =>
    unfold pctEncode
    by_cases h : (c = 37 || mask c) = true
    · rw [if_pos h]
      have hlt : c.toNat < 256 := UInt8.toNat_lt c
      exact .enc (hexValue_upperHexDigit _ (by omega)) (hexValue_upperHexDigit _ (by omega))
        (by omega) ih
    · rw [if_neg h]
      have hc : c ≠ 37 := by
        intro e; apply h; simp [e]
      exact .lit hc ih

/-! ### an undecoded ASCII prefix passes through `urlencoding::decode` -/

theorem urlDecode_no_pct {p : Bytes} (h : pct ∉ p) : urlDecode p = some p := by
  rw [urlDecode, if_neg fun hx => h (List.contains_iff_mem.mp hx)]

/-- `decode(p ++ s) = p ++ decode(s)` (error for error) when `p` is ASCII without `%` -/
theorem urlDecode_append_ascii {p : Bytes} (hp : pct ∉ p) (ha : ∀ c ∈ p, c.toNat < 128) (s : Bytes) :
    urlDecode (p ++ s) = (urlDecode s).map (p ++ ·) := by
  have hp' : p.contains pct = false := Bool.eq_false_iff.mpr fun hx => hp (List.contains_iff_mem.mp hx)
  have hcont : (p ++ s).contains pct = s.contains pct := by
    rw [List.contains_append, hp', Bool.false_or]
  unfold urlDecode
  rw [hcont, pctDecodeBytes_lenient.append_noPct hp]
  simp only [utf8Valid_append_ascii ha]
  cases s.contains pct with
  | false => rfl
  | true =>
    simp only [if_true]
    cases utf8Valid (pctDecodeBytes s) <;> rfl

end S3V.Path
