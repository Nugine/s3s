import S3V.Thm.FsStoreMultipart
import S3V.Thm.Decimal
import S3V.Thm.BytesText
import S3V.Thm.ListLemmas
/-!
# C18: `upload_part_copy` refines the store: the whole source, or any value of `x-amz-copy-source-range` (`copyRange_eq`: the
two readers agree on every byte string)
-/
namespace S3V.FsStore
open S3V.StoreSpec

/-! ## the two readers of `x-amz-copy-source-range` agree on what the store accepts -/

theorem isDigit_ne_dash {c : UInt8} (h : isDigit c = true) : c ≠ 45 := digit_ne c h 45 (by decide)

theorem stripPlus_digits {s : Bytes} (hall : ∀ c ∈ s, isDigit c = true) : stripPlus s = s := by
  cases s with
  | nil => rfl
  | cons x xs =>
    have hx : x ≠ 43 := digit_ne x (hall x (by simp)) 43 (by decide)
    unfold stripPlus
    split
    · rename_i r heq; simp at heq; exact absurd heq.1 hx
    · rfl

/-- `position` reads exactly the non-empty all-digit strings whose value fits `u64` -/
theorem parsePos_eq (s : Bytes) :
    parsePos s = if s = [] then none else
      match digitsVal s 0 with
      | some v => if v < u64Mod then some v else none
      | none => none := by
  by_cases hs : s = []
  · simp [parsePos, hs]
  · simp only [hs, if_false]
    cases hd : digitsVal s 0 with
    | none =>
      have hnall : ¬ (∀ c ∈ s, isDigit c = true) := fun hall => by
        rw [digitsVal_of_all hall 0] at hd; cases hd
      have : s.all isDigit = false := by
        cases hb : s.all isDigit with
        | false => rfl
        | true => exact absurd (fun c hc => (List.all_eq_true.mp hb) c hc) hnall
      simp [parsePos, this]
    | some v =>
      have hall := digitsVal_all_digits hd
      have hb : s.all isDigit = true := List.all_eq_true.mpr hall
      have hstrip := stripPlus_digits hall
      simp [parsePos, hs, hb, parseU64, hstrip, hd]

/-- `split_once('-')` is the store's way of cutting the range at its first `-` -/
theorem splitOnce_eq (body : Bytes) :
    splitOnce 45 body =
      if (body.drop (body.takeWhile (fun x => decide (x ≠ 45))).length).head? = some 45 then
        some (body.takeWhile (fun x => decide (x ≠ 45)), (body.drop (body.takeWhile (fun x => decide (x ≠ 45))).length).drop 1)
      else none := by
  rw [drop_takeWhile_length]
  exact CutsAtFirst.eq_takeWhile ⟨fun _ => rfl, fun c x xs => by rw [splitOnce]; cases splitOnce c xs <;> rfl⟩ 45 body

/-- the backend's reader of `x-amz-copy-source-range` (18203b6) accepts exactly what the store accepts, with the same
    positions — for every byte string and every source length a file can have (`hlen`: a position of `2^64` or more is an
    overflow for the backend; the store refuses it for not lying below the length, which takes a length below `2^64`) -/
theorem copyRange_eq (r : Bytes) {len : Nat} (hlen : len < u64Mod) :
    FsStore.copyRange (some r) len = StoreSpec.copyRange r len := by
  unfold FsStore.copyRange StoreSpec.copyRange
  have e6 : StoreSpec.sBytesEq = FsStore.sBytesEq := rfl
  rw [e6]
  dsimp only
  by_cases h6 : r.take 6 ≠ FsStore.sBytesEq
  · rw [if_pos h6, if_pos h6]
  · rw [if_neg h6, if_neg h6]
    generalize r.drop 6 = body
    rw [splitOnce_eq]
    generalize body.takeWhile (fun x => decide (x ≠ 45)) = a
    generalize (body.drop a.length).drop 1 = z
    by_cases hh : (body.drop a.length).head? = some 45
    · rw [if_pos hh]
      dsimp only
      rw [parsePos_eq a, parsePos_eq z]
      by_cases ha0 : a = []
      · rw [if_pos ha0, if_pos (Or.inl ha0)]
      · rw [if_neg ha0]
        by_cases hz0 : z = []
        · rw [if_pos hz0, if_pos (Or.inr (Or.inl hz0))]
          cases digitsVal a 0 with
          | none => rfl
          | some f => by_cases hf : f < u64Mod <;> simp [hf]
        · rw [if_neg hz0, if_neg (by simp [ha0, hz0, hh])]
          cases digitsVal a 0 with
          | none => rfl
          | some f =>
            cases digitsVal z 0 with
            | none => by_cases hf : f < u64Mod <;> simp [hf]
            | some l =>
              by_cases hf : f < u64Mod
              · by_cases hl : l < u64Mod
                · simp [hf, hl]
                · have : ¬ (f ≤ l ∧ l < len) := by omega
                  simp [hf, hl, this]
              · have : ¬ (f ≤ l ∧ l < len) := by omega
                simp [hf, this]
    · rw [if_neg hh, if_pos (Or.inr (Or.inr hh))]

/-- the store's reader answers `some` only from its last test, `first ≤ last ∧ last < len`, with `(first, last + 1)` -/
theorem copyRange_bounds {r : Bytes} {len st en : Nat} (h : StoreSpec.copyRange r len = some (st, en)) :
    st < en ∧ en ≤ len := by
  revert h
  fun_cases StoreSpec.copyRange r len <;> intro h <;> cases h
  omega

/-- `upload_part_copy` comparable: any part number (outside 1..10000: `InvalidArgument` on both sides since 205d9a8; before:
    fs:part-number-not-validated); otherwise (whatever upload is named: one that does not exist under this bucket and key is
    `NoSuchUpload` on both sides since 41e1cf2; before: fs:upload-not-bound-to-key) source names agree (a missing source bucket is
    inside since cc244fc: `NoSuchBucket` on both sides), the source is not a directory and its size fits `i64`. Any
    `x-amz-copy-source-range` is inside — whatever the byte string: one that is not `bytes=first-last` inside the source is
    `InvalidArgument` on both sides (18203b6, `copyRange_eq`; before, the backend accepted open-ended ranges and ranges beyond
    the end: fs:part-copy-range-unchecked). Destination, upload and range are not looked at -/
def UploadPartCopyOk (s : State) (_b _k : Bytes) (_u : UploadRef) (n : Int) (sb sk : Bytes) (_range : Option Bytes) : Prop :=
  (n < 1 ∨ n > 10000) ∨
  NameOk sb ∧ CanonKey sk ∧
  (bucketOk sb = true →
    match keyPath sk with
    | none => True
    | some sp =>
      match s.tree sb with
      | none => True
      | some st =>
        match st.node sp with
        | none => True
        | some .dir => False
        | some (.file c) => c.length ≤ i64Max)

instance (s : State) (b k : Bytes) (u : UploadRef) (n : Int) (sb sk : Bytes) (r : Option Bytes) :
    Decidable (UploadPartCopyOk s b k u n sb sk r) := by
  unfold UploadPartCopyOk; decide_pred

theorem uploadPartCopy_refines (H : Hashes) (dl : Nat) {s : State} (hi : Inv s) {who : Who} {b k : Bytes}
    {u : UploadRef} {n : Int} {sb sk : Bytes} {range : Option Bytes} (hg : UploadPartCopyOk s b k u n sb sk range) :
    Refines H dl s (.uploadPartCopy who b k u n sb sk range) := by
  by_cases hnr : n < 1 ∨ n > 10000
  · simp [Refines, step, StoreSpec.step, hnr, hi]
  obtain ⟨hsname, ⟨_, hscanon⟩, hsrc⟩ := hg.resolve_left hnr
  cases u with
  | none => simp [Refines, step, StoreSpec.step, hnr, Store.upload, hi]
  | some id =>
  rcases upload_cases s who id b k with hu | ⟨ui, hu⟩ | ⟨ui, hu, hl, _⟩
  -- no such upload under this bucket and key; somebody else's upload; the requester's
  · simp [Refines, step, StoreSpec.step, hnr, hu, hi]
  · simp [Refines, step, StoreSpec.step, hnr, hu, hi]
  rcases hsname.cases with hsb | hsb
  case inr => simp [Refines, step, StoreSpec.step, hnr, hu, objPath, hsb, hi]
  have hsrc := hsrc hsb.1
  rcases key_cases sk with hsk | ⟨sp, hsk, hsp⟩
  · simp [Refines, step, StoreSpec.step, hnr, hu, objPath, hsb, hsk, hi]
  simp only [hsk.1] at hsrc hscanon
  have hr : ∀ t, s.tree sb = some t → t.node sp ≠ some .dir := fun t ht h => by
    simp only [ht, h] at hsrc
  rcases lookup_cases hi sb hsp hscanon hr with hst | ⟨st, hst, hsn | ⟨c, hsn⟩⟩
  · simp [Refines, step, StoreSpec.step, hnr, hu, objPath, State.node, hsb, hsk, hst, hi]
  · simp [Refines, step, StoreSpec.step, hnr, hu, objPath, State.node, hsb, hsk, hst, hsn, hi]
  simp only [hst.1, hsn.1] at hsrc
  have hlen : c.length < u64Mod := Nat.lt_of_le_of_lt hsrc (by decide : i64Max < u64Mod)
  cases range with
  | none =>
    have h0 : ¬ (0 > i64Max) := by decide
    exact .of_eq (r := .part (some (etagOf H c)))
      (by simp [step, hnr, hu, objPath, State.node, hsb, hsk, hst, hsn, copyRange, h0])
      (by simp [StoreSpec.step, hnr, hu, hsb, hsk, hst, hsn, withPart]) (writePart_core hi hl n c)
  | some r =>
    have hmodel := copyRange_eq r hlen
    cases hcr : StoreSpec.copyRange r c.length with
    | none =>
      -- not `bytes=first-last` inside the source: `InvalidArgument` on both sides, nothing changes
      rw [hcr] at hmodel
      simp [Refines, step, StoreSpec.step, hnr, hu, objPath, State.node, hsb, hsk, hst, hsn, hmodel, hcr, hi]
    | some se =>
      obtain ⟨first, en⟩ := se
      rw [hcr] at hmodel
      have hbnd : first < en ∧ en ≤ c.length := copyRange_bounds hcr
      have hfirst : ¬ first > i64Max := by omega
      exact .of_eq (r := .part (some (etagOf H (slice c first en))))
        (by simp [step, hnr, hu, objPath, State.node, hsb, hsk, hst, hsn, hmodel, hfirst, slice])
        (by simp [StoreSpec.step, hnr, hu, hsb, hsk, hst, hsn, withPart, hcr]) (writePart_core hi hl n (slice c first en))

end S3V.FsStore
