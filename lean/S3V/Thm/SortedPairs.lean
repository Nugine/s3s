import S3V.Base.Bytes
import S3V.Thm.InsertionSort
import S3V.Thm.ListLemmas
/-!
# Lemmas: a vector of (name, value) pairs kept sorted by name, and its look-ups (`OrderedHeaders`, `OrderedQs`)

The vector is built by the stable sort by name and read through `partition_point`. Nothing here mentions a model: the
sort is `sortBy` of the test "the name is smaller", for any test `lt` that decides core's `<` on `List UInt8` (`hlt`; each
model's `bLt` does), and the look-ups are the `dropWhile` / `takeWhile` expressions they are written as. On a sorted
vector these compute what one expects of the *unsorted* input: the slice between the two partition points holds the pairs
called `n` in arrival order (`filter_sortBy`, `slice_of_sorted`), and `get_unique` returns the value called `n` when
there is exactly one (`firstUnique_of_sorted`).
-/
namespace S3V

def theOnly {α : Type} : List α → Option α
  | [v] => some v
  | _ => none

theorem theOnly_eq_some {α : Type} {l : List α} {v : α} (h : theOnly l = some v) : l = [v] := by
  match l, h with
  | [_], h => rw [Option.some.inj h]

theorem theOnly_perm {α : Type} {l₁ l₂ : List α} (h : l₁.Perm l₂) : theOnly l₁ = theOnly l₂ := by
  match l₁, l₂, h with
  | [], _, h => rw [h.nil_eq]
  | [a], _, h => rw [List.singleton_perm.mp h]
  | _ :: _ :: _, l₂, h =>
    match l₂, h.length_eq with
    | _ :: _ :: _, _ => rfl

namespace SortedPairs

variable {β : Type} {lt : Bytes → Bytes → Bool}

def Sorted (l : List (Bytes × β)) : Prop := l.Pairwise fun a b => a.1 ≤ b.1

/-- `get_unique` at the lower bound: the value of the first pair when it is called `n` and the next pair is not -/
def firstUnique (n : Bytes) : List (Bytes × β) → Option β
  | [] => none
  | [p] => if p.1 = n then some p.2 else none
  | p :: f :: _ => if f.1 = n then none else if p.1 = n then some p.2 else none

theorem firstUnique_eq (n : Bytes) : ∀ l : List (Bytes × β),
    firstUnique n l = theOnly ((l.takeWhile fun p => p.1 = n).map (·.2))
  | [] => rfl
  | [p] => by by_cases hp : p.1 = n <;> simp [firstUnique, theOnly, hp]
  | p :: f :: t => by
    by_cases hp : p.1 = n <;> by_cases hf : f.1 = n <;> simp [firstUnique, theOnly, hp, hf]

/-- sorts whose test lets equal names pass (`le`: any test that decides core's `≤`) -/
theorem sorted_insBy_le {le : Bytes → Bytes → Bool} (hle : ∀ {a b : Bytes}, le a b = true ↔ a ≤ b) {x : Bytes × β}
    {l : List (Bytes × β)} (h : Sorted l) : Sorted (insBy (fun y x => le y.1 x.1) x l) :=
  insBy_pairwise (le := fun a b : Bytes × β => a.1 ≤ b.1) (fun _ _ _ => List.le_trans) (fun _ => hle.mp)
    (fun _ hy => (List.le_total _ _).resolve_right fun h' => by rw [hle.mpr h'] at hy; cases hy) h

theorem sorted_sortBy_le {le : Bytes → Bytes → Bool} (hle : ∀ {a b : Bytes}, le a b = true ↔ a ≤ b) :
    ∀ l : List (Bytes × β), Sorted (sortBy (fun y x => le y.1 x.1) l)
  | [] => .nil
  | _ :: t => sorted_insBy_le hle (sorted_sortBy_le hle t)

section
variable (hlt : ∀ {a b : Bytes}, lt a b = true ↔ a < b)
include hlt

theorem lt_eq_false_iff {a b : Bytes} : lt a b = false ↔ b ≤ a := by
  rw [← Bool.not_eq_true, hlt, List.not_lt]

/-! ## the stable sort by name -/

theorem sorted_sortBy (l : List (Bytes × β)) : Sorted (sortBy (fun y x => lt y.1 x.1) l) :=
  sortBy_pairwise (le := fun a b : Bytes × β => a.1 ≤ b.1) (fun _ _ _ => List.le_trans)
    (fun _ _ h => List.le_of_lt (hlt.mp h)) (fun _ _ h => (lt_eq_false_iff hlt).mp h) l

theorem filter_key_sortBy (q : Bytes → Bool) : ∀ l : List (Bytes × β),
    (sortBy (fun y x => lt y.1 x.1) l).filter (fun p => q p.1) = sortBy (fun y x => lt y.1 x.1) (l.filter fun p => q p.1)
  | [] => rfl
  | x :: xs => by
    rw [sortBy_cons, filter_insBy (le := fun a b : Bytes × β => a.1 ≤ b.1) _
      (fun _ _ hab hb => hlt.mpr (List.lt_of_le_of_lt hab (hlt.mp hb))) (sorted_sortBy hlt xs),
      filter_key_sortBy q xs, List.filter_cons]
    split <;> rfl

theorem sortBy_of_same_name (n : Bytes) : ∀ l : List (Bytes × β), (∀ p ∈ l, p.1 = n) → sortBy (fun y x => lt y.1 x.1) l = l
  | [], _ => rfl
  | x :: xs, h => by
    rw [sortBy_cons, sortBy_of_same_name n xs fun p hp => h p (List.mem_cons_of_mem _ hp), insBy_of_forall_false]
    intro z hz
    rw [h z (List.mem_cons_of_mem _ hz), h x List.mem_cons_self]
    exact (lt_eq_false_iff hlt).mpr (List.le_refl n)

/-- the sort is stable: it does not reorder the entries of one name -/
theorem filter_sortBy (l : List (Bytes × β)) (n : Bytes) :
    (sortBy (fun y x => lt y.1 x.1) l).filter (fun p => p.1 = n) = l.filter (fun p => p.1 = n) :=
  (filter_key_sortBy hlt (fun k => decide (k = n)) l).trans
    (sortBy_of_same_name hlt n _ fun _ hp => of_decide_eq_true (List.mem_filter.mp hp).2)

/-! ## `partition_point` on a sorted vector

`partition_point(p)` is where `takeWhile p` stops. On a sorted vector `· < n`, `· ≤ n` and (behind the lower bound) `· = n`
only switch from true to false, so what comes before that point is what `filter` selects (`while_eq_filter`). -/

theorem dropWhile_of_sorted {l : List (Bytes × β)} (h : Sorted l) (n : Bytes) :
    (l.dropWhile fun x => lt x.1 n) = l.filter fun x => !lt x.1 n :=
  (while_eq_filter (fun x : Bytes × β => lt x.1 n) (h.imp fun hab hb => hlt.mpr (List.lt_of_le_of_lt hab (hlt.mp hb)))).2

/-- `get_all`: the slice `[lower, upper)` -/
theorem slice_of_sorted {l : List (Bytes × β)} (h : Sorted l) (n : Bytes) :
    ((l.dropWhile fun x => lt x.1 n).takeWhile fun x => !lt n x.1) = l.filter fun p => p.1 = n := by
  rw [dropWhile_of_sorted hlt h, (while_eq_filter _ ((h.filter _).imp fun hab hb => by
    rw [Bool.not_eq_eq_eq_not, Bool.not_true, lt_eq_false_iff hlt] at hb ⊢; exact List.le_trans hab hb)).1, List.filter_filter]
  refine List.filter_congr fun x _ => ?_
  rw [Bool.eq_iff_iff, Bool.and_eq_true, Bool.not_eq_eq_eq_not, Bool.not_eq_eq_eq_not, Bool.not_true, decide_eq_true_eq,
    lt_eq_false_iff hlt, lt_eq_false_iff hlt]
  exact ⟨fun ⟨h1, h2⟩ => List.le_antisymm h1 h2, fun e => e ▸ ⟨List.le_refl _, List.le_refl _⟩⟩

/-- `get_unique`: the run at the lower bound -/
theorem run_of_sorted {l : List (Bytes × β)} (h : Sorted l) (n : Bytes) :
    ((l.dropWhile fun x => lt x.1 n).takeWhile fun p => p.1 = n) = l.filter fun p => p.1 = n := by
  have ge : ∀ {x : Bytes × β}, (!lt x.1 n) = true → n ≤ x.1 := fun hx =>
    (lt_eq_false_iff hlt).mp (by rwa [Bool.not_eq_eq_eq_not] at hx)
  rw [dropWhile_of_sorted hlt h, (while_eq_filter _ ((h.filter _).imp_of_mem fun ha _ hab hb => by
    rw [decide_eq_true_eq] at hb ⊢
    exact List.le_antisymm (hb ▸ hab) (ge (List.mem_filter.mp ha).2))).1, List.filter_filter]
  refine List.filter_congr fun x _ => ?_
  by_cases e : x.1 = n
  · rw [e, (lt_eq_false_iff hlt).mpr (List.le_refl n)]; exact Bool.and_true _
  · rw [decide_eq_false e]; rfl

theorem firstUnique_of_sorted {l : List (Bytes × β)} (h : Sorted l) (n : Bytes) :
    firstUnique n (l.dropWhile fun x => lt x.1 n) = theOnly ((l.filter fun p => p.1 = n).map (·.2)) := by
  rw [firstUnique_eq, run_of_sorted hlt h]

end

end SortedPairs

end S3V
