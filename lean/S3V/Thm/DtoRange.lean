import S3V.Model.DtoRange
import S3V.Spec.Dto
import S3V.Thm.ListLemmas
import S3V.Thm.Decimal
import S3V.Thm.DtoText
/-!
# `Range`: the code's parser is the RFC 9110 single-range grammar inside its numeric domain, `check` is the RFC interval

`from_radix_10_checked` is followed digit by digit (`atoiLoop_chk`: the value of the digit prefix, when it fits `u64`),
then `parse_u64_once` / `parse_u64_full`, `Range.parseInt` and `Range.parse` are characterised in terms of the grammar
`RangeHeader` (`Range.parse_iff`); `readRange`, the executable reference reader of the driver, is that grammar too (`readRange_iff`).
-/
namespace S3V.Dto
open S3V.DtoSpec

/-- what the checked loop holds for the value `v` read so far: `v` while it fits `u64`, `none` from the first overflow on -/
def chk (v : Nat) : Option Nat := if v ≤ u64Max then some v else none

theorem chk_step (a d : Nat) : ((chk a).bind checkedMul10).bind (checkedAdd · d) = chk (a * 10 + d) := by
  unfold chk checkedMul10 checkedAdd
  by_cases h : a * 10 + d ≤ u64Max
  · rw [if_pos (by omega), if_pos h, Option.bind_some, if_pos (by omega), Option.bind_some, if_pos h]
  · rw [if_neg h]
    by_cases ha : a ≤ u64Max
    · rw [if_pos ha, Option.bind_some]
      by_cases h10 : a * 10 ≤ u64Max
      · rw [if_pos h10, Option.bind_some, if_neg h]
      · rw [if_neg h10]; rfl
    · rw [if_neg ha]; rfl

/-- the checked loop holds `chk` of the value read so far: it goes on counting digits after an overflow -/
theorem atoiLoop_chk (s : Bytes) (a i : Nat) :
    atoiLoop s (chk a) i =
      (chk ((s.takeWhile isDigit).foldl (fun a c => a * 10 + (c.toNat - 48)) a), i + (s.takeWhile isDigit).length) := by
  induction s generalizing a i with
  | nil => rfl
  | cons c cs ih =>
    rw [atoiLoop, List.takeWhile_cons]
    split
    · show atoiLoop cs (((chk a).bind checkedMul10).bind (checkedAdd · (c.toNat - 48))) (i + 1) = _
      rw [chk_step, ih, List.foldl_cons, List.length_cons, Nat.add_assoc, Nat.add_comm 1]
    · rfl

theorem fromRadix10Checked_eq (s : Bytes) :
    ∃ v, digitsVal (s.takeWhile isDigit) 0 = some v ∧
      fromRadix10Checked s = (chk v, (s.takeWhile isDigit).length) :=
  ⟨_, digitsVal_of_all (fun c hc => List.all_eq_true.mp List.all_takeWhile c hc) 0, by
    rw [fromRadix10Checked, show some 0 = chk 0 from rfl, atoiLoop_chk, Nat.zero_add]⟩

theorem chk_eq_some {v x : Nat} : chk v = some x ↔ v = x ∧ x ≤ u64Max := by
  unfold chk
  rw [Option.ite_none_right_eq_some, Option.some.injEq]
  exact ⟨fun ⟨h, e⟩ => ⟨e, e ▸ h⟩, fun ⟨e, h⟩ => ⟨e ▸ h, e⟩⟩

/-- `from_radix_10_checked` returns the value of the digit prefix and its length (`fromRadix10Checked_eq`); `parse_u64_once`
    wants that length positive and hands on the rest, `parse_u64_full` wants it to be the length of the text, that is the prefix
    to be the text (`takeWhile_prefix.eq_of_length`) -/
theorem parseU64Full_iff (s : Bytes) (x : Nat) :
    parseU64Full s = some x ↔ Digits s x ∧ x ≤ u64Max := by
  obtain ⟨v, hv, hl⟩ := fromRadix10Checked_eq s
  unfold parseU64Full
  rw [hl]
  constructor
  · intro h
    cases hc : chk v with
    | none => simp [hc] at h
    | some y =>
      simp only [hc] at h
      split at h
      · rename_i hcond
        cases h
        obtain ⟨rfl, hy⟩ := chk_eq_some.mp hc
        simp only [Bool.and_eq_true, decide_eq_true_eq, beq_iff_eq] at hcond
        have heq : s.takeWhile isDigit = s := (List.takeWhile_prefix _).eq_of_length hcond.2
        rw [heq] at hv
        refine ⟨⟨?_, hv⟩, hy⟩
        intro hs; subst hs; simp at hcond
      · cases h
  · rintro ⟨⟨hne, hd⟩, hx⟩
    have heq : s.takeWhile isDigit = s := takeWhile_all (digitsVal_all_digits hd)
    rw [heq] at hv ⊢
    rw [hd] at hv; cases hv
    have : chk x = some x := chk_eq_some.mpr ⟨rfl, hx⟩
    have hpos : s.length > 0 := List.length_pos_iff.mpr hne
    simp [this, hpos]

theorem parseU64Once_iff (s : Bytes) (x : Nat) (rest : Bytes) :
    parseU64Once s = some (x, rest) ↔
      Digits (s.takeWhile isDigit) x ∧ x ≤ u64Max ∧ rest = s.dropWhile isDigit := by
  obtain ⟨v, hv, hl⟩ := fromRadix10Checked_eq s
  unfold parseU64Once Digits
  rw [hl, hv]
  by_cases hm : v ≤ u64Max
  · rw [show chk v = some v from if_pos hm]
    simp only [drop_takeWhile_length, gt_iff_lt, List.length_pos_iff, ne_eq]
    by_cases hne : s.takeWhile isDigit = []
    · simp [hne]
    · simp only [hne, not_false_eq_true, if_true, Option.some.injEq, Prod.mk.injEq, true_and]
      constructor
      · rintro ⟨rfl, rfl⟩
        exact ⟨rfl, hm, rfl⟩
      · rintro ⟨rfl, -, rfl⟩
        exact ⟨rfl, rfl⟩
  · rw [show chk v = none from if_neg hm]
    simp only [Option.some.injEq, false_iff, not_and, reduceCtorEq]
    rintro ⟨-, rfl⟩ h
    exact absurd h hm

theorem not_isDigit_dash : isDigit 45 = false := by decide

/-- the model's `Range` and the specification's `ByteRange` are the same inductive type, declared twice -/
def toSpec : Range → ByteRange
  | .int f l => .int f l
  | .suffix n => .suffix n

def ofSpec : ByteRange → Range
  | .int f l => .int f l
  | .suffix n => .suffix n

theorem ofSpec_toSpec (r : Range) : ofSpec (toSpec r) = r := by cases r <;> rfl

theorem i64Max_le_u64Max : i64Max ≤ u64Max := by decide

theorem parseInt_iff (s : Bytes) (r : Range) :
    Range.parseInt s = some r ↔
      (∃ ds f, Digits ds f ∧ f ≤ i64Max ∧ s = ds ++ [45] ∧ r = .int f none) ∨
      (∃ d1 d2 f l, Digits d1 f ∧ Digits d2 l ∧ f ≤ l ∧ l ≤ i64Max ∧ s = d1 ++ 45 :: d2 ∧
        r = .int f (some l)) := by
  constructor
  · -- what `parse_u64_once` hands on: the digit prefix, its value, and the rest of the text
    have once : ∀ {first rest}, parseU64Once s = some (first, rest) →
        Digits (s.takeWhile isDigit) first ∧ s = s.takeWhile isDigit ++ rest := fun hp =>
      have ⟨hd, _, hrest⟩ := (parseU64Once_iff s _ _).mp hp
      ⟨hd, by rw [hrest]; exact List.takeWhile_append_dropWhile.symm⟩
    fun_cases Range.parseInt s
    -- the leaves that refuse
    all_goals try exact fun h => absurd h.symm (Option.some_ne_none r)
    next first hf c s2 hc he hp =>
      intro h
      obtain ⟨hd, hs⟩ := once hp
      rw [Decidable.of_not_not hc, List.isEmpty_iff.mp he] at hs
      exact Or.inl ⟨_, first, hd, by omega, hs, (Option.some.inj h).symm⟩
    next first hf c s2 hc _ last hl hl1 hl2 hp =>
      intro h
      obtain ⟨hd, hs⟩ := once hp
      rw [Decidable.of_not_not hc] at hs
      exact Or.inr ⟨_, s2, first, last, hd, ((parseU64Full_iff s2 last).mp hl).1, by omega, by omega, hs,
        (Option.some.inj h).symm⟩
  · rintro (⟨ds, f, hd, hf, rfl, rfl⟩ | ⟨d1, d2, f, l, h1, h2, hfl, hl, rfl, rfl⟩)
    · obtain ⟨htw, hdw⟩ := span_cons (r := []) (digitsVal_all_digits hd.2) not_isDigit_dash
      have hp : parseU64Once (ds ++ [45]) = some (f, [45]) :=
        (parseU64Once_iff _ _ _).mpr ⟨by rw [htw]; exact hd, Nat.le_trans hf i64Max_le_u64Max, hdw.symm⟩
      have hf' : ¬ f > i64Max := by omega
      simp [Range.parseInt, hp, hf', dash]
    · obtain ⟨htw, hdw⟩ := span_cons (r := d2) (digitsVal_all_digits h1.2) not_isDigit_dash
      have hfm : f ≤ i64Max := by omega
      have hp : parseU64Once (d1 ++ 45 :: d2) = some (f, 45 :: d2) :=
        (parseU64Once_iff _ _ _).mpr ⟨by rw [htw]; exact h1, Nat.le_trans hfm i64Max_le_u64Max, hdw.symm⟩
      have hl' : parseU64Full d2 = some l :=
        (parseU64Full_iff _ _).mpr ⟨h2, Nat.le_trans hl i64Max_le_u64Max⟩
      have hf' : ¬ f > i64Max := by omega
      have hl2 : ¬ l > i64Max := by omega
      have hfl' : ¬ f > l := by omega
      have hne : d2 ≠ [] := h2.1
      simp [Range.parseInt, hp, hf', dash, hl', hl2, hfl', hne]

/-- what the code accepts beyond the grammar: first-pos and last-pos at most i64::MAX, suffix-length at most u64::MAX -/
def InCodeDomain : Range → Prop
  | .int f l => f ≤ i64Max ∧ ∀ l', l = some l' → l' ≤ i64Max
  | .suffix n => n ≤ u64Max

instance (r : Range) : Decidable (InCodeDomain r) :=
  match r with
  | .int f none => decidable_of_iff (f ≤ i64Max) ⟨fun h => ⟨h, by intro l' h'; cases h'⟩, fun h => h.1⟩
  | .int f (some l) => decidable_of_iff (f ≤ i64Max ∧ l ≤ i64Max)
      ⟨fun h => ⟨h.1, by intro l' h'; cases h'; exact h.2⟩, fun h => ⟨h.1, h.2 l rfl⟩⟩
  | .suffix n => inferInstanceAs (Decidable (n ≤ u64Max))

theorem inCodeDomain_of_lt {r : Range} (hb : match r with
    | .int f l => f < 2 ^ 63 ∧ ∀ l', l = some l' → l' < 2 ^ 63
    | .suffix n => n < 2 ^ 63) : InCodeDomain r := by
  have hi : i64Max = 2 ^ 63 - 1 := rfl
  have hu : u64Max = 2 ^ 64 - 1 := rfl
  cases r with
  | int f l => exact ⟨by have := hb.1; omega, fun l' hl' => by have := hb.2 l' hl'; omega⟩
  | suffix n =>
    have : n < 2 ^ 63 := hb
    show n ≤ u64Max
    omega

theorem bytesEq_eq : bytesEq = bytesUnit := rfl

theorem Range.parse_unit (s : Bytes) :
    Range.parse (bytesUnit ++ s) =
      match s with
      | 45 :: s' => (parseU64Full s').map .suffix
      | _ => Range.parseInt s := by
  have hsp : stripPrefix bytesEq (bytesUnit ++ s) = some s := stripPrefix_strips.iff.mpr rfl
  unfold Range.parse
  rw [hsp]
  match s with
  | [] => rfl
  | c :: s' =>
    by_cases hc : c = 45
    · subst hc
      simp only [dash, if_true]
      cases parseU64Full s' <;> rfl
    · simp only [dash, hc, if_false]
      split
      · rename_i heq
        exact absurd (List.cons.inj heq).1 hc
      · rfl

/-- a text that starts with a digit does not start with `-` -/
theorem Range.parse_unit_digits {ds : Bytes} {v : Nat} (hd : Digits ds v) (t : Bytes) :
    Range.parse (bytesUnit ++ (ds ++ t)) = Range.parseInt (ds ++ t) := by
  obtain ⟨c, ds', rfl, hc⟩ := digits_cons hd
  rw [Range.parse_unit]
  split
  · rename_i heq
    exact absurd (List.cons.inj heq).1 (digit_ne c hc 45 (by decide))
  · rfl

theorem Range.parse_iff (h : Bytes) (r : Range) :
    Range.parse h = some r ↔ RangeHeader h (toSpec r) ∧ InCodeDomain r := by
  constructor
  · intro hp
    obtain ⟨s, rfl⟩ : ∃ s, h = bytesUnit ++ s := by
      unfold Range.parse at hp
      cases hsp : stripPrefix bytesEq h with
      | none => rw [hsp] at hp; cases hp
      | some s => exact ⟨s, stripPrefix_strips.iff.mp hsp⟩
    rw [Range.parse_unit] at hp
    split at hp
    · rename_i s'
      obtain ⟨n, hf, rfl⟩ := Option.map_eq_some_iff.mp hp
      obtain ⟨hd, hn⟩ := (parseU64Full_iff s' n).mp hf
      exact ⟨.suffix hd, hn⟩
    · rcases (parseInt_iff s r).mp hp with ⟨ds, f, hd, hf, rfl, rfl⟩ | ⟨d1, d2, f, l, h1, h2, hfl, hl, rfl, rfl⟩
      · exact ⟨.openEnded hd, hf, by intro l' h; cases h⟩
      · exact ⟨.closed h1 h2 hfl, by omega, by intro l' h; cases h; exact hl⟩
  · rintro ⟨hH, hD⟩
    match r, hH, hD with
    | .suffix n, .suffix hd, hD =>
      rw [Range.parse_unit]
      simp only [(parseU64Full_iff _ n).mpr ⟨hd, hD⟩, Option.map_some]
    | .int f none, .openEnded hd, hD =>
      rw [Range.parse_unit_digits hd]
      exact (parseInt_iff _ _).mpr (Or.inl ⟨_, f, hd, hD.1, rfl, rfl⟩)
    | .int f (some l), .closed h1 h2 hfl, hD =>
      rw [Range.parse_unit_digits h1]
      exact (parseInt_iff _ _).mpr (Or.inr ⟨_, _, f, l, h1, h2, hfl, hD.2 l rfl, rfl, rfl⟩)

theorem header_of_format (r : Range) (hv : ∀ f l, r = .int f (some l) → f ≤ l) :
    RangeHeader r.toHeaderString (toSpec r) := by
  cases r with
  | suffix n =>
    have : (Range.suffix n).toHeaderString = bytesUnit ++ 45 :: fmtDec n := by
      simp [Range.toHeaderString, bytesEq_eq, dash]
    rw [this]; exact .suffix (digits_fmtDec n)
  | int f l =>
    cases l with
    | none =>
      have : (Range.int f none).toHeaderString = bytesUnit ++ (fmtDec f ++ [45]) := by
        simp [Range.toHeaderString, bytesEq_eq, dash]
      rw [this]; exact .openEnded (digits_fmtDec f)
    | some l =>
      have : (Range.int f (some l)).toHeaderString = bytesUnit ++ (fmtDec f ++ 45 :: fmtDec l) := by
        simp [Range.toHeaderString, bytesEq_eq, dash]
      rw [this]; exact .closed (digits_fmtDec f) (digits_fmtDec l) (hv f l rfl)

theorem wsub_eq {a b : Nat} (hb : b ≤ a) (ha : a ≤ u64Max) : wsub a b = a - b := by
  have hlt : a - b < 18446744073709551616 := Nat.lt_of_le_of_lt (Nat.sub_le a b) (Nat.lt_succ_of_le ha)
  rw [wsub, Nat.sub_add_comm hb, Nat.add_mod_right, Nat.mod_eq_of_lt hlt]

theorem wadd_eq {a b : Nat} (h : a + b ≤ u64Max) : wadd a b = a + b :=
  Nat.mod_eq_of_lt (Nat.lt_succ_of_le h)

/-- no bound on the range: every wrapping operation of `check` is applied to a value clamped by `len` -/
theorem check_eq_rfcInterval (r : Range) (len : Nat) (hlen : len ≤ u64Max) :
    r.check len = rfcInterval (toSpec r) len := by
  match r with
  | .suffix n =>
    simp only [Range.check, rfcInterval, toSpec, wsub_eq (Nat.min_le_right n len) hlen]
    by_cases hn : n = 0
    · rw [if_pos hn, if_pos hn]
    · rw [if_neg hn, if_neg hn]
      by_cases h : n > len
      · rw [if_pos h, Nat.min_eq_right (by omega)]
      · rw [if_neg h, Nat.min_eq_left (by omega)]
  | .int f none =>
    simp only [Range.check, rfcInterval, toSpec]
    by_cases h : f < len
    · rw [if_pos h, if_neg (by omega)]
    · rw [if_neg h, if_pos (by omega)]
  | .int f (some l) =>
    simp only [Range.check, rfcInterval, toSpec]
    by_cases h : f < len
    · -- `1 ≤ len`, so `len - 1` does not wrap, and the clamped last-pos is below `len ≤ u64Max`
      have hm : min l (len - 1) + 1 ≤ u64Max := by omega
      rw [if_neg (by omega), if_pos h, wsub_eq (by omega) hlen, wadd_eq hm]
      by_cases hlf : l < f
      · rw [if_pos hlf, if_pos (by omega)]
      · rw [if_neg hlf, if_neg (by omega)]
        by_cases hl : l ≥ len
        · rw [if_pos hl, Nat.min_eq_right (by omega), Nat.sub_add_cancel (by omega)]
        · rw [if_neg hl, Nat.min_eq_left (by omega)]
    · rw [if_pos (by omega), if_neg h]
      split <;> rfl

/-- `check_eq_rfcInterval` under a bound on the range that no case needs -/
theorem check_eq_rfc (r : Range) (len : Nat) (hlen : len ≤ u64Max)
    (hr : match r with | .int f l => f ≤ u64Max ∧ ∀ l', l = some l' → l' ≤ u64Max | .suffix n => n ≤ u64Max) :
    r.check len = rfcInterval (toSpec r) len :=
  check_eq_rfcInterval r len hlen

theorem notDash_of_digit {c : UInt8} (h : isDigit c = true) : notDash c = true := by
  simpa [notDash] using digit_ne c h 45 (by decide)

theorem span_nedash {ds r : Bytes} (hd : ∀ c ∈ ds, isDigit c = true) :
    (ds ++ 45 :: r).takeWhile notDash = ds :=
  (span_cons (fun c hc => notDash_of_digit (hd c hc)) (by decide)).1

theorem readRange_of_header {h : Bytes} {v : ByteRange} (hH : RangeHeader h v) : readRange h = some v := by
  have htake : ∀ s : Bytes, (bytesUnit ++ s).take 6 = bytesUnit := by intro s; rfl
  have hdrop : ∀ s : Bytes, (bytesUnit ++ s).drop 6 = s := by intro s; rfl
  cases hH with
  | suffix hd =>
    rename_i ds n
    have h45 : notDash 45 = false := by decide
    simp only [readRange, htake, hdrop, ne_eq, not_true_eq_false, if_false]
    simp [h45, (digitsOpt_iff ds n).mpr hd]
  | openEnded hd =>
    rename_i ds f
    have hall := digitsVal_all_digits hd.2
    have hne : ds ≠ [] := hd.1
    have hsp : (ds ++ [45]).takeWhile notDash = ds := span_nedash (r := []) hall
    simp only [readRange, htake, hdrop, ne_eq, not_true_eq_false, if_false, hsp]
    simp [hne, (digitsOpt_iff ds f).mpr hd]
  | closed h1 h2 hfl =>
    rename_i d1 d2 f l
    have hall := digitsVal_all_digits h1.2
    have hne : d1 ≠ [] := h1.1
    have hne2 : d2 ≠ [] := h2.1
    have hsp : (d1 ++ 45 :: d2).takeWhile notDash = d1 := span_nedash hall
    simp only [readRange, htake, hdrop, ne_eq, not_true_eq_false, if_false, hsp]
    simp [hne, hne2, (digitsOpt_iff d1 f).mpr h1, (digitsOpt_iff d2 l).mpr h2, hfl]

theorem header_of_readRange {h : Bytes} {v : ByteRange} : readRange h = some v → RangeHeader h v := by
  -- the text is the unit, the bytes before the first `-`, the `-`, and the rest
  have shape : ∀ {c : UInt8} {b : Bytes}, h.take 6 = bytesUnit →
      ((h.drop 6).drop ((h.drop 6).takeWhile notDash).length) = c :: b →
      h = bytesUnit ++ ((h.drop 6).takeWhile notDash ++ 45 :: b) := by
    intro c b ht hdw
    rw [drop_takeWhile_length] at hdw
    have hc : c = 45 := by simpa [notDash] using dropWhile_head_false hdw
    rw [← hc, ← hdw, List.takeWhile_append_dropWhile, ← ht, List.take_append_drop]
  fun_cases readRange h
  -- the leaves that refuse
  all_goals try exact fun h => absurd h.symm (Option.some_ne_none v)
  next ht _ _ c b hdw ha =>
    intro hr
    obtain ⟨n, hn, rfl⟩ := Option.map_eq_some_iff.mp hr
    rw [shape (Decidable.of_not_not ht) hdw, show (h.drop 6).takeWhile notDash = [] from ha]
    exact .suffix ((digitsOpt_iff _ _).mp hn)
  next ht _ _ c _ f hda hdw =>
    intro hr
    cases hr
    rw [shape (Decidable.of_not_not ht) hdw]
    exact .openEnded ((digitsOpt_iff _ _).mp hda)
  next ht _ _ c b hdw _ f hda _ l hdb hfl =>
    intro hr
    cases hr
    rw [shape (Decidable.of_not_not ht) hdw]
    exact .closed ((digitsOpt_iff _ _).mp hda) ((digitsOpt_iff _ _).mp hdb) hfl

/-- the executable reader the driver judges with is the grammar -/
theorem readRange_iff (h : Bytes) (v : ByteRange) : readRange h = some v ↔ RangeHeader h v :=
  ⟨header_of_readRange, readRange_of_header⟩

theorem rangeHeader_functional {h : Bytes} {a b : ByteRange} (ha : RangeHeader h a) (hb : RangeHeader h b) :
    a = b := by
  have h1 := readRange_of_header ha
  have h2 := readRange_of_header hb
  rw [h1] at h2; exact Option.some.inj h2

/-- `parse` as a function of the range a header denotes: the range when it lies in the code's numeric domain, a refusal otherwise -/
theorem Range.parse_of_header {h : Bytes} {v : ByteRange} (hH : RangeHeader h v) :
    Range.parse h = if InCodeDomain (ofSpec v) then some (ofSpec v) else none := by
  have hv : toSpec (ofSpec v) = v := by cases v <;> rfl
  split
  · rename_i hD
    exact (Range.parse_iff h _).mpr ⟨hv.symm ▸ hH, hD⟩
  · rename_i hD
    cases hp : Range.parse h with
    | none => rfl
    | some r =>
      obtain ⟨hH', hD'⟩ := (Range.parse_iff h r).mp hp
      rw [← rangeHeader_functional hH' hH, ofSpec_toSpec] at hD
      exact absurd hD' hD

end S3V.Dto
