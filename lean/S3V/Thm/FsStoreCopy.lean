import S3V.Thm.FsStoreNames
import S3V.Thm.FsStoreTree
/-!
# C18: `copy_object` refines the store
-/
namespace S3V.FsStore
open S3V.StoreSpec

/-- `copy_object` may be compared with the store (a copy of an object onto itself included): names agree and side-file
    names fit; for admissible names the source is not a leftover directory (a missing source bucket is inside:
    `NoSuchBucket` on both sides, code since cc244fc, class fs:missing-bucket-reported-as-missing-key); when the copy can
    happen the destination path is free. Nothing is demanded of the side files: the destination takes over the source's
    metadata and recorded checksums, or loses its own when the source has none (code since 8faafe7; classes
    fs:stale-metadata-after-copy, fs:stale-checksum-after-copy) -/
def CopyOk (s : State) (sb sk db dk : Bytes) : Prop :=
  NameOk sb ∧ CanonKey sk ∧ NameOk db ∧ CanonKey dk ∧
  sideTooLong sb sk false = false ∧ sideTooLong db dk false = false ∧
  (bucketOk sb = true → bucketOk db = true →
    match keyPath sk, keyPath dk with
    | some sp, some dp =>
      match s.tree sb with
      | none => True
      | some st =>
        match st.node sp with
        | none => True
        | some .dir => False
        | some (.file _) =>
          match s.tree db with
          | none => True
          | some dt =>
            WriteOk dt dp
    | _, _ => True)

instance (s : State) (sb sk db dk : Bytes) : Decidable (CopyOk s sb sk db dk) := by
  unfold CopyOk; decide_pred

theorem copy_refines (H : Hashes) (dl : Nat) {s : State} (hi : Inv s) {sb sk db dk : Bytes}
    (hg : CopyOk s sb sk db dk) : Refines H dl s (.copyObject sb sk db dk) := by
  obtain ⟨hsname, ⟨_, hscanon⟩, hdname, ⟨_, hdcanon⟩, hsshort, hdshort, hmain⟩ := hg
  rcases hsname.cases with hsb | hsb
  case inr => simp [Refines, step, StoreSpec.step, objPath, hsb, hi]
  rcases key_cases sk with hsk | ⟨sp, hsk, hsp⟩
  · simp [Refines, step, StoreSpec.step, objPath, hsb, hsk, hi]
  rcases hdname.cases with hdb | hdb
  case inr => simp [Refines, step, StoreSpec.step, objPath, hsb, hsk, hdb, hi]
  rcases key_cases dk with hdk | ⟨dp, hdk, hdp⟩
  · simp [Refines, step, StoreSpec.step, objPath, hsb, hsk, hdb, hdk, hi]
  have hmain := hmain hsb.1 hdb.1
  simp only [hsk.1, hdk.1] at hmain hscanon hdcanon
  have hr : ∀ t, s.tree sb = some t → t.node sp ≠ some .dir := fun t ht h => by
    simp only [ht, h] at hmain
  rcases lookup_cases hi sb hsp hscanon hr with hst | ⟨st, hst, hsn | ⟨c, hsn⟩⟩
  · simp [Refines, step, StoreSpec.step, objPath, State.node, hsb, hsk, hdb, hdk, hst, hi]
  · simp [Refines, step, StoreSpec.step, objPath, State.node, hsb, hsk, hdb, hdk, hst, hsn, hi]
  simp only [hst.1, hsn.1] at hmain
  rcases tree_cases s db with hdt | ⟨dt, hdt⟩
  · simp [Refines, step, StoreSpec.step, objPath, State.node, hsb, hsk, hdb, hdk, hst, hsn, hdt, abs_alHas, hi]
  simp only [hdt.1] at hmain
  have hspec : StoreSpec.step H (abs s) (.copyObject sb sk db dk) =
      ((abs s).setObj db dk ⟨c, metaOf (alLookup (sb, sk) s.metas), (alLookup (sb, sk) s.infos).getD {}⟩,
        .copied (some (etagOf H c))) := by
    simp [StoreSpec.step, hsb, hsk, hdb, hdk, hst, hsn, abs_alHas, hdt, absMeta_eq]
  by_cases hne : (sb, sk) = (db, dk)
  · -- the object onto itself: nothing is copied; writing back the object that is there is the identity on the store
    obtain ⟨rfl, rfl⟩ := Prod.mk.inj hne
    obtain rfl : sp = dp := Option.some.inj (hsk.1.symm.trans hdk.1)
    obtain rfl : st = dt := Option.some.inj (hst.1.symm.trans hdt.1)
    obtain ⟨h1, h2⟩ := dirs_core hi hst.1 hsp
    refine .of_eq (by simp [step, objPath, State.node, hsb, hsk, hst, hsn, State.mkdirAll_eq hst.1 hmain.1]) hspec
      ⟨h1.trans ?_, h2⟩
    unfold Store.setObj
    rw [hst.2.1, ← absMeta_eq, Option.getD_some, alInsert_same hsn.2, abs_putBack hst.1]
  · -- source and destination are different files: the side files of the destination become the source's, or go
    have hpne : ¬ (sb = db ∧ sp = dp) := by
      rintro ⟨h1, h2⟩
      exact hne (by rw [h1, ← hscanon, ← hdcanon, h2])
    refine .of_eq ?_ hspec
      (writeFile_core hi hdt.1 hdp hdcanon hmain.2 c (hi.meta_ne_corrupt (sb, sk)) (alLookup (sb, sk) s.infos))
    cases hsm : alLookup (sb, sk) s.metas <;> cases hsi : alLookup (sb, sk) s.infos <;>
      simp [step, objPath, State.node, hsb, hsk, hdb, hdk, hst, hsn, hdt, hpne, commitFile_eq hdt.1 hmain hdp, hsshort,
        hdshort, hsm, hsi, alSet]

end S3V.FsStore
