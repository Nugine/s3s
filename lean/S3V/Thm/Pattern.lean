import S3V.Model.Pattern
import S3V.Thm.PatternSpec
/-!
# Lemmas: the loop of `match_pattern` decides `Matches`

`St.goal`: what is left to decide in a state — without a backtrack point the rest of the pattern against
the rest of the input, with backtrack point `(pb, sb)` the `*` before `pb` against `sb`. The invariant
`Sem`: since the backtrack point the attempt has matched a star-free segment `q` against a segment `t` of
the input symbol by symbol (`PW q t`), so `pb = q ++ p` and `sb = t ++ s`. An iteration keeps `Sem` and
leaves the goal as it was (`step_sem`): `star_step` is why a new `*` may forget the older backtrack
point, `retry_sem` covers the three mismatch exits of the loop body. `run_correct`: from any state
satisfying `Sem` the loop decides the state's goal; `match_pattern` starts it at `⟨p, s, none⟩`, whose
goal is `Matches p s`. `patternSetNew_eq`: `PatternSet::new` refuses exactly the sets that hold an empty pattern.
-/
namespace S3V.Pattern
open S3V S3V.PatternSpec

/-- pointwise match of a star-free pattern segment -/
inductive PW : List Sym → List Sym → Prop
  | nil : PW [] []
  | cons {c d q t} : c ≠ star → (c = d ∨ c = qm) → PW q t → PW (c :: q) (d :: t)

theorem PW.cancel {q t} (h : PW q t) (p s : List Sym) : Matches (q ++ p) (t ++ s) ↔ Matches p s := by
  induction h with
  | nil => rfl
  | cons hc hcd _ ih => exact (Matches.cons_cons_iff hc).trans ((and_iff_right hcd).trans ih)

/-- a star-free segment uses up as many symbols as it has -/
theorem PW.split_of_matches {q t} (hq : PW q t) {p r} (h : Matches (q ++ p) r) :
    ∃ t' r', r = t' ++ r' ∧ t'.length = t.length ∧ Matches p r' := by
  induction hq generalizing r with
  | nil => exact ⟨[], r, rfl, rfl, h⟩
  | cons hc _ _ ih =>
    cases r with
    | nil => exact absurd h (Matches.cons_nil hc)
    | cons x r =>
      obtain ⟨t', r', rfl, hl, hm⟩ := ih ((Matches.cons_cons_iff hc).mp h).2
      exact ⟨x :: t', r', rfl, congrArg (· + 1) hl, hm⟩

theorem PW.snoc {q t c d} (h : PW q t) (hc : c ≠ star) (hcd : c = d ∨ c = qm) : PW (q ++ [c]) (t ++ [d]) := by
  induction h with
  | nil => exact .cons hc hcd .nil
  | cons h1 h2 _ ih => exact .cons h1 h2 ih

theorem star_step {q t} (hq : PW q t) (p' s : List Sym) :
    Matches (star :: (q ++ star :: p')) (t ++ s) ↔ Matches (star :: p') s := by
  constructor
  · intro h
    obtain ⟨u, r, e, hr⟩ := Matches.star_inv h
    obtain ⟨t', r', rfl, hl, hr'⟩ := hq.split_of_matches hr
    -- `q` has used up `|t|` symbols behind `u`, so what `star :: p'` matches is a suffix of `s`
    have hle : r'.length ≤ s.length := by
      have := congrArg List.length e
      simp only [List.length_append] at this
      omega
    obtain ⟨a, rfl⟩ :=
      List.suffix_of_suffix_length_le ⟨u ++ t', by rw [e, List.append_assoc]⟩ (List.suffix_append t s) hle
    exact hr'.star_append a
  · exact fun h => .starSkip ((hq.cancel _ _).mpr h)

theorem PW.nil_right {q} (h : PW q []) : q = [] := by cases h; rfl

theorem PW.not_matches_nil {q t p} (hpw : PW q t) (hne : q ++ p ≠ [])
    (hhead : ∀ c p', p = c :: p' → c ≠ star) : ¬ Matches (q ++ p) [] := by
  cases hpw with
  | nil =>
    cases p with
    | nil => exact absurd rfl hne
    | cons c p' => exact Matches.cons_nil (hhead c p' rfl)
  | cons hc _ _ => exact Matches.cons_nil hc

/-- what is left to decide in a state -/
def St.goal (st : St) : Prop :=
  match st.back with
  | none => Matches st.p st.s
  | some (pb, sb) => Matches (star :: pb) sb

/-- since the backtrack point the attempt has matched a star-free segment `q` against `t`, symbol by symbol -/
def Sem : St → Prop
  | ⟨p, s, back⟩ => ∀ pb sb, back = some (pb, sb) → ∃ q t, PW q t ∧ pb = q ++ p ∧ sb = t ++ s

theorem Sem.fresh (p s : List Sym) : Sem ⟨p, s, some (p, s)⟩ := by
  intro pb sb h
  cases h
  exact ⟨[], [], .nil, rfl, rfl⟩

/-- the three mismatch exits. `hhead`: a mismatch never happens at a `*`, so the pattern left over does
    not start with one; with nothing consumed since the backtrack point that is what rules out
    `Matches pb []` when the input after it runs out. -/
theorem retry_sem (p s : List Sym) (back : Option (List Sym × List Sym)) (hs : Sem ⟨p, s, back⟩)
    (hmis : ¬ Matches p s) (hhead : ∀ c p', p = c :: p' → c ≠ star) :
    match retryStep back with
    | .done b => (b = true ↔ St.goal ⟨p, s, back⟩)
    | .next st' => Sem st' ∧ (St.goal ⟨p, s, back⟩ ↔ st'.goal) := by
  cases back with
  | none => simpa [retryStep, St.goal] using hmis
  | some b =>
    obtain ⟨pb, sb⟩ := b
    obtain ⟨q, t, hpw, hpb, hsb⟩ := hs pb sb rfl
    by_cases hnil : pb = []
    · subst hnil
      simpa [retryStep, St.goal] using Matches.star_append sb (.starSkip .nil)
    · have hpb_nil : ¬ Matches pb [] := hpb ▸ hpw.not_matches_nil (hpb ▸ hnil) hhead
      have hskip : ¬ Matches pb sb := by
        intro hm; rw [hpb, hsb] at hm; exact hmis ((hpw.cancel _ _).mp hm)
      -- the `*` must take a symbol; with none or one left, `pb` would have to match the empty input
      match sb, hskip with
      | x :: d :: sb', hskip =>
        simp only [retryStep, if_neg hnil, St.goal]
        exact ⟨Sem.fresh _ _, Matches.star_cons.trans (or_iff_right hskip)⟩
      | [], hskip => simpa [retryStep, hnil, St.goal, Matches.star_nil] using hskip
      | [x], hskip => simpa [retryStep, hnil, St.goal, Matches.star_cons, hskip, Matches.star_nil] using hpb_nil

theorem step_sem (st : St) (hs : Sem st) :
    match step st with
    | .done b => (b = true ↔ st.goal)
    | .next st' => Sem st' ∧ (st.goal ↔ st'.goal) := by
  obtain ⟨p, s, back⟩ := st
  fun_cases step ⟨p, s, back⟩
  next p' hp =>
    -- a new `*`: the segment matched so far is cancelled, an older backtrack point dropped
    cases hp
    refine ⟨Sem.fresh _ _, ?_⟩
    cases back with
    | none => exact Iff.rfl
    | some b =>
      obtain ⟨pb, sb⟩ := b
      obtain ⟨q, t, hpw, rfl, rfl⟩ := hs pb sb rfl
      exact star_step hpw p' s
  next c p' hp hc d s' hs' hcd =>
    -- a symbol matched: the segment grows by one on each side
    cases hp; cases hs'
    constructor
    · intro pb sb hb
      obtain ⟨q, t, hpw, hpb, hsb⟩ := hs pb sb hb
      exact ⟨q ++ [c], t ++ [d], hpw.snoc hc hcd, by simp [hpb], by simp [hsb]⟩
    · cases back with
      | none => exact (Matches.cons_cons_iff hc).trans (and_iff_right hcd)
      | some b => exact Iff.rfl
  next c p' hp hc d s' hs' hcd =>
    cases hp; cases hs'
    exact retry_sem _ _ back hs (fun h => hcd ((Matches.cons_cons_iff hc).mp h).1) (by rintro _ _ ⟨⟩; exact hc)
  next c p' hp hc hs' =>
    cases hp; cases hs'
    exact retry_sem _ _ back hs (Matches.cons_nil hc) (by rintro _ _ ⟨⟩; exact hc)
  next hp hs' =>
    -- pattern and input used up: the segment is the whole match
    cases hp; cases hs'
    refine iff_of_true rfl ?_
    cases back with
    | none => exact .nil
    | some b =>
      obtain ⟨pb, sb⟩ := b
      obtain ⟨q, t, hpw, rfl, rfl⟩ := hs pb sb rfl
      exact .starSkip ((hpw.cancel [] []).mpr .nil)
  next hp d s' hs' =>
    cases hp; cases hs'
    exact retry_sem _ _ back hs (mt Matches.nil_iff.mp nofun) nofun

theorem run_correct (st : St) (hi : st.inv) (hs : Sem st) : run st hi = true ↔ st.goal := by
  fun_induction run st hi with
  | case1 st hi b h =>
    have := step_sem st hs
    rwa [h] at this
  | case2 st hi st' h ih =>
    have := step_sem st hs
    rw [h] at this
    exact (ih this.1).trans this.2.symm

theorem patternSetNew_eq (ps : List (List Sym)) : patternSetNew ps = if [] ∈ ps then none else some ps := by
  induction ps with
  | nil => rfl
  | cons p ps ih =>
    rw [patternSetNew, List.mapM_cons, ← patternSetNew, ih, parsePattern]
    by_cases hp : p = []
    · simp [hp]
    · have hp' : ¬ [] = p := fun h => hp h.symm
      by_cases h : [] ∈ ps <;> simp [hp, hp', h]

end S3V.Pattern
