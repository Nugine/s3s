import S3V.Model.Multipart
import S3V.Thm.ListLemmas
/-!
# Lemmas: the scanners under `try_parse` on a slice and on an extension of that slice (C09d)

Every scanner of the model is *prefix-stable*: what it answers on `s` other than "need more data" it
answers on `s ++ q` too, with `q` appended to the unconsumed rest, and that rest is a strictly shorter
suffix of `s`.
* `splitCrlf` returns a plain pair: `splitCrlf_append`, `splitCrlf_shorter`; `next_terminated_line` is
  `splitCrlf` (`nextTerminatedLine_eq`), so both facts hold of it too (`nextTerminatedLine_ext`).
* The header scanners (`lineEnd`, `parseHeaderLine`, `headerStep`, `parseHeadersN`) have result types of their
  own; for each type a relation `Ext s q R R'` states both facts, and each scanner gets one lemma
  `f_ext : Ext s q (f s) (f (s ++ q))`.
* `CrlfLines::split_to` is characterised by the relation `SplitAt` (`splitTo_eq_some_iff`). It is the one
  exception: it takes an unterminated trailing piece for a line (`SplitAt.last`), so `SplitAt.append` needs
  `r ≠ [] ∨ ¬ pat <:+ s`.
Each `Ext` is a `match` on the first answer; a use matches on `f s` and `f_ext s q` together, so that every arm has the
relation at its constructor.
-/
namespace S3V.Multipart
open S3V

def Shorter (r s : Bytes) : Prop := r <:+ s ∧ r.length < s.length

theorem Shorter.trans_suffix {a b c : Bytes} (h : Shorter a b) (h2 : b <:+ c) : Shorter a c :=
  ⟨h.1.trans h2, Nat.lt_of_lt_of_le h.2 h2.length_le⟩

theorem Shorter.trans {a b c : Bytes} (h : Shorter a b) (h2 : Shorter b c) : Shorter a c :=
  h.trans_suffix h2.1

theorem shorter_cons (c : UInt8) (r : Bytes) : Shorter r (c :: r) := ⟨List.suffix_cons c r, Nat.lt_succ_self _⟩

theorem shorter_cons₂ (c d : UInt8) (r : Bytes) : Shorter r (c :: d :: r) :=
  (shorter_cons d r).trans (shorter_cons c _)

theorem splitCrlf_eq_some : ∀ {s l r : Bytes}, splitCrlf s = some (l, r) → s = l ++ 13 :: 10 :: r := by
  intro s
  fun_induction splitCrlf s with
  | case1 => intro l r h; cases h
  | case2 => intro l r h; cases h
  | case3 a b t hab =>
    intro l r h
    cases h
    rw [hab.1, hab.2, List.nil_append]
  | case4 a b t hab l' r' heq ih =>
    intro l r h
    cases h
    rw [ih heq, List.cons_append]
  | case5 a b t hab heq ih => intro l r h; cases h

theorem splitCrlf_shorter {s l r : Bytes} (h : splitCrlf s = some (l, r)) : Shorter r s := by
  rw [splitCrlf_eq_some h]
  exact ⟨⟨l ++ [13, 10], by simp⟩, by simp; omega⟩

theorem splitCrlf_append : ∀ {p l r : Bytes} (q : Bytes), splitCrlf p = some (l, r) →
    splitCrlf (p ++ q) = some (l, r ++ q) := by
  intro p
  fun_induction splitCrlf p with
  | case1 => intro l r q h; cases h
  | case2 => intro l r q h; cases h
  | case3 a b t hab =>
    intro l r q h
    cases h
    simp only [List.cons_append]
    rw [splitCrlf, if_pos hab]
  | case4 a b t hab l' r' heq ih =>
    intro l r q h
    cases h
    have := ih q heq
    simp only [List.cons_append] at this ⊢
    rw [splitCrlf, if_neg hab, this]
  | case5 a b t hab heq ih => intro l r q h; cases h

theorem splitCrlf_isSome_of_crlf (l r : Bytes) : (splitCrlf (l ++ 13 :: 10 :: r)).isSome = true := by
  induction l with
  | nil =>
    rw [List.nil_append, splitCrlf, if_pos ⟨rfl, rfl⟩]
    rfl
  | cons a t ih =>
    obtain ⟨b, u, hu⟩ : ∃ b u, t ++ 13 :: 10 :: r = b :: u := by
      cases t with
      | nil => exact ⟨_, _, rfl⟩
      | cons b t' => exact ⟨_, _, rfl⟩
    rw [hu] at ih
    rw [List.cons_append, hu, splitCrlf]
    split
    · rfl
    · revert ih
      cases splitCrlf (b :: u) with
      | none => exact fun h => nomatch h
      | some x => exact fun _ => rfl

theorem endsWithCrlf_iff (s : Bytes) : endsWithCrlf s = true ↔ [13, 10] <:+ s := by
  rw [endsWithCrlf, decide_eq_true_eq, List.suffix_iff_eq_drop, eq_comm]
  rfl

/-- `next_terminated_line` is "split at the first CRLF, else nothing" -/
theorem nextTerminatedLine_eq (s : Bytes) : nextTerminatedLine s = splitCrlf s := by
  unfold nextTerminatedLine nextLine
  cases h : splitCrlf s with
  | some x =>
    refine if_neg fun hx => ?_
    have he : endsWithCrlf s = true := (endsWithCrlf_iff s).mpr ⟨x.1, by rw [splitCrlf_eq_some h, hx.1]⟩
    rw [he] at hx
    cases hx.2
  | none =>
    by_cases hs : s = []
    · rw [if_pos hs]
    · rw [if_neg hs]
      refine if_pos ⟨rfl, ?_⟩
      cases he : endsWithCrlf s with
      | false => rfl
      | true =>
        obtain ⟨l, hl⟩ := (endsWithCrlf_iff s).mp he
        have := splitCrlf_isSome_of_crlf l []
        rw [hl, h] at this
        cases this

theorem nextTerminatedLine_ext {s l r : Bytes} (q : Bytes) (h : nextTerminatedLine s = some (l, r)) :
    Shorter r s ∧ nextTerminatedLine (s ++ q) = some (l, r ++ q) := by
  rw [nextTerminatedLine_eq] at h ⊢
  exact ⟨splitCrlf_shorter h, splitCrlf_append q h⟩

/-- `R'` is an answer on `s ++ q` that agrees with the answer `R` on `s` -/
def LineRes.Ext (s q : Bytes) : LineRes → LineRes → Prop
  | .more, _ => True
  | .error, R' => R' = .error
  | .line n v r, R' => Shorter r s ∧ R' = .line n v (r ++ q)

theorem LineRes.Ext.mono {s t q : Bytes} {R R' : LineRes} (h : R.Ext s q R') (hst : s <:+ t) : R.Ext t q R' := by
  cases R with
  | more => trivial
  | error => exact h
  | line n v r => exact ⟨h.1.trans_suffix hst, h.2⟩

theorem ite_rel {α β : Sort _} {P : α → β → Prop} {c : Prop} [Decidable c] {a b : α} {a' b' : β}
    (ht : c → P a a') (he : ¬ c → P b b') : P (if c then a else b) (if c then a' else b') := by
  by_cases hc : c
  · rw [if_pos hc, if_pos hc]
    exact ht hc
  · rw [if_neg hc, if_neg hc]
    exact he hc

theorem lineEnd_ext (n v r q : Bytes) : (lineEnd n v r).Ext r q (lineEnd n v (r ++ q)) := by
  unfold lineEnd
  cases r with
  | nil => trivial
  | cons c r1 =>
    apply ite_rel (P := LineRes.Ext _ q)
    · intro _
      cases r1 with
      | nil => trivial
      | cons d r2 =>
        apply ite_rel (P := LineRes.Ext _ q)
        · exact fun _ => ⟨shorter_cons₂ c d r2, rfl⟩
        · exact fun _ => rfl
    · intro _
      apply ite_rel (P := LineRes.Ext _ q)
      · exact fun _ => ⟨shorter_cons c r1, rfl⟩
      · exact fun _ => rfl

theorem parseHeaderLine_ext (s q : Bytes) : (parseHeaderLine s).Ext s q (parseHeaderLine (s ++ q)) := by
  unfold parseHeaderLine
  cases h1 : s.dropWhile isNameTok with
  | nil => trivial
  | cons c r1 =>
    have hs := span_append_of_ne_nil (p := isNameTok) (s := s) q (by rw [h1]; exact List.cons_ne_nil _ _)
    have hd1 : (c :: r1) <:+ s := h1 ▸ List.dropWhile_suffix _
    rw [hs.1, hs.2, h1]
    simp only [List.cons_append]
    apply ite_rel (P := LineRes.Ext _ q)
    · exact fun _ => rfl
    · intro _
      cases h2 : r1.dropWhile isSpTab with
      | nil => trivial
      | cons b r3 =>
        have hs2 := span_append_of_ne_nil (p := isSpTab) (s := r1) q (by rw [h2]; exact List.cons_ne_nil _ _)
        have hbs : (b :: r3) <:+ s := (h2 ▸ List.dropWhile_suffix _).trans ((List.suffix_cons c r1).trans hd1)
        rw [hs2.1, h2]
        simp only [List.cons_append]
        apply ite_rel (P := LineRes.Ext _ q)
        · intro _
          by_cases h3 : (b :: r3).dropWhile isValTok = []
          · rw [h3]
            trivial
          · have hs3 := span_append_of_ne_nil (p := isValTok) (s := b :: r3) q h3
            rw [← List.cons_append, hs3.1, hs3.2]
            exact (lineEnd_ext _ _ _ q).mono ((List.dropWhile_suffix _).trans hbs)
        · intro _
          apply ite_rel (P := LineRes.Ext _ q)
          · exact fun _ => (lineEnd_ext _ _ (b :: r3) q).mono hbs
          · exact fun _ => rfl

def HStep.Ext (s q : Bytes) : HStep → HStep → Prop
  | .more, _ => True
  | .error, R' => R' = .error
  | .complete r, R' => Shorter r s ∧ R' = .complete (r ++ q)
  | .line n v r, R' => Shorter r s ∧ R' = .line n v (r ++ q)

theorem headerStep_ext (s q : Bytes) : (headerStep s).Ext s q (headerStep (s ++ q)) := by
  unfold headerStep
  cases s with
  | nil => trivial
  | cons b r =>
    apply ite_rel (P := HStep.Ext _ q)
    · intro _
      cases r with
      | nil => trivial
      | cons d r2 =>
        apply ite_rel (P := HStep.Ext _ q)
        · exact fun _ => ⟨shorter_cons₂ b d r2, rfl⟩
        · exact fun _ => rfl
    · intro _
      apply ite_rel (P := HStep.Ext _ q)
      · exact fun _ => ⟨shorter_cons b r, rfl⟩
      · intro _
        apply ite_rel (P := HStep.Ext _ q)
        · exact fun _ => rfl
        · intro _
          match parseHeaderLine (b :: r), parseHeaderLine_ext (b :: r) q with
          | .more, _ => trivial
          | .error, hl => rw [hl]; rfl
          | .line n v rest, hl => rw [hl.2]; exact ⟨hl.1, rfl⟩

def HRes.Ext (s q : Bytes) : HRes → HRes → Prop
  | .more, _ => True
  | .error, R' => R' = .error
  | .complete r h, R' => Shorter r s ∧ R' = .complete (r ++ q) h

theorem parseHeadersN_eq (slots : Nat) (s : Bytes) (acc : List (Bytes × Bytes)) :
    parseHeadersN slots s acc = match headerStep s with
      | .more => .more
      | .error => .error
      | .complete r => .complete r acc
      | .line n v rest =>
        match slots with
        | 0 => .error
        | k + 1 => parseHeadersN k rest (acc ++ [(n, v)]) := by
  conv => lhs; unfold parseHeadersN
  cases headerStep s <;> cases slots <;> rfl

theorem HRes.Ext.mono {s t q : Bytes} {R R' : HRes} (h : R.Ext s q R') (hst : s <:+ t) : R.Ext t q R' := by
  cases R with
  | more => trivial
  | error => exact h
  | complete r hd => exact ⟨h.1.trans_suffix hst, h.2⟩

theorem parseHeadersN_ext (q : Bytes) : ∀ (slots : Nat) (s : Bytes) (acc : List (Bytes × Bytes)),
    (parseHeadersN slots s acc).Ext s q (parseHeadersN slots (s ++ q) acc)
  | slots, s, acc => by
    rw [parseHeadersN_eq slots s, parseHeadersN_eq slots (s ++ q)]
    match headerStep s, headerStep_ext s q with
    | .more, _ => trivial
    | .error, hst => rw [hst]; rfl
    | .complete r, hst => rw [hst.2]; exact ⟨hst.1, rfl⟩
    | .line n v rest, hst =>
      rw [hst.2]
      match slots with
      | 0 => rfl
      | k + 1 => exact (parseHeadersN_ext q k rest _).mono hst.1.1

theorem parseHeaders_ext (s q : Bytes) : (parseHeaders s).Ext s q (parseHeaders (s ++ q)) :=
  parseHeadersN_ext q 2 s []

theorem parseHeaders_shorter {s r : Bytes} {hdrs : List (Bytes × Bytes)} (h : parseHeaders s = .complete r hdrs) :
    Shorter r s := by
  have := parseHeaders_ext s []
  rw [h] at this
  exact this.1

/-- what `split_to` computes, seen from the cursor `s`: `a` is the run of whole lines (each with its CRLF)
    in front of the first line equal to `pat`, `r` what follows that line. The last piece of the slice
    counts as a line even without CRLF (`last`). -/
inductive SplitAt (pat : Bytes) : Bytes → Bytes → Bytes → Prop
  | crlf {s r : Bytes} : splitCrlf s = some (pat, r) → SplitAt pat s [] r
  | last : splitCrlf pat = none → pat ≠ [] → SplitAt pat pat [] []
  | skip {s l r0 a r : Bytes} : splitCrlf s = some (l, r0) → l ≠ pat → SplitAt pat r0 a r →
      SplitAt pat s (l ++ 13 :: 10 :: a) r

theorem take_min_left (pre x : Bytes) : (pre ++ x).take (min pre.length (pre ++ x).length) = pre := by
  rw [List.length_append, Nat.min_eq_left (Nat.le_add_right _ _), List.take_left' rfl]

/-- one round of `split_to`'s loop, with `next_line` spelt out -/
theorem splitToLoop_succ (pat self : Bytes) (fuel : Nat) (lines : Bytes) (len : Nat) :
    splitToLoop pat self (fuel + 1) lines len =
      match splitCrlf lines with
      | some (l, r) =>
        if l = pat then some (self.take (min len self.length), r)
        else splitToLoop pat self fuel r (len + l.length + 2)
      | none => if lines = pat ∧ lines ≠ [] then some (self.take (min len self.length), []) else none := by
  rw [splitToLoop, nextLine]
  cases splitCrlf lines with
  | some x => rfl
  | none =>
    by_cases hl : lines = []
    · rw [if_pos hl, if_neg fun h => h.2 hl]
    · rw [if_neg hl]
      by_cases hp : lines = pat
      · simp only [if_pos hp, if_pos (And.intro hp hl)]
      · simp only [if_neg hp, if_neg fun h : lines = pat ∧ lines ≠ [] => hp h.1]
        cases fuel with
        | zero => rfl
        | succ n => rfl

/-- the cursor and the counter after a line that is not the pattern -/
theorem skip_line {s l r0 : Bytes} (pre : Bytes) (hs : splitCrlf s = some (l, r0)) :
    pre ++ s = (pre ++ l ++ [13, 10]) ++ r0 ∧ pre.length + l.length + 2 = (pre ++ l ++ [13, 10]).length := by
  rw [splitCrlf_eq_some hs]
  simp [Nat.add_assoc]

/-- the invariant of the loop: `self = pre ++ lines` and `len = pre.length`, `pre` being what the cursor has passed -/
theorem SplitAt.of_loop (pat : Bytes) : ∀ (fuel : Nat) (lines pre ans r : Bytes),
    splitToLoop pat (pre ++ lines) fuel lines pre.length = some (ans, r) →
    ∃ a, ans = pre ++ a ∧ SplitAt pat lines a r := by
  intro fuel
  induction fuel with
  | zero => intro lines pre ans r h; cases h
  | succ n ih =>
    intro lines pre ans r h
    rw [splitToLoop_succ, take_min_left] at h
    cases hs : splitCrlf lines with
    | some x =>
      obtain ⟨l, r0⟩ := x
      rw [hs] at h
      simp only at h
      by_cases hl : l = pat
      · rw [if_pos hl] at h
        cases h
        exact ⟨[], (List.append_nil _).symm, .crlf (hl ▸ hs)⟩
      · rw [if_neg hl, (skip_line pre hs).1, (skip_line pre hs).2] at h
        obtain ⟨a, ha, hsp⟩ := ih r0 _ ans r h
        exact ⟨l ++ 13 :: 10 :: a, by rw [ha, List.append_assoc, List.append_assoc]; rfl, .skip hs hl hsp⟩
    | none =>
      rw [hs] at h
      simp only at h
      by_cases hl : lines = pat ∧ lines ≠ []
      · rw [if_pos hl] at h
        cases h
        obtain ⟨rfl, hne⟩ := hl
        exact ⟨[], (List.append_nil _).symm, .last hs hne⟩
      · rw [if_neg hl] at h
        cases h

theorem SplitAt.loop {pat lines a r : Bytes} (h : SplitAt pat lines a r) : ∀ (fuel : Nat) (pre : Bytes),
    lines.length ≤ fuel → splitToLoop pat (pre ++ lines) (fuel + 1) lines pre.length = some (pre ++ a, r) := by
  induction h with
  | crlf hs =>
    intro fuel pre _
    rw [splitToLoop_succ, hs, take_min_left, List.append_nil]
    exact if_pos rfl
  | last hs hne =>
    intro fuel pre _
    rw [splitToLoop_succ, hs, take_min_left, List.append_nil]
    exact if_pos ⟨rfl, hne⟩
  | @skip s l r0 a r hs hl _ ih =>
    intro fuel pre hf
    have hr0 := (splitCrlf_shorter hs).2
    obtain ⟨m, rfl⟩ : ∃ m, fuel = m + 1 := ⟨fuel - 1, by omega⟩
    rw [splitToLoop_succ, hs]
    simp only
    rw [if_neg hl, (skip_line pre hs).1, (skip_line pre hs).2, ih m _ (by omega), List.append_assoc, List.append_assoc]
    rfl

theorem splitToLoop_eq_some_iff {pat s ans r : Bytes} {fuel : Nat} (hf : s.length ≤ fuel) :
    splitToLoop pat s (fuel + 1) s 0 = some (ans, r) ↔ SplitAt pat s ans r := by
  constructor
  · intro h
    obtain ⟨a, rfl, hsp⟩ := SplitAt.of_loop pat _ s [] ans r h
    exact hsp
  · exact fun h => h.loop fuel [] hf

theorem splitTo_eq_some_iff {pat s ans r : Bytes} : splitTo pat s = some (ans, r) ↔ SplitAt pat s ans r :=
  splitToLoop_eq_some_iff (Nat.le_refl _)

theorem splitToLoop_fuel (pat s : Bytes) {n : Nat} (h : s.length < n) : splitToLoop pat s n s 0 = splitTo pat s := by
  obtain ⟨m, rfl⟩ : ∃ m, n = m + 1 := ⟨n - 1, by omega⟩
  apply Option.ext
  intro (ans, r)
  rw [splitToLoop_eq_some_iff (Nat.le_of_lt_succ h), splitTo_eq_some_iff]

theorem SplitAt.shorter {pat s a r : Bytes} (h : SplitAt pat s a r) : Shorter r s := by
  induction h with
  | crlf hs => exact splitCrlf_shorter hs
  | last _ hne => exact ⟨List.nil_suffix, List.length_pos_iff.mpr hne⟩
  | skip hs _ _ ih => exact ih.trans (splitCrlf_shorter hs)

/-- `split_to` on an extension of the slice, unless the match was the unterminated last piece -/
theorem SplitAt.append {pat s a r : Bytes} (q : Bytes) (h : SplitAt pat s a r) (hgood : r ≠ [] ∨ ¬ pat <:+ s) :
    SplitAt pat (s ++ q) a (r ++ q) := by
  induction h with
  | crlf hs => exact .crlf (splitCrlf_append q hs)
  | last _ _ =>
    rcases hgood with h | h
    · exact absurd rfl h
    · exact absurd List.suffix_rfl h
  | skip hs hl _ ih =>
    exact .skip (splitCrlf_append q hs) hl (ih (hgood.imp_right fun h h' => h (h'.trans (splitCrlf_shorter hs).1)))

/-- what `split_to` hands back is a run of whole lines -/
theorem SplitAt.ans_lines {pat s a r : Bytes} (h : SplitAt pat s a r) : a = [] ∨ [13, 10] <:+ a := by
  induction h with
  | crlf _ => exact .inl rfl
  | last _ _ => exact .inl rfl
  | @skip _ l _ a0 _ _ _ _ ih =>
    refine .inr (ih.elim (fun h0 => ⟨l, by rw [h0]⟩) fun h1 => h1.trans ⟨l ++ [13, 10], by simp⟩)

/-- on a longer slice the answer only grows, by nothing or by at least a CRLF -/
theorem SplitAt.ans_ext {pat s q a r : Bytes} (h : SplitAt pat s a r) : ∀ {a' r' : Bytes}, SplitAt pat (s ++ q) a' r' →
    ∃ y, a' = a ++ y ∧ (y = [] ∨ 2 ≤ y.length) := by
  induction h with
  | crlf hs =>
    intro a' r' h'
    have hs' := splitCrlf_append q hs
    generalize s ++ q = t at h' hs'
    cases h' with
    | crlf _ => exact ⟨[], rfl, .inl rfl⟩
    | last hn _ => rw [hn] at hs'; cases hs'
    | skip hs2 hl2 _ => rw [hs2] at hs'; cases hs'; exact absurd rfl hl2
  | last _ _ => exact fun h' => ⟨_, rfl, h'.ans_lines.imp_right fun h => h.length_le⟩
  | @skip s l r0 a r hs hl _ ih =>
    intro a' r' h'
    have hs' := splitCrlf_append q hs
    generalize ht : s ++ q = t at h' hs'
    cases h' with
    | crlf hs2 => rw [hs2] at hs'; cases hs'; exact absurd rfl hl
    | last hn _ => rw [hn] at hs'; cases hs'
    | skip hs2 hl2 hsp2 =>
      rw [hs2] at hs'
      cases hs'
      obtain ⟨y, rfl, hy⟩ := ih hsp2
      exact ⟨y, by simp, hy⟩

end S3V.Multipart
