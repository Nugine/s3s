import S3V.Thm.XmlStrict
import S3V.Thm.XmlToken
import S3V.Spec.Xml
import S3V.Thm.ListLemmas
/-!
# C13 — what an accepted document is made of: comments, character data, processing instructions, attribute lists

* Comments (XML 1.0 production [15]). `Deserializer::new` switches quick-xml's `Config::check_comments` on (since the
  repair of `xml-illformed-accepted:comment`): the model's `markup` answers a reader error for a comment whose text
  holds `--` or ends with `-`. Whenever `markup` hands out a comment event, the input is `!--` body `-->` with a body
  that production [15] allows (`markup_comment`).
* No text event `read_event` hands out holds `]]>` (production [14]; `deEventsAt_text_clean`).
* A token at which `read_event` fails (`QEv.stopsRun`) ends every run with an error event, so an accepted document
  has none (`deEventsAt_stops`, `decodeDoc_named_no_stop`).
* Hence every processing instruction of an accepted document has a legal target (`PiBody`, productions [16], [17]) and
  every start tag a well-formed attribute list (`AttrList`, production [41]).
-/
namespace S3V.Xml

/-- [15] Comment ::= '<!--' ((Char - '-') | ('-' (Char - '-')))* '-->': the body between `<!--` and `-->` holds no
`--` and does not end with `-` (so the closing `-->` is the first `--` after the opening) -/
def CommentBody (c : Bytes) : Prop := (∀ p s : Bytes, c ≠ p ++ 45 :: 45 :: s) ∧ c.getLast? ≠ some 45

theorem dashDash_false (l : Bytes) (h : dashDash l = false) : ∀ p s : Bytes, l ≠ p ++ 45 :: 45 :: s := by
  fun_induction dashDash l with
  | case1 => cases h
  | case2 a r hne ih =>
    intro p s heq
    cases p with
    | nil =>
      obtain ⟨rfl, rfl⟩ := List.cons.inj heq
      exact hne _ rfl rfl
    | cons x p' => exact ih h p' s (List.cons.inj heq).2
  | case3 =>
    intro p s heq
    cases p <;> cases heq

theorem bangEnd_some (ok : Bytes → Bool) : ∀ (inp seen buf rest : Bytes), bangEnd ok seen inp = some (buf, rest) →
    ∃ mid, buf = seen.reverse ++ mid ∧ inp = mid ++ cGt :: rest ∧ ok (mid.reverse ++ seen) = true
  | [], _, _, _, h => by simp [bangEnd] at h
  | b :: bs, seen, buf, rest, h => by
    unfold bangEnd at h
    by_cases hc : (b = cGt && ok seen) = true
    · rw [if_pos hc] at h
      simp only [Option.some.injEq, Prod.mk.injEq] at h
      simp only [Bool.and_eq_true, decide_eq_true_eq] at hc
      refine ⟨[], by simp [h.1], by simp [hc.1, h.2], by simpa using hc.2⟩
    · rw [if_neg hc] at h
      obtain ⟨mid, h1, h2, h3⟩ := bangEnd_some ok bs (b :: seen) buf rest h
      refine ⟨b :: mid, by simp [h1], by simp [h2], by simpa using h3⟩

theorem comment_buf {buf : Bytes} (h1 : startsWith [33, 45, 45] buf = true) (hlen : buf.length > 4)
    (h2 : startsWith [45, 45] buf.reverse = true) :
    buf = [33, 45, 45] ++ (buf.drop 3).dropLast.dropLast ++ [45, 45] := by
  obtain ⟨t, rfl⟩ := (startsWith_iff _ _).mp h1
  obtain ⟨u, hu⟩ := (startsWith_iff _ _).mp h2
  have hb : [33, 45, 45] ++ t = u.reverse ++ [45, 45] := by simpa using congrArg List.reverse hu
  -- `t` is longer than `--`, so the `--` at the end of the buffer is the end of `t`
  obtain ⟨a, rfl⟩ : ∃ a, t = a ++ [45, 45] := by
    rcases List.append_eq_append_iff.mp hb with ⟨a, _, ha⟩ | ⟨c, _, hc⟩
    · exact ⟨a, ha⟩
    · have hl := congrArg List.length hc
      simp only [List.length_append, List.length_cons, List.length_nil] at hl hlen
      have : c = [] := List.eq_nil_of_length_eq_zero (by omega)
      exact ⟨[], by rw [this] at hc; exact hc.symm⟩
  have hd : (a ++ [45, 45]).dropLast.dropLast = a := by
    rw [show a ++ [45, 45] = (a ++ [45]) ++ [45] by simp, List.dropLast_concat, List.dropLast_concat]
  show [33, 45, 45] ++ (a ++ [45, 45]) = [33, 45, 45] ++ (a ++ [45, 45]).dropLast.dropLast ++ [45, 45]
  rw [hd, List.append_assoc]

/-- a search that closes a branch of `markup` handing out something else than a comment; `markup_comment` below does not
call it: it puts the conditions of each path in and lets `h` equate different constructors -/
macro "no_comment" h:ident : tactic =>
  `(tactic| (repeat' (first | (simp at $h:ident; done) | ((try dsimp only at $h:ident); split at $h:ident))))

/-- **every comment event is a well-formed comment**: when `markup` (the reader after a `<`, on any input and stack)
hands out a comment, the input is `!--` body `-->` followed by the rest, the body satisfies production [15], and the
stack of open elements is unchanged. Any other text after `<!--` makes the reader fail. -/
theorem markup_comment {inp : Bytes} {stack stack' : List Bytes} {rest : Bytes}
    (h : markup inp stack = some (.comment, rest, stack')) :
    ∃ c, inp = [33, 45, 45] ++ c ++ [45, 45, 62] ++ rest ∧ CommentBody c ∧ stack' = stack := by
  revert h
  fun_cases markup inp stack <;> intro h
  -- on every path of `markup` but one the answer is no event or another event: with the conditions of the path put in,
  -- `h` equates different constructors
  all_goals simp only [*, reduceCtorEq, Option.some.injEq, Prod.mk.injEq, false_and, true_and, if_true, if_false] at h
  next tail _ buf rest' hstart hdd _ hb =>
    -- the path of `<!-`, the scan found `-->`, the buffer begins with `!--`, the text holds no `--`
    obtain ⟨rfl, rfl⟩ := h
    obtain ⟨mid, h1, h2, h3⟩ := bangEnd_some _ _ _ _ _ hb
    simp only [List.reverse_nil, List.nil_append, List.append_nil, Bool.and_eq_true, decide_eq_true_eq,
      List.length_reverse] at h1 h3
    subst h1
    have hbuf := comment_buf hstart h3.1 h3.2
    have hno := dashDash_false _ (by simpa using hdd)
    refine ⟨(buf.drop 3).dropLast.dropLast, ?_, ⟨?_, ?_⟩, rfl⟩
    · rw [h2]
      conv => lhs; rw [hbuf]
      simp [cGt]
    · intro p s heq
      exact hno p (s ++ [45]) (by rw [heq]; simp)
    · intro hl
      obtain ⟨c', hc'⟩ := List.getLast?_eq_some_iff.mp hl
      exact hno c' [] (by rw [hc']; simp)
  -- left: an end tag and `<?…?>`, whose answer is an `if` between two events other than a comment
  all_goals (split at h <;> simp at h)

/-! ### `]]>` in character data (XML 1.0 production [14]) -/

theorem hasCdataEnd_eq : ∀ (raw : Bytes), hasCdataEnd raw = XmlSpec.containsSub [93, 93, 62] raw
  | [] => by simp [hasCdataEnd, XmlSpec.containsSub]
  | b :: bs => by simp [hasCdataEnd, XmlSpec.containsSub, startsWith, hasCdataEnd_eq bs]

/-- **no text event the deserialiser is handed holds `]]>`** — for every token sequence and every depth, whether the
text is read as the content of a scalar or skipped between elements -/
theorem deEventsAt_text_clean (q : List QEv) (d : Nat) (raw : Bytes) (h : Ev.text raw ∈ deEventsAt d q) :
    XmlSpec.containsSub [93, 93, 62] raw = false := by
  rw [← hasCdataEnd_eq]
  revert h
  refine deEventsAt_induct (P := fun _ evs => Ev.text raw ∈ evs → hasCdataEnd raw = false) (fun _ h => nomatch h)
    (fun _ _ h => by simp at h) ?_ q d
  intro d evs d' rest hem ih h
  cases hem with
  | text _ hce =>
    rcases List.mem_cons.mp h with h | h
    · cases h; exact hce
    · exact ih h
  | _ => exact ih (by simpa using h)

/-! ### a reader error and a refused processing instruction end every run -/

theorem deEventsAt_stops : ∀ (q : List QEv) (d : Nat), q.any QEv.stopsRun = true → ∃ l e, deEventsAt d q = l ++ [.bad e]
  | [], _, h => by simp at h
  | t :: q, d, h => by
    rcases deEventsAt_cons d t q with ⟨e, he⟩ | ⟨evs, d', -, hns, he⟩
    · exact ⟨[], e, he⟩
    · obtain ⟨l, e, hl⟩ := deEventsAt_stops q d' (by simpa [hns] using h)
      exact ⟨evs ++ l, e, by rw [he, hl, List.append_assoc]⟩

theorem deEventsAt_err (q : List QEv) (d : Nat) (h : QEv.err ∈ q) : ∃ l e, deEventsAt d q = l ++ [.bad e] :=
  deEventsAt_stops q d (List.any_eq_true.mpr ⟨.err, h, rfl⟩)

/-- **an accepted document has no token at which `read_event` fails**: such a token makes an error event the last
event, but the last event of an accepted document is the end tag of the root or character data behind it -/
theorem decodeDoc_named_no_stop (X : Ext) {root : Bytes} {s : Sch} {q : List QEv} {v : Val}
    (h : decodeDoc X (.named root) s (deEvents q) = .ok v) : q.any QEv.stopsRun = false := by
  cases hs : q.any QEv.stopsRun with
  | false => rfl
  | true =>
    obtain ⟨l, e, hl⟩ := deEventsAt_stops q 0 hs
    obtain ⟨pre, a, body, post, mid, tail, he, _, hd, hm, _, ht⟩ := decodeDoc_named_clean X (deEventsAt_topClean q 0) h
    obtain ⟨c, hc, _⟩ := decode_consumes X s a body v post hd
    have hmem : Ev.bad e ∈ Ev.stop root :: tail := by
      apply List.mem_of_getLast?
      have : (deEventsAt 0 q).getLast? = some (.bad e) := by rw [hl, List.getLast?_concat]
      rw [show deEventsAt 0 q = (pre ++ .start root a :: c ++ mid) ++ .stop root :: tail by
        rw [he, hc, hm]; simp, List.getLast?_append] at this
      cases hg : (Ev.stop root :: tail).getLast? with
      | none => simp at hg
      | some z => rw [hg] at this; exact this
    rcases List.mem_cons.mp hmem with h1 | h1
    · cases h1
    · exact absurd (List.all_eq_true.mp ht _ h1) (by simp [Ev.isWsText])

theorem decodeDoc_named_token (X : Ext) {root : Bytes} {s : Sch} {q : List QEv} {v : Val}
    (h : decodeDoc X (.named root) s (deEvents q) = .ok v) {t : QEv} (ht : t ∈ q) : t.stopsRun = false := by
  have := decodeDoc_named_no_stop X h
  rw [List.any_eq_false] at this
  simpa using this t ht

/-- **an accepted document has no reader error anywhere**: every `<` of it opened a construct the tokeniser took -/
theorem decodeDoc_named_no_err (X : Ext) {root : Bytes} {s : Sch} {q : List QEv} {v : Val}
    (h : decodeDoc X (.named root) s (deEvents q) = .ok v) : QEv.err ∉ q :=
  fun herr => Bool.noConfusion (decodeDoc_named_token X h herr)

/-! ### processing instructions (XML 1.0 productions [16], [17]) -/

/-- [16] PI, on the text between `<?` and `?>`: a target that is a Name — the specification's `XmlSpec.isName` —
other than `xml` in any case, then nothing or white space and the rest -/
def PiBody (c : Bytes) : Prop :=
  ∃ target rest, c = target ++ rest ∧ XmlSpec.isName target = true ∧
    (rest = [] ∨ ∃ w r, rest = w :: r ∧ XmlSpec.isS w = true) ∧
    target.map XmlSpec.lowerAscii ≠ [120, 109, 108]

theorem isXmlName_eq (t : Bytes) : isXmlName t = XmlSpec.isName t := by
  cases t with
  | nil => rfl
  | cons c cs => rfl

theorem toLowerAscii_eq (b : UInt8) : toLowerAscii b = XmlSpec.lowerAscii b := by
  simp [toLowerAscii, XmlSpec.lowerAscii]

theorem isWs_eq_isS (b : UInt8) : isWs b = XmlSpec.isS b := by
  simp only [isWs, XmlSpec.isS]
  ac_rfl

theorem piTargetOk_body {c : Bytes} (h : piTargetOk c = true) : PiBody c := by
  simp only [piTargetOk, Bool.and_eq_true, Bool.not_eq_true', beq_eq_false_iff_ne, ne_eq] at h
  obtain ⟨hname, hxml⟩ := h
  refine ⟨nameOf c, c.dropWhile (fun b => !isWs b), ?_, ?_, ?_, ?_⟩
  · simp [nameOf, List.takeWhile_append_dropWhile]
  · rw [← isXmlName_eq]; exact hname
  · have hd := List.head?_dropWhile_not (fun b => !isWs b) c
    cases hr : c.dropWhile (fun b => !isWs b) with
    | nil => exact Or.inl rfl
    | cons w r =>
      refine Or.inr ⟨w, r, rfl, ?_⟩
      rw [hr] at hd
      simp only [List.head?_cons, Bool.not_eq_false'] at hd
      rw [← isWs_eq_isS]; simpa using hd
  · intro heq
    apply hxml
    rw [← heq]
    exact List.map_congr_left (fun b _ => toLowerAscii_eq b)

theorem decodeDoc_named_pi (X : Ext) {root : Bytes} {s : Sch} {q : List QEv} {v : Val}
    (h : decodeDoc X (.named root) s (deEvents q) = .ok v) {c : Bytes} (hc : QEv.pi c ∈ q) : PiBody c := by
  exact piTargetOk_body (by simpa [QEv.stopsRun] using decodeDoc_named_token X h hc)

/-! ### attributes (XML 1.0 production [41], constraint *Unique Att Spec*) -/

/-- the clause attribute-syntax on the bytes that follow the element name in a start tag: a sequence of
`S* key S* '=' S* q value q` — `q` one of the two quotes, `value` free of it, `key` not empty and free of white
space — whose keys are pairwise distinct (and not among `seen`), followed by white space only -/
inductive AttrList : List Bytes → Bytes → Prop
  | done (seen : List Bytes) (r : Bytes) : r.all isWs = true → AttrList seen r
  | step (seen : List Bytes) (w1 key w2 w3 val rest : Bytes) (q : UInt8) :
      w1.all isWs = true → key ≠ [] → (∀ c ∈ key, isWs c = false) → w2.all isWs = true → w3.all isWs = true →
      (q = cQuot ∨ q = cApos) → (∀ c ∈ val, c ≠ q) → key ∉ seen → AttrList (key :: seen) rest →
      AttrList seen (w1 ++ key ++ w2 ++ 61 :: w3 ++ q :: val ++ q :: rest)

theorem attrAfterEq_some {x v : Bytes} (h : attrAfterEq x = some v) (hx : ∀ c r, x = c :: r → c = 61 ∨ isWs c = true) :
    ∃ w2, x = w2 ++ 61 :: v ∧ w2.all isWs = true := by
  revert h
  -- the `=` at once, or behind white space
  fun_cases attrAfterEq x <;> intro h <;> cases h
  next => exact ⟨[], rfl, rfl⟩
  next c cs hc hd =>
    refine ⟨c :: cs.takeWhile isWs, ?_, ?_⟩
    · rw [List.cons_append, ← hd, List.takeWhile_append_dropWhile]
    · simp [(hx c cs rfl).resolve_left hc, List.all_takeWhile]

theorem attrQuoted_some {v val rest : Bytes} (h : attrQuoted v = some (val, rest)) :
    ∃ w3 q, v = w3 ++ q :: val ++ q :: rest ∧ w3.all isWs = true ∧ (q = cQuot ∨ q = cApos) ∧ ∀ c ∈ val, c ≠ q := by
  revert h
  -- the middle arm: white space, a quote, the value up to the same quote
  fun_cases attrQuoted v <;> intro h
  next => cases h
  next q v' hd hq =>
    obtain ⟨hv', hvq⟩ := splitAtByte_some q v' val rest h
    refine ⟨v.takeWhile isWs, q, ?_, List.all_takeWhile, by simpa using hq, hvq⟩
    rw [List.append_assoc, List.cons_append, ← hv', ← hd, List.takeWhile_append_dropWhile]
  next => cases h

/-- one step of quick-xml's attribute iterator that yields an attribute: what it consumed is
`S* key S* '=' S* q value q` -/
theorem attrNext_shape {b key val rest : Bytes} (h : attrNext b = some (some (key, val, rest))) :
    ∃ w1 w2 w3 q, b = w1 ++ key ++ w2 ++ 61 :: w3 ++ q :: val ++ q :: rest ∧ w1.all isWs = true ∧ key ≠ [] ∧
      (∀ c ∈ key, isWs c = false) ∧ w2.all isWs = true ∧ w3.all isWs = true ∧ (q = cQuot ∨ q = cApos) ∧
      (∀ c ∈ val, c ≠ q) := by
  have hb := (List.takeWhile_append_dropWhile (p := isWs) (l := b)).symm
  revert h
  fun_cases attrNext b <;> intro h <;> cases h
  next c0 t hd v hae haq =>
  have hhead : isWs c0 = false := dropWhile_head_false hd
  rw [hd] at hb
  have hdrop : t.drop (attrKeyTail t).length = t.dropWhile (fun c => !(c = 61 || isWs c)) :=
    drop_takeWhile_length _ t
  obtain ⟨w2, hx, hw2⟩ := attrAfterEq_some hae (by
    intro c r hcr
    rw [hdrop] at hcr
    have := dropWhile_head_false hcr
    have h2 : ¬ c = 61 → isWs c = true := by simpa using this
    by_cases h61 : c = 61
    · exact Or.inl h61
    · exact Or.inr (h2 h61))
  obtain ⟨w3, q, hv, hw3, hq, hvq⟩ := attrQuoted_some haq
  have ht : t = attrKeyTail t ++ t.drop (attrKeyTail t).length := by
    rw [hdrop]; exact (List.takeWhile_append_dropWhile).symm
  refine ⟨b.takeWhile isWs, w2, w3, q, ?_, List.all_takeWhile, by simp, ?_, hw2, hw3, hq, hvq⟩
  · conv => lhs; rw [hb, ht, hx, hv]
    simp
  · intro d hd'
    rcases List.mem_cons.mp hd' with hd' | hd'
    · subst hd'; exact hhead
    · have := List.all_eq_true.mp List.all_takeWhile d hd'
      simp only [Bool.not_eq_true', Bool.or_eq_false_iff] at this
      exact this.2

theorem attrNext_none {b : Bytes} (h : attrNext b = none) : b.all isWs = true := by
  revert h
  fun_cases attrNext b <;> intro h <;> cases h
  next hd =>
  have hb := (List.takeWhile_append_dropWhile (p := isWs) (l := b)).symm
  rw [hd, List.append_nil] at hb
  rw [hb]
  exact List.all_takeWhile

/-- `check_attributes` passed: the bytes after the element name are a well-formed attribute list -/
theorem attrsOk_attrList (fuel : Nat) (b : Bytes) (seen : List Bytes) (hf : b.length < fuel)
    (h : attrsOk fuel b seen = true) : AttrList seen b := by
  revert hf h
  fun_induction attrsOk fuel b seen <;> intro hf h
  -- out of fuel: never; no further attribute; an error or a key seen before: refused; an attribute, and on behind it
  next => cases hf
  next hn => exact AttrList.done _ _ (attrNext_none hn)
  next => cases h
  next => cases h
  next fuel b seen key val rest hn hs ih =>
    obtain ⟨w1, w2, w3, q, hb, hw1, hk, hkw, hw2, hw3, hq, hv⟩ := attrNext_shape hn
    have hlen : rest.length < fuel := by
      have : b.length = (w1 ++ key ++ w2 ++ 61 :: w3 ++ q :: val ++ q :: rest).length := by rw [← hb]
      simp only [List.length_append, List.length_cons] at this
      omega
    rw [hb]
    exact AttrList.step seen w1 key w2 w3 val rest q hw1 hk hkw hw2 hw3 hq hv (by simpa using hs) (ih hlen h)

theorem decodeDoc_named_attrs (X : Ext) {root : Bytes} {s : Sch} {q : List QEv} {v : Val}
    (h : decodeDoc X (.named root) s (deEvents q) = .ok v) {n r : Bytes} (hc : QEv.start n r ∈ q ∨ QEv.empty n r ∈ q) :
    AttrList [] r := by
  have hok : startOk r = true := by
    rcases hc with hc | hc <;> simpa [QEv.stopsRun] using decodeDoc_named_token X h hc
  exact attrsOk_attrList _ r [] (by omega) hok

end S3V.Xml
