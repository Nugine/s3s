import S3V.Model.Xml
import S3V.Thm.ListLemmas
/-!
Well-formed schemas of the generic XML codec (`Sch.wf`): the member tags of a struct and the variant tags of a union are
pairwise distinct, and a member bound to an attribute has a name the attribute iterator reads back. A `Bool`, which the
kernel evaluates on the generated tables.
-/
namespace S3V.Xml

def Flds.tags : Flds → List Bytes
  | .nil => []
  | .cons t _ _ _ r => t :: r.tags

def Vars.tags : Vars → List Bytes
  | .nil => []
  | .cons t _ r => t :: r.tags

/-- the names of the members that are child elements: the arms of the `match x { … }` of a struct deserialiser
(a member bound to an attribute has no arm) -/
def Flds.elemTags : Flds → List Bytes
  | .nil => []
  | .cons t _ sh _ r => (match sh with | .attr => [] | _ => [t]) ++ r.elemTags

theorem Flds.mem_tags_of_mem_elemTags {n : Bytes} : ∀ {fs : Flds}, n ∈ fs.elemTags → n ∈ fs.tags
  | .cons _ _ sh _ _, h => by
    rcases List.mem_append.mp h with h | h
    · cases sh <;> simp_all [Flds.tags]
    · exact List.mem_cons_of_mem _ (mem_tags_of_mem_elemTags h)

/-- `xmlns`: the attribute `content_with_ns` writes in front of the attributes of a root -/
def xmlnsKey : Bytes := [120, 109, 108, 110, 115]

/-- an attribute name that quick-xml's attribute iterator reads back as it was written — not empty, no `=`, no white
space — and that is not the name of a namespace declaration written next to it (`xmlns:xsi`, `xmlns`) -/
def attrKeyOk (k : Bytes) : Bool :=
  !k.isEmpty && k.all (fun c => !(c = 61 || isWs c)) && k != xmlnsXsiKey && k != xmlnsKey

/-- pairwise distinct, as a Bool that reduces in the kernel -/
def distinct : List Bytes → Bool
  | [] => true
  | t :: r => !r.contains t && distinct r

theorem distinct_eq_nodupB : ∀ l : List Bytes, distinct l = nodupB l
  | [] => rfl
  | t :: r => by rw [distinct, nodupB, distinct_eq_nodupB r]

mutual
  /-- the member tags of every struct and the variant tags of every union are pairwise distinct
  (otherwise the `match x { b"A" => …, b"A" => … }` of the deserialiser would shadow a member, or two members would
  be bound to one attribute), and the name of a member bound to an attribute is a plain attribute name -/
  def Sch.wf : Sch → Bool
    | .struct fs => distinct fs.tags && fs.wf
    | .union vs => distinct vs.tags && vs.wf
    | _ => true
  def Flds.wf : Flds → Bool
    | .nil => true
    | .cons t _ sh s r => s.wf && (r.wf && (match sh with | .attr => attrKeyOk t | _ => true))
  def Vars.wf : Vars → Bool
    | .nil => true
    | .cons _ s r => s.wf && r.wf
end

/-- `s.wf = true` as a proposition: the spelling of the property theorems (the lemma files write `s.wf = true`) -/
def WfSch (s : Sch) : Prop := s.wf = true

instance (s : Sch) : Decidable (WfSch s) := inferInstanceAs (Decidable (s.wf = true))

end S3V.Xml
