import S3V.Model.ErrorDoc
import S3V.Spec.ErrorDoc
import S3V.Thm.BytesText
/-!
# Lemmas for C04: the independent reader reads back what the model of `serialize_error` writes

The reader (`ErrorDocSpec`) shares nothing with the XML model of C13 (`S3V.Xml`, `Thm/XmlEscape.lean`), so that it can
judge it: its `unescape` is another function, with its own lemmas here. The proof follows `parseErrorDoc` phase by phase on
`bodyOf name e noDecl`: no carriage return, so line-end normalisation is the identity; the declaration is skipped; the
children loop reads one element per field; the three look-ups find what was escaped. `serializeError_some` gives the other
fields of the response; `headerValueByteOk_of_isDigit` is the one fact `fmt_content_length` needs. The generated code tables are
`Thm/ErrorTable.lean` (same namespace).
-/
namespace S3V.ErrorDocThm
open S3V S3V.Gen.Errors S3V.ErrorDoc S3V.ErrorDocSpec

theorem escByte_mem (c : UInt8) : ∀ b ∈ escByte c, b ≠ 60 ∧ b ≠ 13 := by
  fun_cases escByte c
  -- the six references are literals
  iterate 6 decide
  simp [*]

theorem escape_mem {s : Bytes} {b : UInt8} (hb : b ∈ escape s) : b ≠ 60 ∧ b ≠ 13 := by
  induction s with
  | nil => simp [escape] at hb
  | cons c r ih =>
    simp only [escape, List.mem_append] at hb
    rcases hb with hb | hb
    · exact escByte_mem c b hb
    · exact ih hb

theorem unescapeGo_escByte (c : UInt8) (t : Bytes) :
    unescapeGo (escByte c ++ t) none = (unescapeGo t none).map (c :: ·) := by
  fun_cases escByte c
  -- five entity references, the character reference for CR, a byte written as it is
  iterate 5 simp [unescapeGo, resolveEntity, *]
  · simp [unescapeGo, *, show resolveEntity [35, 49, 51] = some [13] by decide]
  · simp [unescapeGo, *]

/-- `unescape ∘ escape = id`, with any continuation: the small lemma the round trip rests on -/
theorem unescapeGo_escape (s t : Bytes) :
    unescapeGo (escape s ++ t) none = (unescapeGo t none).map (s ++ ·) := by
  induction s with
  | nil => simp [escape]
  | cons c r ih =>
    simp only [escape, List.append_assoc]
    rw [unescapeGo_escByte, ih]
    cases unescapeGo t none <;> simp

theorem unescape_escape (s : Bytes) : unescape (escape s) = some s := by
  have := unescapeGo_escape s []
  simpa [unescape, unescapeGo] using this

theorem textValue_escape {s : Bytes} (h : xmlText s = true) : textValue (escape s) = some s := by
  simp [textValue, unescape_escape, h]

theorem normalizeEolGo_id {s : Bytes} (h : (13 : UInt8) ∉ s) : normalizeEolGo s false = s := by
  induction s with
  | nil => rfl
  | cons c r ih =>
    have hc : c ≠ 13 := fun hc => h (by simp [hc])
    have hr : (13 : UInt8) ∉ r := fun hr => h (by simp [hr])
    simp [normalizeEolGo, hc, ih hr]

theorem stripPrefix_strips : StripsPrefix stripPrefix := ⟨fun _ => rfl, fun _ _ => rfl, fun _ _ _ _ => rfl⟩

/-! `stripPrefix` in the forms `simp` meets after it has flattened the literal prefixes (for `parseErrorDoc_bodyOf`) -/

@[simp] theorem stripPrefix_nil (s : Bytes) : stripPrefix [] s = some s := stripPrefix_strips.nil s

@[simp] theorem stripPrefix_cons_cons (a : UInt8) (p s : Bytes) : stripPrefix (a :: p) (a :: s) = stripPrefix p s :=
  stripPrefix_strips.append_append [a] p s

@[simp] theorem stripPrefix_append_append (p q s : Bytes) : stripPrefix (p ++ q) (p ++ s) = stripPrefix q s :=
  stripPrefix_strips.append_append p q s

@[simp] theorem stripPrefix_append (p s : Bytes) : stripPrefix p (p ++ s) = some s := stripPrefix_strips.append p s

theorem spanBytes_append {p : UInt8 → Bool} {a : Bytes} {c : UInt8} {r : Bytes}
    (ha : ∀ b ∈ a, p b = true) (hc : p c = false) : spanBytes p (a ++ c :: r) = (a, c :: r) := by
  induction a with
  | nil => simp [spanBytes, hc]
  | cons x a ih =>
    have hx : p x = true := ha x (by simp)
    have := ih (fun b hb => ha b (by simp [hb]))
    simp [spanBytes, hx, this]

theorem afterPiEnd_append {p r : Bytes} (hp : (63 : UInt8) ∉ p) :
    afterPiEnd (p ++ 63 :: 62 :: r) = some r := by
  induction p with
  | nil => simp [afterPiEnd]
  | cons c p ih =>
    have hc : c ≠ 63 := fun hc => hp (by simp [hc])
    have hr : (63 : UInt8) ∉ p := fun hr => hp (by simp [hr])
    simp [afterPiEnd, hc, ih hr]

theorem skipWs_open (r : Bytes) : skipWs (60 :: r) = 60 :: r := by
  simp [skipWs, isWs]

/-- a tag name the reader takes whole: it starts like a `Name` and consists of name bytes (`>`, which follows it, is none) -/
def goodName (n : Bytes) : Prop := isName n = true ∧ ∀ b ∈ n, isNameChar b = true

theorem readChild_element {name : Bytes} (hn : goodName name) (text rest : Bytes) :
    readChild (element name text ++ rest) = some (name, escape text, rest) := by
  obtain ⟨h1, h2⟩ := hn
  have hspan1 : spanBytes isNameChar (name ++ 62 :: (escape text ++ 60 :: 47 :: (name ++ 62 :: rest)))
      = (name, 62 :: (escape text ++ 60 :: 47 :: (name ++ 62 :: rest))) :=
    spanBytes_append h2 (by decide)
  have hspan2 : spanBytes (fun b => b != 60) (escape text ++ 60 :: 47 :: (name ++ 62 :: rest))
      = (escape text, 60 :: 47 :: (name ++ 62 :: rest)) :=
    spanBytes_append (fun b hb => by simpa using (escape_mem hb).1) (by decide)
  simp [readChild, element, hspan1, h1, hspan2]

/-! ## the children loop on what the model writes -/

/-- `</Error>` -/
def closing : Bytes := [60, 47] ++ tError ++ [62]

theorem goodName_head {n : Bytes} (hn : goodName n) : ∃ c r, n = c :: r ∧ isNameStart c = true := by
  obtain ⟨h1, _⟩ := hn
  cases n with
  | nil => simp [isName] at h1
  | cons c r => exact ⟨c, r, rfl, by simpa [isName] using h1⟩

theorem readChildren_element {n : Bytes} (hn : goodName n) (t rest : Bytes) (fuel : Nat) :
    readChildren (fuel + 1) (element n t ++ rest)
      = (readChildren fuel rest).map (fun kt => ((n, escape t) :: kt.1, kt.2)) := by
  obtain ⟨c, r, rfl, hc⟩ := goodName_head hn
  have hc47 : c ≠ 47 := by intro h; subst h; simp [isNameStart] at hc
  have hshape : element (c :: r) t ++ rest = 60 :: c :: (r ++ 62 :: (escape t ++ 60 :: 47 :: (c :: r ++ 62 :: rest))) := by
    simp [element]
  have hws : skipWs (element (c :: r) t ++ rest) = element (c :: r) t ++ rest := by
    rw [hshape]; exact skipWs_open _
  have hcl : startsWithClose (element (c :: r) t ++ rest) = false := by
    rw [hshape]; simp [startsWithClose, hc47]
  rw [readChildren, hws, hcl, readChild_element hn]
  cases hrc : readChildren fuel rest with
  | none => simp [hrc]
  | some kt => obtain ⟨k, tl⟩ := kt; simp [hrc]

theorem readChildren_closing (fuel : Nat) : readChildren (fuel + 1) closing = some ([], closing) := by
  have hshape : closing = 60 :: 47 :: (tError ++ [62]) := by simp [closing]
  rw [readChildren, hshape, skipWs_open]
  simp [startsWithClose]

/-- the children `serialize_error` writes, as the reader sees them -/
def kidsOf (name : Bytes) (msg rid : Option Bytes) : List (Bytes × Bytes) :=
  (tCode, escape name) :: ((msg.map fun m => (tMessage, escape m)).toList ++ (rid.map fun r => (tRequestId, escape r)).toList)

/-- fuel: one unit per child (at most three) and one for the closing tag -/
theorem readChildren_kids (name : Bytes) (msg rid : Option Bytes) (fuel : Nat) (hf : 4 ≤ fuel) :
    readChildren fuel (element tCode name ++ (optElement tMessage msg ++ (optElement tRequestId rid ++ closing)))
      = some (kidsOf name msg rid, closing) := by
  obtain ⟨f, rfl⟩ : ∃ f, fuel = f + 4 := ⟨fuel - 4, by omega⟩
  have hCode : goodName tCode := ⟨by decide, by decide⟩
  have hMessage : goodName tMessage := ⟨by decide, by decide⟩
  have hRequestId : goodName tRequestId := ⟨by decide, by decide⟩
  cases msg <;> cases rid <;>
    simp [optElement, kidsOf, readChildren_element hCode, readChildren_element hMessage,
      readChildren_element hRequestId, readChildren_closing]

/-- the body `serialize_error` writes for an error whose code is called `name` -/
def bodyOf (name : Bytes) (e : S3Error) (noDecl : Bool) : Bytes :=
  (if noDecl then [] else xmlDecl) ++ errorXml name e

/-- the response `serialize_error` gives, field by field -/
theorem serializeError_some {e : S3Error} {noDecl : Bool} {r : Response} (hr : serializeError e noDecl = some r) :
    ∃ name, asStr e.code = some name ∧
      r = { status := e.status.getD 500,
            headers := match e.headers with | some h => h | none => [(hContentType, vApplicationXml)],
            body := bodyOf name e noDecl } := by
  unfold serializeError at hr
  cases hname : asStr e.code with
  | none => rw [hname] at hr; cases hr
  | some name =>
    rw [hname] at hr
    cases hr
    exact ⟨name, rfl, rfl⟩

theorem errorXml_shape (name : Bytes) (e : S3Error) :
    errorXml name e = [60] ++ tError ++ [62]
      ++ (element tCode name ++ (optElement tMessage e.message ++ (optElement tRequestId e.requestId ++ closing))) := by
  simp [errorXml, closing]

theorem cr_element {n : Bytes} (t : Bytes) (hn : (13 : UInt8) ∉ n) : (13 : UInt8) ∉ element n t := by
  have ht' : (13 : UInt8) ∉ escape t := fun h => (escape_mem h).2 rfl
  simp [element, hn, ht']

theorem cr_optElement {n : Bytes} (t : Option Bytes) (hn : (13 : UInt8) ∉ n) : (13 : UInt8) ∉ optElement n t := by
  cases t with
  | none => simp [optElement]
  | some x => exact cr_element x hn

/-- the body never contains a carriage return: the fixed parts have none and the text writer turns each
    into a character reference -/
theorem cr_bodyOf (name : Bytes) (e : S3Error) (noDecl : Bool) : (13 : UInt8) ∉ bodyOf name e noDecl := by
  have h0 : (13 : UInt8) ∉ xmlDecl := by decide
  have h1 : (13 : UInt8) ∉ tError := by decide
  have h2 := cr_element (n := tCode) name (by decide)
  have h3 := cr_optElement (n := tMessage) e.message (by decide)
  have h4 := cr_optElement (n := tRequestId) e.requestId (by decide)
  cases noDecl <;> simp [bodyOf, errorXml, h0, h1, h2, h3, h4]

theorem skipDecl_bodyOf (name : Bytes) (e : S3Error) (noDecl : Bool) :
    skipDecl (bodyOf name e noDecl) = some (errorXml name e) := by
  cases noDecl with
  | true => simp [skipDecl, bodyOf, errorXml_shape, declOpen, tError, stripPrefix]
  | false =>
    -- ` version="1.0" encoding="UTF-8"`: what `xmlDecl` holds between `<?xml` and `?>`
    have hsplit : bodyOf name e false
        = declOpen ++ (([32, 118, 101, 114, 115, 105, 111, 110, 61, 34, 49, 46, 48, 34, 32,
            101, 110, 99, 111, 100, 105, 110, 103, 61, 34, 85, 84, 70, 45, 56, 34] : Bytes) ++ 63 :: 62 :: errorXml name e) := by
      simp [bodyOf, xmlDecl, declOpen]
    rw [skipDecl, hsplit, stripPrefix_append]
    exact afterPiEnd_append (by decide)

theorem kidsOf_read (name : Bytes) (msg rid : Option Bytes) (hm : ∀ x, msg = some x → xmlText x = true)
    (hr : ∀ x, rid = some x → xmlText x = true) :
    childrenNamed nCode (kidsOf name msg rid) = [escape name] ∧ optChild nMessage (kidsOf name msg rid) = some msg ∧
      optChild nRequestId (kidsOf name msg rid) = some rid := by
  have hm' : ∀ x, msg = some x → textValue (escape x) = some x := fun x hx => textValue_escape (hm x hx)
  have hr' : ∀ x, rid = some x → textValue (escape x) = some x := fun x hx => textValue_escape (hr x hx)
  cases msg <;> cases rid <;>
    simp [childrenNamed, optChild, kidsOf, nCode, nMessage, nRequestId, tCode, tMessage, tRequestId, hm', hr']

theorem parseErrorDoc_bodyOf (name : Bytes) (e : S3Error) (noDecl : Bool)
    (hn : xmlText name = true) (hm : ∀ x, e.message = some x → xmlText x = true)
    (hr : ∀ x, e.requestId = some x → xmlText x = true) :
    parseErrorDoc (bodyOf name e noDecl)
      = some { code := name, message := e.message, requestId := e.requestId } := by
  have hnorm : normalizeEol (bodyOf name e noDecl) = bodyOf name e noDecl :=
    normalizeEolGo_id (cr_bodyOf name e noDecl)
  have hopen : stripPrefix ([60] ++ nError ++ [62]) (skipWs (errorXml name e))
      = some (element tCode name ++ (optElement tMessage e.message ++ (optElement tRequestId e.requestId ++ closing))) := by
    rw [errorXml_shape]
    simp [tError, nError, skipWs_open]
  -- the fuel is the one `parseErrorDoc` passes: the length of what is left, plus one
  have hkids := readChildren_kids name e.message e.requestId
    ((element tCode name ++ (optElement tMessage e.message ++ (optElement tRequestId e.requestId ++ closing))).length + 1)
    (by simp [closing, tError]; omega)
  have hclose : stripPrefix ([60, 47] ++ nError ++ [62]) closing = some [] := by
    simp [closing, tError, nError]
  obtain ⟨hcode, hmsg, hrid⟩ := kidsOf_read name e.message e.requestId hm hr
  unfold parseErrorDoc
  rw [hnorm, skipDecl_bodyOf]
  simp only [hopen, hkids, hclose]
  simp [skipWs, hcode, hmsg, hrid, textValue_escape hn]

/-- a decimal digit is a byte `HeaderValue` accepts -/
theorem headerValueByteOk_of_isDigit {c : UInt8} (h : isDigit c = true) : headerValueByteOk c = true := by
  simp only [isDigit, Bool.and_eq_true, decide_eq_true_eq] at h
  simp only [headerValueByteOk, Bool.or_eq_true, Bool.and_eq_true, decide_eq_true_eq]
  left; omega

end S3V.ErrorDocThm
