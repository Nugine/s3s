import S3V.Thm.SigV4Order
/-!
# The six `X-Amz-*` parameters of a presigned URL: `PresignedUrlV4::parse` fails when one of them has no unique value

(the verdict lemmas of `v4_check_presigned_url` are in `S3V/Thm/SigV4Verdict.lean`)
-/
namespace S3V.SigV4
open S3V

def xAmzNames : List Bytes :=
  [b!"X-Amz-Algorithm", b!"X-Amz-Credential", b!"X-Amz-Date", b!"X-Amz-Expires", b!"X-Amz-SignedHeaders", b!"X-Amz-Signature"]

theorem parsePresigned_none {qs : List (Bytes × Bytes)} {name : Bytes} (hn : name ∈ xAmzNames)
    (h : getUnique qs name = none) : parsePresigned qs = none := by
  cases hp : parsePresigned qs with
  | none => rfl
  | some p =>
    unfold parsePresigned at hp
    split at hp
    · rename_i h1 h2 h3 h4 h5 h6
      simp only [xAmzNames, List.mem_cons, List.not_mem_nil, or_false] at hn
      rcases hn with rfl | rfl | rfl | rfl | rfl | rfl
      · cases h.symm.trans h1
      · cases h.symm.trans h2
      · cases h.symm.trans h3
      · cases h.symm.trans h4
      · cases h.symm.trans h5
      · cases h.symm.trans h6
    · cases hp

end S3V.SigV4
