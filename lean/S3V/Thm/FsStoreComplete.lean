import S3V.Thm.FsStoreMultipart
import S3V.Thm.FsStoreTree
/-!
# C18: `complete_multipart_upload` refines the store (concatenation in part order, ownership)
-/
namespace S3V.FsStore
open S3V.StoreSpec

theorem sizesOk_cons {c : Bytes} {cs : List Bytes} (h : sizesOk (c :: cs) = true) :
    sizesOk cs = true ∧ (cs ≠ [] → c.length ≥ minPartSize) := by
  cases cs with
  | nil => exact ⟨rfl, fun h => absurd rfl h⟩
  | cons d ds =>
    simp only [sizesOk, Bool.and_eq_true, decide_eq_true_eq] at h
    exact ⟨h.2, fun _ => h.1⟩

theorem optMapM_length {α β : Type} (f : α → Option β) :
    ∀ (l : List α) (r : List β), l.mapM f = some r → r.length = l.length := by
  intro l r h
  simpa using congrArg List.length (map_of_mapM_eq_some (fun _ => ()) (fun _ => ()) h fun _ _ _ _ => rfl)

/-- first pass: the numbers of the listed parts, as the store reads them -/
theorem partNumbers_eq : ∀ (pl : List (Option Int)), partNumbers pl = pl.mapM (fun x => x)
  | [] => by simp [partNumbers]
  | none :: t => by rw [optMapM_cons]; rfl
  | some n :: t => by
    rw [optMapM_cons, ← partNumbers_eq t]
    simp only [partNumbers]
    cases partNumbers t <;> rfl

/-- second pass: the order test of the code (`windows(2).any(|w| w[0] >= w[1])`) is the store's (not strictly ascending) -/
theorem outOfOrder_eq : ∀ (ns : List Int), outOfOrder ns = !ascending ns
  | [] => rfl
  | [_] => rfl
  | a :: b :: t => by
    have ih := outOfOrder_eq (b :: t)
    by_cases h : a < b
    · have h' : ¬ a ≥ b := by omega
      simp [outOfOrder, ascending, h, h', ih]
    · have h' : a ≥ b := by omega
      simp [outOfOrder, ascending, h, h']

theorem ascending_pairwise : ∀ (ns : List Int), ascending ns = true → ns.Pairwise (· < ·)
  | [] => fun _ => List.Pairwise.nil
  | [_] => fun _ => by simp
  | a :: b :: t => fun h => by
    simp only [ascending, Bool.and_eq_true, decide_eq_true_eq] at h
    have ih := ascending_pairwise (b :: t) h.2
    rw [List.pairwise_cons]
    refine ⟨?_, ih⟩
    intro x hx
    rcases List.mem_cons.mp hx with rfl | hx
    · exact h.1
    · have := (List.pairwise_cons.mp ih).1 x hx
      omega

/-- third pass: the contents of the part files of the listed numbers, in list order — what the store looks up -/
theorem partFiles_contents (id : Nat) (parts : List ((Nat × Int) × Bytes)) :
    ∀ (ns : List Int), (partFiles id parts ns).map (·.map (·.2)) = ns.mapM (fun n => alLookup (id, n) parts)
  | [] => by simp [partFiles]
  | n :: t => by
    rw [optMapM_cons, ← partFiles_contents id parts t]
    simp only [partFiles]
    cases alLookup (id, n) parts with
    | none => rfl
    | some c => cases partFiles id parts t <;> rfl

/-- third pass: the part files found are paired with exactly the listed numbers, each content that of the part file of its number -/
theorem partFiles_spec (id : Nat) (parts : List ((Nat × Int) × Bytes)) :
    ∀ (ns : List Int) (ps : List (Int × Bytes)), partFiles id parts ns = some ps →
      ps.map (·.1) = ns ∧ ∀ e ∈ ps, alLookup (id, e.1) parts = some e.2
  | [], ps, h => by simp [partFiles] at h; subst h; simp
  | n :: t, ps, h => by
    unfold partFiles at h
    cases hl : alLookup (id, n) parts with
    | none => simp [hl] at h
    | some c =>
      cases ht : partFiles id parts t with
      | none => simp [hl, ht] at h
      | some qs =>
        simp [hl, ht] at h
        subst h
        obtain ⟨h1, h2⟩ := partFiles_spec id parts t qs ht
        refine ⟨by simp [h1], fun e he => ?_⟩
        rcases List.mem_cons.mp he with rfl | he
        · exact hl
        · exact h2 e he

/-- fourth pass: the size rule of the code (a part other than the last listed is below the minimum) is the store's -/
theorem partTooSmall_eq : ∀ (ps : List (Int × Bytes)), partTooSmall ps = !sizesOk (ps.map (·.2))
  | [] => rfl
  | [_] => rfl
  | a :: b :: t => by
    have ih := partTooSmall_eq (b :: t)
    simp only [List.map_cons] at ih
    by_cases h : a.2.length < minPartSize
    · have h' : ¬ a.2.length ≥ minPartSize := by omega
      simp [partTooSmall, sizesOk, h, h']
    · have h' : a.2.length ≥ minPartSize := by omega
      simp [partTooSmall, sizesOk, h, h', ih]

/-- removing the part files of the listed numbers one by one leaves those that are not of this upload or not listed -/
theorem eraseParts_eq_filter (id : Nat) (ns : List Int) : ∀ parts : List ((Nat × Int) × Bytes),
    eraseParts id ns parts = parts.filter fun e => ¬ (e.1.1 = id ∧ e.1.2 ∈ ns) := by
  induction ns with
  | nil => exact fun parts => (List.filter_eq_self.mpr fun _ _ => by simp).symm
  | cons n r ih =>
    intro parts
    rw [eraseParts, List.foldl_cons, ← eraseParts, ih, alErase_eq_filter, List.filter_filter]
    refine List.filter_congr fun e _ => ?_
    obtain ⟨⟨i, m⟩, c⟩ := e
    by_cases hi : i = id <;> by_cases hm : m = n <;> simp [hi, hm]

theorem eraseParts_erased (id : Nat) (ns : List Int) (parts : List ((Nat × Int) × Bytes)) :
    Erased id parts (eraseParts id ns parts) := by
  rw [eraseParts_eq_filter]
  exact .filter (fun e he => by simp [he]) parts

theorem absParts_lookup {s : State} (hi : Inv s) (id : Nat) (n : Int) :
    alLookup n (absParts s id) = alLookup (id, n) s.parts := by
  rw [absParts_eq, alLookup_filterMap (fp id) (id, n) n s.parts hi.pnd (fp_shows id n _)]
  cases alLookup (id, n) s.parts <;> simp [fp]

theorem sideTooLong_of_upload {b k : Bytes} (h : sideTooLong b k true = false) : sideTooLong b k false = false := by
  unfold sideTooLong at h ⊢
  simp only [if_true, decide_eq_false_iff_not, Nat.not_lt] at h
  simp only [Bool.false_eq_true, if_false, decide_eq_false_iff_not, Nat.not_lt]
  omega

/-- what must hold for an owner's `complete_multipart_upload` that passes validation to be compared with the store: when the
    bucket exists, the key's path is free and the side-file names fit. A bucket that no longer exists is inside: both sides
    answer `NoSuchBucket` and change nothing (code since b29f222, class fs:complete-into-missing-bucket). Nothing is asked of
    the metadata and checksums of the object it replaces: they are replaced too (code since 47e9b00, classes
    fs:stale-metadata-after-complete, fs:stale-checksum-after-complete). The upload id is not used. -/
def CompleteSuccessOk (s : State) (b k : Bytes) (_id : Nat) : Prop :=
  match keyPath k with
  | none => False
  | some p =>
    match s.tree b with
    | none => True
    | some t => sideTooLong b k true = false ∧ WriteOk t p

instance (s : State) (b k : Bytes) (id : Nat) : Decidable (CompleteSuccessOk s b k id) := by
  unfold CompleteSuccessOk; decide_pred

/-- the contents of the listed parts of upload `id`, in list order, when the part list passes the validation the store
    prescribes: every listed part has a number, the numbers are strictly ascending, every listed part was uploaded, every
    part but the last has the minimum size -/
def validParts (parts : List ((Nat × Int) × Bytes)) (id : Nat) (pl : List (Option Int)) : Option (List Bytes) :=
  match pl.mapM (fun x => x) with
  | none => none
  | some ns =>
    if ascending ns then
      match ns.mapM (fun n => alLookup (id, n) parts) with
      | none => none
      | some cs => if sizesOk cs then some cs else none
    else none

/-- what must hold for the owner's `complete_multipart_upload` to be compared with the store: the names are admissible and
    the key canonical. Every part list is inside (code since dbb8684, 0fcb858; classes
    fs:complete-requires-consecutive-parts, fs:complete-part-list-validation): a complete that fails validation — a part
    without a number (`MalformedXML`), numbers not strictly ascending (`InvalidPartOrder`), a listed part that was never
    uploaded (`InvalidPart`), a part other than the last below the minimum size (`EntityTooSmall`), in this order — is
    answered alike and changes nothing (0096ef4); one that passes (`validParts`) must meet `CompleteSuccessOk` -/
def CompleteOwnerOk (s : State) (b k : Bytes) (id : Nat) (pl : List (Option Int)) : Prop :=
  bucketOk b = true ∧ CanonKey k ∧ (keyPath k).isSome = true ∧
  (match validParts s.parts id pl with
    | none => True
    | some _ => CompleteSuccessOk s b k id)

instance (s : State) (b k : Bytes) (id : Nat) (pl : List (Option Int)) : Decidable (CompleteOwnerOk s b k id pl) := by
  unfold CompleteOwnerOk; decide_pred

/-- `complete_multipart_upload` comparable: the only demand is `CompleteOwnerOk`, of a request with a non-empty part list by the
    owner of an upload that exists under this bucket and key. Inside without condition: a request without a part list or with
    an empty one (`MalformedXML` on both sides, before the upload is looked at: code since 0fcb858, class
    fs:complete-part-list-validation) and an upload that does not exist under this bucket and key (`NoSuchUpload` on both
    sides: code since 4609ab3, 41e1cf2; classes fs:unknown-upload-code, fs:upload-not-bound-to-key) -/
def CompleteOk (s : State) (who : Who) (b k : Bytes) (u : UploadRef) (parts : Option (List (Option Int))) : Prop :=
  match parts with
  | none => True
  | some pl =>
    match u with
    | none => True
    | some id =>
      match alLookup id s.uploads with
      | none => True
      | some ui => ui.bucket = b ∧ ui.key = k → ui.owner = who → CompleteOwnerOk s b k id pl

instance (s : State) (who : Who) (b k : Bytes) (u : UploadRef) (parts : Option (List (Option Int))) :
    Decidable (CompleteOk s who b k u parts) := by
  unfold CompleteOk; decide_pred

/-- the store looks the listed parts up in the upload; the backend reads their part files -/
theorem lookup_parts {s : State} (hi : Inv s) (id : Nat) (ui : UpInfo) (ns : List Int) :
    ns.mapM (fun n => alLookup n (uploadOf s id ui).parts) = (partFiles id s.parts ns).map (·.map (·.2)) := by
  rw [partFiles_contents]
  congr 1
  funext n
  exact absParts_lookup hi id n

/-- abstraction and invariant after the successful path of `complete_multipart_upload`: the object is written with the
    upload's metadata and no checksums, the upload, its metadata file and the listed part files are gone -/
theorem complete_core {s : State} (hi : Inv s) {b k : Bytes} {id : Nat} {ui : UpInfo} {t : Tree} {p : Path}
    {ps : List ((Nat × Int) × Bytes)} (hub : ui.bucket = b) (huk : ui.key = k)
    (ht : s.tree b = some t) (hp : PathOk p) (hcanon : joinWith [slash] p = k) (hw : t.node p ≠ some Node.dir)
    (c : Bytes) (her : Erased id s.parts ps) :
    let s' : State := { buckets := alInsert b (withFile t p c) s.buckets,
                        metas := alSet (b, k) ((alLookup (b, k, id) s.upMetas).map .good) s.metas,
                        upMetas := alErase (b, k, id) s.upMetas, infos := alSet (b, k) (some {}) s.infos,
                        uploads := alErase id s.uploads, parts := ps, issued := s.issued }
    abs s' = { ((abs s).setObj b k ⟨c, (uploadOf s id ui).md, {}⟩) with uploads := alErase id (abs s).uploads } ∧
    Inv s' := by
  have hmv : (alLookup (b, k, id) s.upMetas).map MetaFile.good ≠ some .corrupt := by
    cases alLookup (b, k, id) s.upMetas <;> simp
  have hmd : metaOf ((alLookup (b, k, id) s.upMetas).map .good) = (uploadOf s id ui).md := by
    rw [metaOf_good, uploadOf, hub, huk]
  obtain ⟨h1, h2⟩ := writeFile_core hi ht hp hcanon hw c hmv (some {})
  have h3 := eraseUpload_core h2 b k her
  rwa [h1, hmd] at h3

/-- the validation of a part list as both sides run it on upload `id`, pass by pass: the backend's test and the store's fail
    together, or both go on; when all four pass, `ps` are the part files read and `validParts` gives their contents -/
theorem validation_cases {s : State} (hi : Inv s) (id : Nat) (ui : UpInfo) (pl : List (Option Int)) :
    (partNumbers pl = none ∧ pl.mapM (fun x => x) = none) ∨
    ∃ ns, (partNumbers pl = some ns ∧ pl.mapM (fun x => x) = some ns) ∧
      ((outOfOrder ns = true ∧ ascending ns = false) ∨
       (outOfOrder ns = false ∧ ascending ns = true) ∧
        ((partFiles id s.parts ns = none ∧ ns.mapM (fun n => alLookup n (uploadOf s id ui).parts) = none) ∨
         ∃ ps, (partFiles id s.parts ns = some ps ∧
             ns.mapM (fun n => alLookup n (uploadOf s id ui).parts) = some (ps.map (·.2))) ∧
           ((partTooSmall ps = true ∧ sizesOk (ps.map (·.2)) = false) ∨
            (partTooSmall ps = false ∧ sizesOk (ps.map (·.2)) = true) ∧
              validParts s.parts id pl = some (ps.map (·.2))))) := by
  rw [partNumbers_eq]
  cases hs1 : pl.mapM (fun x => x) with
  | none => exact .inl ⟨rfl, rfl⟩
  | some ns =>
  refine .inr ⟨ns, ⟨rfl, rfl⟩, ?_⟩
  rw [outOfOrder_eq]
  cases hs2 : ascending ns with
  | false => exact .inl ⟨rfl, rfl⟩
  | true =>
  refine .inr ⟨⟨rfl, rfl⟩, ?_⟩
  rw [lookup_parts hi]
  cases hpf : partFiles id s.parts ns with
  | none => exact .inl ⟨rfl, rfl⟩
  | some ps =>
  refine .inr ⟨ps, ⟨rfl, rfl⟩, ?_⟩
  rw [partTooSmall_eq]
  cases hsz : sizesOk (ps.map (·.2)) with
  | false => exact .inl ⟨rfl, rfl⟩
  | true =>
    refine .inr ⟨⟨rfl, rfl⟩, ?_⟩
    simp only [validParts, hs1, hs2, if_true, ← partFiles_contents, hpf, Option.map_some, hsz]

theorem complete_refines (H : Hashes) (dl : Nat) {s : State} (hi : Inv s) {who : Who} {b k : Bytes} {u : UploadRef}
    {parts : Option (List (Option Int))} (hg : CompleteOk s who b k u parts) :
    Refines H dl s (.completeMultipartUpload who b k u parts) := by
  unfold CompleteOk at hg
  -- no part list or an empty one: `MalformedXML` on both sides
  cases parts with
  | none => simp [Refines, step, StoreSpec.step, hi]
  | some pl =>
  cases pl with
  | nil => simp [Refines, step, StoreSpec.step, hi]
  | cons o t =>
  cases u with
  | none => simp [Refines, step, StoreSpec.step, Store.upload, hi]
  | some id =>
  rcases upload_cases s who id b k with hu | ⟨ui, hu⟩ | ⟨ui, hu, hl, hub, huk⟩
  -- no such upload under this bucket and key; somebody else's upload; the requester's
  · simp [Refines, step, StoreSpec.step, hu, hi]
  · simp [Refines, step, StoreSpec.step, hu, hi]
  simp only [hl] at hg
  obtain ⟨hbo, ⟨_, hcanon⟩, hksome, hrest⟩ := hg ⟨hub, huk⟩ hu.2.2.2
  rcases key_cases k with hk | ⟨p, hk, hp⟩
  · rw [hk.1] at hksome; exact absurd hksome (by simp)
  simp only [hk.1] at hcanon
  have hop : objPath b k = .ok (b, p) := by simp [objPath, bucketDir_of_bucketOk hbo, hk]
  -- the four passes of the validation, in the store's order
  rcases validation_cases hi id ui (o :: t) with h1 | ⟨ns, h1, h2 | ⟨h2, h3 | ⟨ps, h3, h4 | ⟨h4, hvalid⟩⟩⟩⟩
  · simp [Refines, step, StoreSpec.step, hu, hop, h1, hi]
  · simp [Refines, step, StoreSpec.step, hu, hop, h1, h2, hi]
  · simp [Refines, step, StoreSpec.step, hu, hop, h1, h2, h3, hi]
  · simp [Refines, step, StoreSpec.step, hu, hop, h1, h2, h3, h4, hi]
  simp only [hvalid, CompleteSuccessOk, hk.1] at hrest
  rcases tree_cases s b with ht | ⟨tr, ht⟩
  · -- the bucket no longer exists: `NoSuchBucket` on both sides, nothing changes
    simp [Refines, step, StoreSpec.step, hu, hop, h1, h2, h3, h4, abs_alHas, ht, hi]
  simp only [ht.1] at hrest
  obtain ⟨hshort, hpath⟩ := hrest
  have hshort' := sideTooLong_of_upload hshort
  have hcommit := commitFile_eq ht.1 hpath hp (ps.map (·.2)).flatten
  refine .of_eq (r := .completed (some (etagOf H (ps.map (·.2)).flatten))) ?_
    (by simp [StoreSpec.step, hu, h1, h2, h3, h4, abs_alHas, ht, Store.setObj])
    (complete_core hi hub huk ht.1 hp hcanon hpath.2 (ps.map (·.2)).flatten (eraseParts_erased id (ps.map (·.1)) s.parts))
  -- without a metadata file of the upload there is none to remove
  cases hum : alLookup (b, k, id) s.upMetas with
  | none => simp [step, hu, hop, h1, h2, h3, h4, ht, hcommit, hshort, hshort', hum, alSet, alErase_absent hum]
  | some m => simp [step, hu, hop, h1, h2, h3, h4, ht, hcommit, hshort, hshort', hum, alSet]

end S3V.FsStore
