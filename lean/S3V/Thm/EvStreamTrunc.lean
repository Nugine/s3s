import S3V.Model.EvStream
import S3V.Spec.EvStream
import S3V.Thm.Utf8Prefix
import S3V.Thm.ListLemmas
/-!
# Lemmas for C15: the cut of `truncate_header_value` is the longest valid UTF-8 prefix

`truncate_header_value` (model: `truncateHeaderValue`, `truncEnd`, `isCharBoundary`) walks back from byte
`min(len, 65535)` to the nearest `str::is_char_boundary`. `is_char_boundary` only looks at one byte (is it a
continuation byte `0b10xxxxxx`?). The spec (`expectedHeaderText`) talks about well-formed UTF-8 (`utf8Valid`,
the strict decoder of `S3V/Base/Utf8.lean`). This file connects the two for every text that is well-formed
UTF-8 (the invariant of a Rust `&str`), for a generic limit `n` (the code uses 65 535):

A prefix `s.take k` is well-formed iff `k` is a character boundary (both say that no continuation byte follows the cut), the
loop stops at the largest boundary `≤ n`, and that is never more than 3 bytes below `n` (a sequence has at most 4 bytes): so the
cut is the longest well-formed prefix within the limit, and the spec's "first well-formed of the candidates `n … n-3`" finds it.
-/
namespace S3V.EvStreamThm
open S3V S3V.EvStream S3V.EvStreamSpec

theorem truncEnd_le (s : Bytes) : ∀ n, truncEnd s n ≤ n := by
  intro n
  induction n with
  | zero => simp [truncEnd]
  | succ e ih => unfold truncEnd; split <;> omega

theorem truncEnd_boundary (s : Bytes) : ∀ n, isCharBoundary s (truncEnd s n) = true := by
  intro n
  induction n with
  | zero => simp [truncEnd, isCharBoundary]
  | succ e ih =>
    unfold truncEnd
    split
    · assumption
    · exact ih

theorem isCharBoundary_length (s : Bytes) : isCharBoundary s s.length = true := by
  unfold isCharBoundary
  by_cases h : s.length = 0 <;> simp [h]

theorem truncEnd_length (s : Bytes) : truncEnd s s.length = s.length := by
  cases h : s.length with
  | zero => rfl
  | succ e => rw [truncEnd, ← h, isCharBoundary_length]; simp

/-- `truncate_header_value` with limit `n` in place of `u16::MAX` -/
def truncateTo (n : Nat) (s : Bytes) : Bytes := s.take (truncEnd s (min s.length n))

theorem truncateHeaderValue_eq_truncateTo (s : Bytes) : truncateHeaderValue s = truncateTo 65535 s := rfl

/-- `expectedHeaderText` with limit `n` in place of `maxHeaderValue` -/
def expectedTextN (n : Nat) (orig : Bytes) : Option Bytes :=
  if orig.length ≤ n then some orig
  else ([n, n - 1, n - 2, n - 3].find? fun k => utf8Valid (orig.take k)).map fun k => orig.take k

theorem expectedHeaderText_eq_expectedTextN (s : Bytes) : expectedHeaderText s = expectedTextN 65535 s := rfl

theorem truncateTo_length (n : Nat) (s : Bytes) : (truncateTo n s).length = truncEnd s (min s.length n) := by
  unfold truncateTo
  have := truncEnd_le s (min s.length n)
  rw [List.length_take]
  omega

theorem truncateTo_length_le (n : Nat) (s : Bytes) : (truncateTo n s).length ≤ n := by
  rw [truncateTo_length]
  have := truncEnd_le s (min s.length n)
  omega

theorem truncateTo_prefix (n : Nat) (s : Bytes) : truncateTo n s <+: s := List.take_prefix _ _

theorem truncateTo_boundary (n : Nat) (s : Bytes) : isCharBoundary s (truncateTo n s).length = true := by
  rw [truncateTo_length]
  exact truncEnd_boundary s _

theorem truncateTo_eq_self (n : Nat) (s : Bytes) (h : s.length ≤ n) : truncateTo n s = s := by
  unfold truncateTo
  rw [Nat.min_eq_left h, truncEnd_length, List.take_length]

theorem truncateHeaderValue_eq_self (s : Bytes) (h : s.length ≤ 65535) : truncateHeaderValue s = s :=
  truncateTo_eq_self 65535 s h

theorem getD_map_truncateHeaderValue (o : Option Bytes) :
    (o.map truncateHeaderValue).getD [] = truncateHeaderValue (o.getD []) := by
  cases o <;> rfl

theorem isCharBoundary_iff (s : Bytes) (k : Nat) :
    isCharBoundary s k = true ↔ k ≤ s.length ∧ (k = 0 ∨ ∀ c ∈ s[k]?, isCont c = false) := by
  unfold isCharBoundary
  by_cases h0 : k = 0
  · simp [h0]
  · rw [if_neg h0]
    by_cases hl : s.length ≤ k
    · rw [if_pos hl, List.getElem?_eq_none hl]
      simp only [beq_iff_eq, Option.mem_def, reduceCtorEq, false_imp_iff, implies_true, or_true, and_true]
      omega
    · rw [if_neg hl, List.getElem?_eq_getElem (Nat.lt_of_not_le hl)]
      simp only [Bool.or_eq_true, decide_eq_true_eq, ← isCont_eq_false_iff, Option.mem_def, Option.some.injEq, forall_eq', h0, false_or, iff_and_self]
      exact fun _ => Nat.le_of_not_le hl

/-- a prefix of a well-formed text is well-formed iff it ends at a character boundary: both say that no
    continuation byte follows the cut (`Utf8.cut_iff`) -/
theorem utf8_take_iff_boundary {s : Bytes} (hs : Utf8 s) (k : Nat) (hk : k ≤ s.length) :
    Utf8 (s.take k) ↔ isCharBoundary s k = true := by
  rw [isCharBoundary_iff, hs.cut_iff (List.take_append_drop k s).symm, List.head?_drop]
  refine ⟨fun h => ⟨hk, Or.inr h⟩, fun h => h.2.elim (fun h0 => ?_) id⟩
  subst h0
  rw [← List.head?_eq_getElem?]
  exact (hs.cut_iff (List.nil_append s).symm).mp Utf8.nil

/-- a character has at most four bytes: from any position a well-formed cut is at most three bytes back -/
theorem utf8_cut_near {s : Bytes} (hs : Utf8 s) : ∀ n, n ≤ s.length → ∃ j, j ≤ n ∧ n ≤ j + 3 ∧ Utf8 (s.take j) := by
  induction hs with
  | nil => exact fun n hn => ⟨0, Nat.zero_le _, Nat.le_trans hn (Nat.zero_le _), Utf8.nil⟩
  | @seq b0 cs r cp hs _ ih =>
    intro n hn
    have hcs := hs.bytes.1
    rw [List.length_cons, List.length_append] at hn
    by_cases hnL : n < cs.length + 1
    · exact ⟨0, Nat.zero_le _, by omega, Utf8.nil⟩
    · obtain ⟨j, hj1, hj2, hj3⟩ := ih (n - (cs.length + 1)) (by omega)
      refine ⟨cs.length + 1 + j, by omega, by omega, ?_⟩
      rw [← List.cons_append, ← List.length_cons (a := b0), List.take_length_add_append]
      exact Utf8.seq hs hj3

theorem utf8Valid_take_iff_boundary {s : Bytes} (hs : utf8Valid s = true) (k : Nat) (hk : k ≤ s.length) :
    utf8Valid (s.take k) = true ↔ isCharBoundary s k = true := by
  rw [utf8Valid_iff]
  exact utf8_take_iff_boundary ((utf8Valid_iff s).mp hs) k hk

theorem truncEnd_max (s : Bytes) : ∀ n k, k ≤ n → isCharBoundary s k = true → k ≤ truncEnd s n := by
  intro n
  induction n with
  | zero => intro k hk _; simp only [truncEnd]; omega
  | succ e ih =>
    intro k hk hb
    unfold truncEnd
    by_cases he : isCharBoundary s (e + 1) = true
    · rw [if_pos he]; exact hk
    · rw [if_neg he]
      have : k ≠ e + 1 := by intro h; subst h; exact he hb
      exact ih k (by omega) hb

/-! On well-formed text the loop's result, read as a cut: the prefix it leaves is well-formed, no well-formed prefix within
the limit is longer, and it lies at most three bytes below the limit. Stated for `truncEnd`, so that the cut (`truncateTo`) and
the spec's candidate search (`expectedTextN`) both read it off. -/

theorem truncEnd_valid {s : Bytes} (hs : utf8Valid s = true) {n : Nat} (hn : n ≤ s.length) :
    utf8Valid (s.take (truncEnd s n)) = true :=
  (utf8Valid_take_iff_boundary hs _ (Nat.le_trans (truncEnd_le s n) hn)).mpr (truncEnd_boundary s n)

theorem le_truncEnd_of_valid {s : Bytes} (hs : utf8Valid s = true) {n k : Nat} (hk : k ≤ n) (hn : n ≤ s.length)
    (hv : utf8Valid (s.take k) = true) : k ≤ truncEnd s n :=
  truncEnd_max s n k hk ((utf8Valid_take_iff_boundary hs k (Nat.le_trans hk hn)).mp hv)

theorem truncEnd_near {s : Bytes} (hs : utf8Valid s = true) (n : Nat) (hn : n ≤ s.length) :
    n ≤ truncEnd s n + 3 := by
  obtain ⟨j, hj1, hj2, hj3⟩ := utf8_cut_near ((utf8Valid_iff s).mp hs) n hn
  exact Nat.le_trans hj2 (Nat.add_le_add_right (le_truncEnd_of_valid hs hj1 hn ((utf8Valid_iff _).mpr hj3)) 3)

theorem truncateTo_isLongest (n : Nat) {s : Bytes} (hs : utf8Valid s = true) :
    IsLongestValidPrefix n s (truncateTo n s) := by
  refine ⟨truncateTo_prefix n s, truncateTo_length_le n s, truncEnd_valid hs (Nat.min_le_left _ _), fun p hp hpn hv => ?_⟩
  rw [List.prefix_iff_eq_take.mp hp] at hv
  rw [truncateTo_length]
  exact le_truncEnd_of_valid hs (Nat.le_min.mpr ⟨hp.length_le, hpn⟩) (Nat.min_le_left _ _) hv

theorem isLongestValidPrefix_unique {n : Nat} {s t t' : Bytes} (h : IsLongestValidPrefix n s t)
    (h' : IsLongestValidPrefix n s t') : t = t' := by
  obtain ⟨hp, hn, hv, hmax⟩ := h
  obtain ⟨hp', hn', hv', hmax'⟩ := h'
  have h1 := hmax t' hp' hn' hv'
  have h2 := hmax' t hp hn hv
  rw [List.prefix_iff_eq_take.mp hp, List.prefix_iff_eq_take.mp hp', show t.length = t'.length by omega]

/-- the spec's executable form (first well-formed candidate among `n, n-1, n-2, n-3`) is the cut: the
    candidates descend, the cut's end is one of them, and no larger well-formed cut exists -/
theorem expectedTextN_eq_truncateTo (n : Nat) (hn : 3 ≤ n) {s : Bytes} (hs : utf8Valid s = true) :
    expectedTextN n s = some (truncateTo n s) := by
  -- with `n = c + 3` the candidates are `c + 3, c + 2, c + 1, c`: no truncated subtraction left for `omega`
  obtain ⟨c, rfl⟩ : ∃ c, n = c + 3 := ⟨n - 3, by omega⟩
  unfold expectedTextN
  by_cases hl : s.length ≤ c + 3
  · rw [if_pos hl, truncateTo_eq_self _ s hl]
  · have hle : c + 3 ≤ s.length := Nat.le_of_not_le hl
    have h1 := truncEnd_le s (c + 3)
    have h2 := truncEnd_near hs (c + 3) hle
    rw [if_neg hl, truncateTo, Nat.min_eq_right hle]
    simp only [Nat.add_sub_cancel, Nat.reduceSubDiff]
    rw [find?_of_descending (fun k => utf8Valid (s.take k)) (truncEnd_valid hs hle)
        (by simp only [List.pairwise_cons, List.mem_cons, List.not_mem_nil, or_false, forall_eq_or_imp, forall_eq,
              List.Pairwise.nil, and_true, false_imp_iff, implies_true]
            omega)
        (by simp only [List.mem_cons, List.not_mem_nil, or_false]; omega)
        fun k hk hv => le_truncEnd_of_valid hs
          (by simp only [List.mem_cons, List.not_mem_nil, or_false] at hk; omega) hle hv]
    rfl

end S3V.EvStreamThm
