import S3V.Gen.Bindings
import S3V.Thm.HttpSerReadBack
/-!
# The generated output table as a statement list of the header half of `serialize_http`

The header- and prefix-bound rows of `implOutputs op` (`Gen/Bindings.lean`) as statement shapes and, under an assignment of
the members, as the statement list `tableStmts` to which `Thm/HttpSerReadBack` applies. Namespace `S3V.C03`: these definitions
are the vocabulary of the statements of `Props/C03AllOps`.
-/
namespace S3V.C03
open S3V S3V.Gen S3V.KeepAlive S3V.HttpSerHeaders S3V.HttpSerThm

/-- the header-bound and prefix-bound output members of an operation (`ops/generated.rs` via the translator) -/
def outputHeaderBindings (op : Op) : List Binding :=
  (implOutputs op).filter fun b => b.loc == .header || b.loc == .pfx

/-- the statement shape of a binding; the tag of a header statement is the binding itself (member name,
    timestamp format) -/
def bindingShape (b : Binding) : Shape Binding := if b.loc == .pfx then .metadata else .hdr b.wire b

def outputHeaderShapes (op : Op) : List (Shape Binding) := (outputHeaderBindings op).map bindingShape

def outputHeaderNames (op : Op) : List HName := hdrNames (outputHeaderShapes op)

/-- the statement of a binding under an assignment of the output structure's members -/
def stmtOf {V : Type} (vals : Binding → Option V) (md : Option Metadata) (b : Binding) : Stmt Binding V :=
  if b.loc == .pfx then .optMetadata md else .optHeader b.wire b (vals b)

/-- the header statements of `serialize_http` of `op` in table order, for an assignment of its members -/
def tableStmts {V : Type} (op : Op) (vals : Binding → Option V) (md : Option Metadata) : List (Stmt Binding V) :=
  (outputHeaderBindings op).map (stmtOf vals md)

/-- the header statements of the list are those of the header-bound output members, each with the member's value -/
theorem mem_tableStmts_hdr {V : Type} {op : Op} {vals : Binding → Option V} {md : Option Metadata} {n : HName}
    {t : Binding} {v : Option V} :
    Stmt.optHeader n t v ∈ tableStmts op vals md ↔
      t ∈ implOutputs op ∧ t.loc = .header ∧ n = t.wire ∧ v = vals t := by
  simp only [tableStmts, outputHeaderBindings, List.mem_map, List.mem_filter, stmtOf]
  constructor
  · rintro ⟨b, ⟨hb, hl⟩, hs⟩
    split at hs
    · cases hs
    · next hp =>
      injection hs with hn ht hv
      subst ht
      exact ⟨hb, by simpa [hp] using hl, hn.symm, hv.symm⟩
  · rintro ⟨hb, hl, rfl, rfl⟩
    exact ⟨t, ⟨hb, by simp [hl]⟩, by simp [hl]⟩

theorem mem_tableStmts_meta {V : Type} {op : Op} {vals : Binding → Option V} {md m : Option Metadata}
    (h : Stmt.optMetadata m ∈ tableStmts op vals md) : m = md := by
  obtain ⟨b, _, hs⟩ := List.mem_map.mp h
  unfold stmtOf at hs
  split at hs
  · injection hs with e
    exact e.symm
  · cases hs

end S3V.C03
