import S3V.Model.DtoText
import S3V.Thm.BytesText
/-!
# The `str` operations of the `dto` models (`Model/DtoText`) are instances of the schemes of `Thm/BytesText`

with the consequences the `dto` proofs call, under hypotheses of the form they have at hand (`∀ x ∈ a, x ≠ c`).
-/
namespace S3V.Dto

theorem stripPrefix_strips : StripsPrefix stripPrefix := ⟨fun _ => rfl, fun _ _ => rfl, fun _ _ _ _ => rfl⟩

theorem stripPrefix_append (p rest : Bytes) : stripPrefix p (p ++ rest) = some rest := stripPrefix_strips.append p rest

theorem splitOnce_cuts : CutsAtFirst splitOnce :=
  ⟨fun _ => rfl, fun c x xs => by rw [splitOnce]; cases splitOnce c xs <;> rfl⟩

theorem splitOnce_append (c : UInt8) (xs ys : Bytes) (h : ∀ x ∈ xs, x ≠ c) :
    splitOnce c (xs ++ c :: ys) = some (xs, ys) :=
  splitOnce_cuts.append ys (List.forall_mem_ne'.mp h)

theorem splitOnce_none (c : UInt8) (xs : Bytes) (h : ∀ x ∈ xs, x ≠ c) : splitOnce c xs = none :=
  splitOnce_cuts.eq_none_iff.mpr (List.forall_mem_ne'.mp h)

theorem splitOn_splits (sep : UInt8) : SplitsAt sep (splitOn sep) :=
  ⟨rfl, fun _ _ _ _ h => by rw [splitOn, h]⟩

theorem splitOn_free (sep : UInt8) (s : Bytes) (h : ∀ x ∈ s, x ≠ sep) : splitOn sep s = [s] :=
  (splitOn_splits sep).of_not_mem (List.forall_mem_ne'.mp h)

theorem splitOn_append_sep (sep : UInt8) (g rest : Bytes) (h : ∀ x ∈ g, x ≠ sep) :
    splitOn sep (g ++ sep :: rest) = g :: splitOn sep rest :=
  (splitOn_splits sep).append_sep rest (List.forall_mem_ne'.mp h)

theorem splitOn_join (sep : UInt8) (head : Bytes) (segs : List Bytes)
    (hh : ∀ x ∈ head, x ≠ sep) (hs : ∀ g ∈ segs, ∀ x ∈ g, x ≠ sep) :
    splitOn sep (head ++ (segs.map fun g => sep :: g).flatten) = head :: segs :=
  (splitOn_splits sep).split_join (j := fun l => l.headD [] ++ (l.tail.map fun g => sep :: g).flatten)
    List.append_nil (fun a b t => by simp) (List.cons_ne_nil head segs)
    (List.forall_mem_cons.mpr ⟨fun hm => hh sep hm rfl, fun g hg hm => hs g hg sep hm rfl⟩)

end S3V.Dto
