import S3V.Base.Bytes
/-!
# Lemmas: the byte-lexicographic comparisons of the models are `<` and `≤` of `List UInt8`

`str::cmp` is written out as a recursion in several models (strict in the signature code, non-strict in the
store and the form reader). Each such recursion is core's order on `List UInt8`, so that irreflexivity,
transitivity, totality and antisymmetry are core's lemmas (`List.lt_irrefl`, `List.lt_trans`, `List.le_total`,
`List.le_antisymm`, `List.not_lt` …) and need no induction of their own. The strict copies compare the bytes'
`toNat`s, the non-strict ones the bytes themselves: the equations asked differ in that.
-/
namespace S3V

theorem lexLt_iff_lt {f : Bytes → Bytes → Bool} (h₁ : f [] [] = false) (h₂ : ∀ b bs, f [] (b :: bs) = true)
    (h₃ : ∀ a as, f (a :: as) [] = false)
    (h₄ : ∀ a as b bs, f (a :: as) (b :: bs) =
      if a.toNat < b.toNat then true else if b.toNat < a.toNat then false else f as bs) :
    ∀ {a b : Bytes}, f a b = true ↔ a < b
  | [], [] => by simp [h₁]
  | [], b :: bs => by simp [h₂]
  | a :: as, [] => by simp [h₃]
  | a :: as, b :: bs => by
    rw [h₄, List.cons_lt_cons_iff, ← lexLt_iff_lt h₁ h₂ h₃ h₄, UInt8.lt_iff_toNat_lt, ← UInt8.toNat_inj]
    by_cases hab : a.toNat < b.toNat
    · simp [hab]
    · by_cases hba : b.toNat < a.toNat
      · simp [hab, hba, Nat.ne_of_gt hba]
      · simp [Nat.le_antisymm (Nat.le_of_not_lt hba) (Nat.le_of_not_lt hab)]

theorem lexLe_iff_le {f : Bytes → Bytes → Bool} (h₁ : ∀ b, f [] b = true) (h₂ : ∀ a as, f (a :: as) [] = false)
    (h₃ : ∀ a as b bs, f (a :: as) (b :: bs) = if a < b then true else if b < a then false else f as bs) :
    ∀ {a b : Bytes}, f a b = true ↔ a ≤ b
  | [], b => by simp [h₁]
  | a :: as, [] => by simp [h₂]
  | a :: as, b :: bs => by
    rw [h₃, List.cons_le_cons_iff, ← lexLe_iff_le h₁ h₂ h₃]
    by_cases hab : a < b
    · simp [hab]
    · by_cases hba : b < a
      · simp [hab, hba, UInt8.ne_of_lt hba |>.symm]
      · simp [UInt8.le_antisymm (UInt8.not_lt.mp hba) (UInt8.not_lt.mp hab)]

end S3V
