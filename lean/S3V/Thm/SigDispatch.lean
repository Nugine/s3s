import S3V.Model.SigDispatch
import S3V.Model.Service
import S3V.Thm.SigV2Verdict
import S3V.Thm.SigV4Verdict
/-!
# Lemmas: the dispatcher `SigDispatch.check` (C07 on concrete requests)

`Answer` lists what `SignatureContext::check` can answer, each with what the branch taken found, and `check_answer` follows the
control flow of `v2Part` / `v4Part` once; `v2_pass_iff` and `noHeader_iff` say when the V2 half declines and what "no
`Authorization` header" means on the wire; `prepareCtx_ok` is what `ops::prepare` hands to the check.

First (namespace `S3V.SigV2`): the V2 model's order, sort and `get_unique` are the V4 model's (`bLt_eq_v4`, `sortByFirst_eq_v4`,
`getUnique_eq_v2`), since the dispatcher hands one vector to both. `check_of_declined` is the converse of `Answer.anon`;
`dispatch_eq_iff` and `noQueryParams_iff` carry statements about `check` to the request on the wire. Last (namespace `S3V.C07`):
`presentedOf` and `concreteCall`, the service call on a concrete request, with `concreteCall_eq_some`; `Props/C07Concrete` states its
theorems with them.
-/
namespace S3V.SigV2
open S3V

/-! The V2 model repeats the order, the sort and `get_unique` of the V4 model (both read the same `OrderedHeaders` /
`OrderedQs`); the dispatcher hands one vector to both. -/

theorem bLt_eq_v4 : bLt = SigV4.bLt :=
  funext fun _ => funext fun _ => Bool.eq_iff_iff.mpr (bLt_iff_lt.trans SigV4.bLt_iff_lt.symm)

theorem sortByFirst_eq_v4 : sortByFirst = SigV4.sortByFirst :=
  funext fun l => by rw [sortByFirst_eq, SigV4.sortByFirst_eq, bLt_eq_v4]

end S3V.SigV2

namespace S3V.SigDispatchThm
open S3V S3V.SigV4 S3V.SigV4.E2E S3V.SigDispatch

theorem getUnique_eq_v2 (l : List (Bytes × Bytes)) (n : Bytes) : getUnique l n = SigV2.getUnique l n := by
  rw [getUnique_eq, SigV2.getUnique_eq, SigV2.lowerBound, SigV2.bLt_eq_v4]

/-- the query sends `v2_check` into its presigned branch iff there is a query and it has `Signature` -/
theorem presignedQs_v2Ctx (p : Prepared) (raw : Bytes) (vh : Option Bytes) :
    SigV2.presignedQs (v2Ctx p raw vh).qs = none ↔ (p.hasQuery && qsHas p.c.qs b!"Signature") = false := by
  unfold v2Ctx SigV2.presignedQs
  cases hq : p.hasQuery
  · simp
  · -- `OrderedQs::has` is one function in both models
    show (if qsHas p.c.qs b!"Signature" = true then some p.c.qs else none) = none ↔ _
    cases hs : qsHas p.c.qs b!"Signature" <;> simp

/-- `v2_check` returns `None` for a prepared request exactly when `Authorization` is not repeated, the query (if any)
    has no `Signature` and there is no unique `Authorization` value of the form `AWS ak:sig` -/
theorem v2_pass_iff (e : Env) (p : Prepared) (raw : Bytes) (vh : Option Bytes) :
    SigV2.check e.hmacSha1 e.base64 (v2Lookup e.auth) e.nowNs (v2Ctx p raw vh) = .pass ↔
      ((SigV2.getAll p.c.hs b!"authorization").drop 1).isEmpty = true ∧
      (p.hasQuery && qsHas p.c.qs b!"Signature") = false ∧
      (getUnique p.c.hs b!"authorization").bind SigV2.parseAuthV2 = none := by
  rw [SigV2Thm.check_pass_iff, presignedQs_v2Ctx, getUnique_eq_v2]
  rfl

theorem v2Part_ne_unmodelled (e : Env) (c2 : SigV2.Ctx) (why : String) : v2Part e c2 ≠ some (.unmodelled why) := by
  unfold v2Part
  split <;> nofun

theorem presented_mode {c : SigV2.Ctx} {pr : SigV2Thm.Presented} (h : SigV2Thm.presented c = some pr) :
    (v2Path c = .v2Presigned ∧ pr.mode = .presignedUrl) ∨ (v2Path c = .v2Header ∧ pr.mode = .headerAuth) := by
  unfold v2Path
  rcases SigV2Thm.presented_eq_some h with ⟨q, p, hq, -, rfl⟩ | ⟨x, hq, rfl⟩ <;> rw [hq]
  · exact .inl ⟨rfl, rfl⟩
  · exact .inr ⟨rfl, rfl⟩

/-- `require_auth` in the V2 branches: a secret comes from a configured provider only -/
theorem v2Lookup_eq_some {auth : Option (Bytes → Option Bytes)} {ak secret : Bytes}
    (h : v2Lookup auth ak = some secret) : ∃ look, auth = some look ∧ look ak = some secret := by
  cases auth with
  | none => cases h
  | some look => exact ⟨look, rfl, h⟩

theorem ofVerdict_ne_unmodelled (path : Path) (v : Verdict) (why : String) : ofVerdict path v ≠ .unmodelled why := by
  cases v <;> simp [ofVerdict]

/-- What `SignatureContext::check` can answer, each with what the branch taken found: credentials come with the
    accepting verdict of that branch's verifier, `Ok(None)` with every branch declining. -/
inductive Answer (e : Env) (p : Prepared) (w : Wire) (vh : Option Bytes) : Result → Prop
  | v2 (ak : Bytes) :
      SigV2.check e.hmacSha1 e.base64 (v2Lookup e.auth) e.nowNs (v2Ctx p w.rawPath vh) = .accept ak →
      Answer e p w vh (.accept (v2Path (v2Ctx p w.rawPath vh)) ak none (some b!"s3"))
  | post (ak r s : Bytes) : v4CheckPostSignature e.hmacSha256 e.auth (multipartFields w.form) = .accept ak r s →
      Answer e p w vh (.accept .v4Post ak (some r) (some s))
  | presigned (ak r s : Bytes) : v4CheckPresignedUrl e.sha256hex e.hmacSha256 e.auth e.nowNs p.c = .accept ak r s →
      Answer e p w vh (.accept .v4Presigned ak (some r) (some s))
  | header (ak r s : Bytes) : v4CheckHeaderAuth e.sha256hex e.hmacSha256 e.auth p.c = .accept ak r s →
      Answer e p w vh (.accept .v4Header ak (some r) (some s))
  | anon : SigV2.check e.hmacSha1 e.base64 (v2Lookup e.auth) e.nowNs (v2Ctx p w.rawPath vh) = .pass →
      postForm p = none → (p.hasQuery && qsHas p.c.qs b!"X-Amz-Signature") = false →
      getUnique p.c.hs b!"authorization" = none → Answer e p w vh .anon
  | err (code : ErrCode) : Answer e p w vh (.err code)
  | unmodelled (why : String) : Answer e p w vh (.unmodelled why)

section
variable {e : Env} {p : Prepared} {w : Wire} {vh : Option Bytes}

theorem Answer.ofVerdict {path : Path} {v : Verdict}
    (h : ∀ ak r s, v = .accept ak r s → Answer e p w vh (.accept path ak (some r) (some s))) :
    Answer e p w vh (ofVerdict path v) := by
  cases v with
  | accept ak r s => exact h ak r s rfl
  | err code => exact .err code

theorem check_of_declined
    (h2 : SigV2.check e.hmacSha1 e.base64 (v2Lookup e.auth) e.nowNs (v2Ctx p w.rawPath vh) = .pass)
    (hpf : postForm p = none) (hq : (p.hasQuery && qsHas p.c.qs b!"X-Amz-Signature") = false)
    (ha : getUnique p.c.hs b!"authorization" = none) : SigDispatch.check e p w vh = .anon := by
  unfold SigDispatch.check v2Part v4Part
  rw [h2, hpf, hq, ha]
  rfl

end

theorem check_answer (e : Env) (p : Prepared) (w : Wire) (vh : Option Bytes) :
    Answer e p w vh (SigDispatch.check e p w vh) := by
  unfold SigDispatch.check v2Part
  cases h2 : SigV2.check e.hmacSha1 e.base64 (v2Lookup e.auth) e.nowNs (v2Ctx p w.rawPath vh) with
  | accept ak => exact .v2 ak h2
  | reject code => cases code <;> exact .err _
  | pass =>
    -- `v4_check` leaf by leaf, in the order of the code: boundary mismatch (outside the model), POST form, unsorted
    -- `X-Amz-SignedHeaders` (outside), presigned URL whose parameters parse, presigned URL whose parameters do not (the
    -- verifier refuses), header, none of them
    dsimp only
    fun_cases v4Part e p w
    · exact .unmodelled _
    · exact .ofVerdict fun ak r s h => .post ak r s h
    · exact .unmodelled _
    · exact .ofVerdict fun ak r s h => .presigned ak r s h
    · exact .ofVerdict fun ak r s h => .presigned ak r s h
    · exact .ofVerdict fun ak r s h => .header ak r s h
    next hpf hq ha => exact .anon h2 hpf (Bool.eq_false_iff.mpr hq) (Option.not_isSome_iff_eq_none.mp ha)

theorem post_no_provider (hmac : Bytes → Bytes → Bytes) (fields : List (Bytes × Bytes)) (ak r s : Bytes) :
    v4CheckPostSignature hmac none fields ≠ .accept ak r s := by
  intro h
  obtain ⟨_, hl, _⟩ := (post_accept_iff_provider hmac none fields ak r s).mp h
  cases hl

/-! ## "no `Authorization` header", on the wire -/

/-- `Authorization` is neither repeated nor present once in the `OrderedHeaders` of a request exactly when no header
    line of the request is named `authorization` in any spelling of the letters' case -/
theorem noHeader_iff {raw hs : List (Bytes × Bytes)} (h : orderedHeaders raw = some hs) (name : Bytes) :
    (((SigV2.getAll hs name).drop 1).isEmpty = true ∧ getUnique hs name = none) ↔
      ∀ x ∈ raw, lower x.1 ≠ name := by
  -- on the sorted vector both look-ups read the values filed under `name`, in arrival order
  rw [hs_of_orderedHeaders h, hsOf, getUnique_sortByFirst, ← SigV2.sortByFirst_eq_v4, SigV2.getAll_sortByFirst]
  have hnil : ((raw.map fun p => (lower p.1, p.2)).filter fun p => p.1 = name) = [] ↔
      ∀ x ∈ raw, lower x.1 ≠ name := by
    rw [List.filter_eq_nil_iff]
    constructor
    · intro h x hx
      simpa using h _ (List.mem_map_of_mem hx)
    · intro h p hp
      obtain ⟨x, hx, rfl⟩ := List.mem_map.mp hp
      simpa using h x hx
  rw [← hnil]
  cases ((raw.map fun p => (lower p.1, p.2)).filter fun p => p.1 = name) with
  | nil => simp [theOnly]
  | cons a t => cases t <;> simp [theOnly]

/-- what `ops::prepare` puts into the context it hands to the signature check: every early return of `go` is an
    `.error`, and the one `.ok` builds the record from `w` and the ordered headers -/
theorem prepareCtx_go_ok {w : E2E.Wire} {p : E2E.Prepared} {path : Bytes} (h : E2E.prepareCtx.go w path = .ok p) :
    orderedHeaders w.headers = some p.c.hs ∧ p.hasQuery = w.rawQuery.isSome ∧
      p.c.qs = (match w.rawQuery with | some q => orderedQs q | none => []) := by
  revert h
  fun_cases E2E.prepareCtx.go w path
  -- seven early returns, then the leaf that builds the record
  iterate 7 exact nofun
  · intro h
    cases h
    exact ⟨by assumption, rfl, rfl⟩

theorem prepareCtx_ok {w : E2E.Wire} {p : E2E.Prepared} (h : E2E.prepareCtx w = .ok p) :
    orderedHeaders w.headers = some p.c.hs ∧ p.hasQuery = w.rawQuery.isSome ∧
      p.c.qs = (match w.rawQuery with | some q => orderedQs q | none => []) := by
  revert h
  fun_cases E2E.prepareCtx w
  -- an undecodable path or a `Host` value that is no string ends `prepare`; otherwise `go` runs
  · exact nofun
  · exact prepareCtx_go_ok
  · exact nofun
  · exact prepareCtx_go_ok

/-- the two query tests of `check` on the context `prepare` built, read off the raw query of the request -/
theorem noQueryParams_iff {w : E2E.Wire} {p : E2E.Prepared} (h : E2E.prepareCtx w = .ok p) (n m : Bytes) :
    ((p.hasQuery && qsHas p.c.qs n) = false ∧ (p.hasQuery && qsHas p.c.qs m) = false) ↔
      ∀ q, w.rawQuery = some q → qsHas (orderedQs q) n = false ∧ qsHas (orderedQs q) m = false := by
  obtain ⟨-, hq, hqs⟩ := prepareCtx_ok h
  rw [hq, hqs]
  cases w.rawQuery <;> simp

/-- `ops::prepare` up to the signature check answers with anything but an error exactly when `prepare` got that far and
    the check answers so -/
theorem dispatch_eq_iff {e : Env} {w : E2E.Wire} {vh : Option Bytes} {res : Result} (hres : ∀ c, res ≠ .err c)
    (hres' : ∀ y, res ≠ .unmodelled y) :
    dispatch e w vh = res ↔ ∃ p, E2E.prepareCtx w = .ok p ∧ SigDispatch.check e p w vh = res := by
  unfold dispatch
  cases E2E.prepareCtx w with
  | error early =>
    cases early
    · exact ⟨fun h => absurd h.symm (hres _), fun ⟨_, h, _⟩ => nomatch h⟩
    · exact ⟨fun h => absurd h.symm (hres' _), fun ⟨_, h, _⟩ => nomatch h⟩
  | ok p => simp only [Except.ok.injEq, exists_eq_left']

end S3V.SigDispatchThm

/-! ## the service call on a concrete request: the dispatcher, then the order of steps of `Model/Service.lean` -/

namespace S3V.C07
open S3V S3V.SigV4 S3V.SigDispatch S3V.Gen S3V.Service

/-- what the concrete request presents, read off the dispatcher's answer (`none`: outside the model) -/
def presentedOf : Result → Option (Presented Bytes)
  | .anon => some .nothing
  | .accept _ ak _ _ => some (.valid ak)
  | .err _ => some .invalid
  | .unmodelled _ => none

/-- `S3Service::call` for a concrete request: `SignatureContext::check` (the dispatcher), an error ends the request,
    otherwise steps 2–5 of `Model/Service.lean` run with the credentials the dispatcher handed on -/
def concreteCall (cfg : Cfg) (e : Env) (p : E2E.Prepared) (w : E2E.Wire) (vh : Option Bytes) (routeMatches : Bool)
    (op : Option Op) : Option (Service.Outcome Bytes) :=
  match SigDispatch.check e p w vh with
  | .anon => some (afterSig cfg none routeMatches op)
  | .accept _ ak _ _ => some (afterSig cfg (some ak) routeMatches op)
  | .err _ => some (refuse [])
  | .unmodelled _ => none

/-- an answered concrete call ran steps 2–5 with the identity the dispatcher handed on, or, after an error, nothing -/
theorem concreteCall_eq_some {cfg : Cfg} {e : Env} {p : E2E.Prepared} {w : E2E.Wire} {vh : Option Bytes} {rm : Bool}
    {op : Option Op} {out : Service.Outcome Bytes} (h : concreteCall cfg e p w vh rm op = some out) :
    (SigDispatch.check e p w vh = .anon ∧ out = afterSig cfg none rm op) ∨
    (∃ path ak r s, SigDispatch.check e p w vh = .accept path ak r s ∧ out = afterSig cfg (some ak) rm op) ∨
    out.events = [] := by
  unfold concreteCall at h
  split at h
  · exact .inl ⟨‹_›, (Option.some.inj h).symm⟩
  · exact .inr (.inl ⟨_, _, _, _, ‹_›, (Option.some.inj h).symm⟩)
  · cases h; exact .inr (.inr rfl)
  · cases h

end S3V.C07
