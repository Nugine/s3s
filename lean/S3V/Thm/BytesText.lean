import S3V.Base.Bytes
import S3V.Thm.ListLemmas
/-!
# Lemmas: splitting, cutting, prefixes, trimming and percent-decoding of byte strings, for every copy in the models at once

The models stand alone, so `str::split(c)`, `str::split_once(c)` and `str::strip_prefix` are written out in several of
them, with the same recursion under different names. The facts about such a function do not depend on the copy: they
follow from its defining equations. Each scheme below takes those equations as hypotheses about a variable `f`; a model's
copy is an instance by `rfl` (after one rewrite, or `cases` on the recursive call, where the copy is written with a
`match`), and its lemmas are the scheme's. In front of the schemes: a name without the separator determines
`name sep value` (`append_cons_inj`, `keyed_item_inj`).
-/
namespace S3V

theorem append_cons_inj {α : Type} {c : α} : ∀ {a a' r r' : List α}, c ∉ a → c ∉ a' →
    a ++ c :: r = a' ++ c :: r' → a = a' ∧ r = r'
  | [], [], _, _, _, _, h => ⟨rfl, (List.cons.inj h).2⟩
  | [], _ :: _, _, _, _, h', h => absurd (List.cons.inj h).1 (List.ne_of_not_mem_cons h')
  | _ :: _, [], _, _, h', _, h => absurd (List.cons.inj h).1.symm (List.ne_of_not_mem_cons h')
  | _ :: _, _ :: _, _, _, ha, ha', h => by
    obtain ⟨rfl, ht⟩ := List.cons.inj h
    obtain ⟨rfl, hr⟩ := append_cons_inj (List.not_mem_of_not_mem_cons ha) (List.not_mem_of_not_mem_cons ha') ht
    exact ⟨rfl, hr⟩

/-- `name sep value` determines the pair when the names are free of the separator -/
theorem keyed_item_inj {α : Type} {sep : α} {p q : List α × List α} (hp : sep ∉ p.1) (hq : sep ∉ q.1)
    (h : p.1 ++ sep :: p.2 = q.1 ++ sep :: q.2) : p = q :=
  have ⟨e₁, e₂⟩ := append_cons_inj hp hq h
  Prod.ext e₁ e₂

/-! ## split at every separator (`str::split(c)`) -/

/-- `f` cuts a byte string at every `sep`. The second equation speaks of a recursive result with a head (it always has
    one, `ne_nil`): an instance proves it by `rw [f, h]`, whatever the copy does in its unreachable `[]` arm. -/
structure SplitsAt (sep : UInt8) (f : Bytes → List Bytes) : Prop where
  nil : f [] = [[]]
  cons : ∀ c cs g gs, f cs = g :: gs → f (c :: cs) = if c = sep then [] :: g :: gs else (c :: g) :: gs

namespace SplitsAt
variable {sep : UInt8} {f : Bytes → List Bytes} (H : SplitsAt sep f)
include H

theorem ne_nil : ∀ s, f s ≠ []
  | [] => by rw [H.nil]; nofun
  | c :: cs => by
    obtain ⟨g, gs, hg⟩ := List.exists_cons_of_ne_nil (ne_nil cs)
    rw [H.cons c cs g gs hg]; split <;> nofun

theorem cons_eq (c : UInt8) (cs : Bytes) :
    ∃ g gs, f cs = g :: gs ∧ f (c :: cs) = if c = sep then [] :: g :: gs else (c :: g) :: gs := by
  obtain ⟨g, gs, hg⟩ := List.exists_cons_of_ne_nil (H.ne_nil cs)
  exact ⟨g, gs, hg, H.cons c cs g gs hg⟩

theorem of_not_mem : ∀ {a : Bytes}, sep ∉ a → f a = [a]
  | [], _ => H.nil
  | c :: cs, h => by
    obtain ⟨hc, hcs⟩ := List.ne_and_not_mem_of_not_mem_cons h
    rw [H.cons c cs cs [] (of_not_mem hcs), if_neg (Ne.symm hc)]

theorem cons_sep (s : Bytes) : f (sep :: s) = [] :: f s := by
  obtain ⟨g, gs, hg⟩ := List.exists_cons_of_ne_nil (H.ne_nil s)
  rw [H.cons _ _ g gs hg, if_pos rfl, hg]

/-- unlike `append_sep`, `a` may contain `sep` -/
theorem append : ∀ (a b : Bytes), f (a ++ sep :: b) = f a ++ f b
  | [], b => by rw [H.nil]; exact H.cons_sep b
  | c :: a, b => by
    obtain ⟨g, gs, hg, hc⟩ := H.cons_eq c a
    rw [List.cons_append, H.cons c _ g (gs ++ f b) (by rw [append a b, hg]; rfl), hc]
    split <;> rfl

theorem append_sep {a : Bytes} (rest : Bytes) (h : sep ∉ a) : f (a ++ sep :: rest) = a :: f rest := by
  rw [H.append, H.of_not_mem h]; rfl

theorem forall_mem_iff {p : UInt8 → Prop} : ∀ {s : Bytes}, (∀ g ∈ f s, ∀ x ∈ g, p x) ↔ ∀ x ∈ s, x ≠ sep → p x
  | [] => by simp [H.nil]
  | c :: cs => by
    obtain ⟨g, gs, hg, hc⟩ := H.cons_eq c cs
    have ih := forall_mem_iff (p := p) (s := cs)
    rw [hg] at ih
    rw [hc, List.forall_mem_cons (l := cs), ← ih]
    by_cases hcs : c = sep <;> simp [hcs, and_assoc]

theorem not_mem_of_mem {s seg : Bytes} (h : seg ∈ f s) : sep ∉ seg :=
  fun hm => (H.forall_mem_iff (p := (· ≠ sep))).mpr (fun _ _ hx => hx) seg h sep hm rfl

theorem intercalate : ∀ s, List.intercalate [sep] (f s) = s
  | [] => by rw [H.nil]; rfl
  | c :: cs => by
    obtain ⟨g, gs, hg, hc⟩ := H.cons_eq c cs
    have ih := intercalate cs
    rw [hg] at ih
    rw [hc]
    by_cases hcs : c = sep
    · rw [if_pos hcs, hcs, ← ih]; cases gs <;> rfl
    · rw [if_neg hcs, ← ih]; cases gs <;> rfl

/-- `j`: any function that joins with `sep`; the models' `joinWith [sep]` have `h₁`, `h₂` by `rfl` -/
theorem split_join {j : List Bytes → Bytes} (h₁ : ∀ a, j [a] = a)
    (h₂ : ∀ a b t, j (a :: b :: t) = a ++ [sep] ++ j (b :: t)) :
    ∀ {l : List Bytes}, l ≠ [] → (∀ i ∈ l, sep ∉ i) → f (j l) = l
  | [], h, _ => absurd rfl h
  | [a], _, h => by rw [h₁]; exact H.of_not_mem (h a List.mem_cons_self)
  | a :: b :: t, _, h => by
    rw [h₂, List.append_assoc, List.singleton_append, H.append_sep _ (h a List.mem_cons_self),
      split_join h₁ h₂ (List.cons_ne_nil _ _) fun i hi => h i (List.mem_cons_of_mem _ hi)]

/-- lines, each closed by `sep`, in front of a rest -/
theorem lines (rest : Bytes) : ∀ {ls : List Bytes}, (∀ l ∈ ls, sep ∉ l) →
    f (ls.flatMap (· ++ [sep]) ++ rest) = ls ++ f rest
  | [], _ => rfl
  | l :: ls, h => by
    rw [List.flatMap_cons, List.append_assoc, List.append_assoc, List.singleton_append,
      H.append_sep _ (h l List.mem_cons_self), lines rest fun x hx => h x (List.mem_cons_of_mem _ hx)]
    rfl

end SplitsAt

theorem SplitsAt.unique {sep : UInt8} {f g : Bytes → List Bytes} (H : SplitsAt sep f) (G : SplitsAt sep g) :
    ∀ s, f s = g s
  | [] => H.nil.trans G.nil.symm
  | c :: cs => by
    obtain ⟨g, gs, hg, hc⟩ := H.cons_eq c cs
    rw [hc, G.cons c cs g gs (by rw [← SplitsAt.unique H G cs, hg])]

/-! ## cut at the first separator (`str::split_once(c)`) -/

structure CutsAtFirst (f : UInt8 → Bytes → Option (Bytes × Bytes)) : Prop where
  nil : ∀ c, f c [] = none
  cons : ∀ c x xs, f c (x :: xs) = if x = c then some ([], xs) else (f c xs).map fun p => (x :: p.1, p.2)

namespace CutsAtFirst
variable {f : UInt8 → Bytes → Option (Bytes × Bytes)} (H : CutsAtFirst f)
include H

theorem append {c : UInt8} : ∀ {a : Bytes} (r : Bytes), c ∉ a → f c (a ++ c :: r) = some (a, r)
  | [], r, _ => by rw [List.nil_append, H.cons, if_pos rfl]
  | x :: xs, r, h => by
    obtain ⟨hx, hxs⟩ := List.ne_and_not_mem_of_not_mem_cons h
    rw [List.cons_append, H.cons, if_neg (Ne.symm hx), append r hxs]; rfl

theorem eq_none_iff {c : UInt8} : ∀ {s : Bytes}, f c s = none ↔ c ∉ s
  | [] => iff_of_true (H.nil c) (List.not_mem_nil)
  | x :: xs => by
    rw [H.cons]
    by_cases hx : x = c
    · rw [if_pos hx, hx]; exact iff_of_false nofun (fun h => h List.mem_cons_self)
    · rw [if_neg hx, Option.map_eq_none_iff, eq_none_iff (s := xs)]
      exact ⟨fun h hm => (List.mem_cons.mp hm).elim (fun e => hx e.symm) h, fun h hm => h (List.mem_cons_of_mem _ hm)⟩

theorem eq_some_iff {c : UInt8} {s a b : Bytes} : f c s = some (a, b) ↔ s = a ++ c :: b ∧ c ∉ a := by
  constructor
  · intro h
    induction s generalizing a with
    | nil => rw [H.nil] at h; cases h
    | cons x xs ih =>
      rw [H.cons] at h
      by_cases hx : x = c
      · rw [if_pos hx] at h; cases h; exact ⟨by rw [hx]; rfl, nofun⟩
      · rw [if_neg hx] at h
        obtain ⟨⟨a', b'⟩, hp, he⟩ := Option.map_eq_some_iff.mp h
        cases he
        obtain ⟨rfl, hn⟩ := ih hp
        exact ⟨rfl, fun hm => (List.mem_cons.mp hm).elim (fun e => hx e.symm) hn⟩
  · rintro ⟨rfl, hn⟩; exact H.append b hn

theorem eq_takeWhile (c : UInt8) : ∀ s : Bytes, f c s =
    if (s.dropWhile (· ≠ c)).head? = some c then some (s.takeWhile (· ≠ c), (s.dropWhile (· ≠ c)).drop 1) else none
  | [] => H.nil c
  | x :: xs => by
    rw [H.cons, eq_takeWhile c xs, List.takeWhile_cons, List.dropWhile_cons]
    by_cases hx : x = c
    · simp [hx]
    · simp only [if_neg hx, decide_eq_true (Ne.intro hx), if_true]
      split <;> rfl

end CutsAtFirst

theorem CutsAtFirst.unique {f g : UInt8 → Bytes → Option (Bytes × Bytes)} (H : CutsAtFirst f) (G : CutsAtFirst g)
    (c : UInt8) : ∀ s, f c s = g c s
  | [] => (H.nil c).trans (G.nil c).symm
  | x :: xs => by rw [H.cons, G.cons, CutsAtFirst.unique H G c xs]

/-! ## take a prefix off (`strip_prefix`, `starts_with`) -/

/-- `List.isPrefixOf_iff_prefix` at `Bytes`. Finding `LawfulBEq UInt8` is slow, so the instance is found once, here. -/
theorem bytes_isPrefixOf_iff {p l : Bytes} : p.isPrefixOf l = true ↔ p <+: l :=
  List.isPrefixOf_iff_prefix

structure StripsPrefix (f : Bytes → Bytes → Option Bytes) : Prop where
  nil : ∀ s, f [] s = some s
  cons_nil : ∀ a p, f (a :: p) [] = none
  cons_cons : ∀ a p b s, f (a :: p) (b :: s) = if a = b then f p s else none

namespace StripsPrefix
variable {f : Bytes → Bytes → Option Bytes} (H : StripsPrefix f)
include H

theorem iff : ∀ {p s r : Bytes}, f p s = some r ↔ s = p ++ r
  | [], s, r => by rw [H.nil, Option.some.injEq, List.nil_append]
  | a :: p, [], r => by rw [H.cons_nil]; exact iff_of_false nofun nofun
  | a :: p, b :: s, r => by
    rw [H.cons_cons, List.cons_append, List.cons.injEq]
    by_cases hab : a = b
    · rw [if_pos hab, iff]; exact ⟨fun h => ⟨hab.symm, h⟩, fun h => h.2⟩
    · rw [if_neg hab]; exact iff_of_false nofun (fun h => hab h.1.symm)

theorem append (p r : Bytes) : f p (p ++ r) = some r := H.iff.mpr rfl

theorem append_append : ∀ p q s : Bytes, f (p ++ q) (p ++ s) = f q s
  | [], _, _ => rfl
  | a :: p, q, s => by rw [List.cons_append, List.cons_append, H.cons_cons, if_pos rfl, append_append p q s]

end StripsPrefix

theorem StripsPrefix.unique {f g : Bytes → Bytes → Option Bytes} (H : StripsPrefix f) (G : StripsPrefix g) (p s : Bytes) :
    f p s = g p s :=
  Option.ext fun _ => H.iff.trans G.iff.symm

/-! ## trim at both ends (`str::trim`, `trim_ows`)

Every trimming of the models and specifications is written `((s.dropWhile p).reverse.dropWhile p).reverse` for its own
class `p` of blanks: it is `trimBy p` by `rfl`. -/

def trimBy (p : UInt8 → Bool) (s : Bytes) : Bytes := ((s.dropWhile p).reverse.dropWhile p).reverse

theorem trimBy_sublist (p : UInt8 → Bool) (s : Bytes) : (trimBy p s).Sublist s :=
  (List.reverse_sublist.mp (by rw [trimBy, List.reverse_reverse]; exact List.dropWhile_sublist p)).trans
    (List.dropWhile_sublist p)

/-- blanks at the edges are not seen -/
theorem trimBy_edge {p : UInt8 → Bool} {ws₁ ws₂ : Bytes} (v : Bytes) (h₁ : ∀ c ∈ ws₁, p c = true)
    (h₂ : ∀ c ∈ ws₂, p c = true) : trimBy p (ws₁ ++ v ++ ws₂) = trimBy p v := by
  unfold trimBy
  congr 1
  rw [List.append_assoc, List.dropWhile_append_of_pos h₁, List.dropWhile_append]
  split
  · rename_i he
    rw [dropWhile_all h₂, List.isEmpty_iff.mp he]
  · rw [List.reverse_append, List.dropWhile_append_of_pos (fun c hc => h₂ c (List.mem_reverse.mp hc))]

theorem trimBy_of_no_blank {p : UInt8 → Bool} {s : Bytes} (h : ∀ c ∈ s, p c = false) : trimBy p s = s := by
  have drop : ∀ l : Bytes, (∀ c ∈ l, p c = false) → l.dropWhile p = l
    | [], _ => rfl
    | c :: _, hl => List.dropWhile_cons_of_neg (by rw [hl c List.mem_cons_self]; nofun)
  rw [trimBy, drop s h, drop _ fun c hc => h c (List.mem_reverse.mp hc), List.reverse_reverse]

/-- two classes of blanks that agree on the bytes of `s` -/
theorem trimBy_congr {p q : UInt8 → Bool} {s : Bytes} (h : ∀ c ∈ s, p c = q c) : trimBy p s = trimBy q s := by
  unfold trimBy
  rw [dropWhile_congr h, dropWhile_congr fun c hc => h c ((List.dropWhile_sublist q).subset (List.mem_reverse.mp hc))]

/-! ## lenient percent-decoding -/

/-- `dec` decodes percent-escapes leniently (`percent_decode`, `urlencoding::decode_binary`) with the digit reader `hex`:
    `%XY` with two hex digits becomes the byte, every byte but `%` is copied. What a copy does with a `%` that opens no
    escape is not asked: the facts below are about text in which every `%` does. -/
structure LenientDecode (hex : UInt8 → Option Nat) (dec : Bytes → Bytes) : Prop where
  nil : dec [] = []
  lit : ∀ {c : UInt8} (t : Bytes), c ≠ 37 → dec (c :: t) = c :: dec t
  esc : ∀ {a b : UInt8} {x y : Nat} (t : Bytes), hex a = some x → hex b = some y →
    dec (37 :: a :: b :: t) = UInt8.ofNat (x * 16 + y) :: dec t

namespace LenientDecode
variable {hex : UInt8 → Option Nat} {dec : Bytes → Bytes} (H : LenientDecode hex dec)
include H

theorem esc_byte {c a b : UInt8} {x y : Nat} (t : Bytes) (hx : hex a = some x) (hy : hex b = some y)
    (h : x * 16 + y = c.toNat) : dec (37 :: a :: b :: t) = c :: dec t := by
  rw [H.esc t hx hy, h, UInt8.ofNat_toNat]

theorem append_noPct : ∀ {p : Bytes}, (37 : UInt8) ∉ p → ∀ s, dec (p ++ s) = p ++ dec s
  | [], _, _ => rfl
  | c :: p, h, s => by
    obtain ⟨hc, hp⟩ := List.ne_and_not_mem_of_not_mem_cons h
    rw [List.cons_append, H.lit _ (Ne.symm hc), append_noPct hp s, List.cons_append]

theorem noPct {p : Bytes} (h : (37 : UInt8) ∉ p) : dec p = p := by
  have := H.append_noPct h []
  rwa [List.append_nil, H.nil, List.append_nil] at this

theorem decode_flatMap {enc : UInt8 → Bytes}
    (henc : ∀ c, (enc c = [c] ∧ c ≠ 37) ∨ ∃ a b x y, enc c = [37, a, b] ∧ hex a = some x ∧ hex b = some y ∧
      x * 16 + y = c.toNat) : ∀ s : Bytes, dec (s.flatMap enc) = s
  | [] => H.nil
  | c :: s => by
    rw [List.flatMap_cons]
    rcases henc c with ⟨e, hc⟩ | ⟨a, b, x, y, e, hx, hy, hxy⟩
    · rw [e, List.singleton_append, H.lit _ hc, decode_flatMap henc s]
    · rw [e, List.cons_append, List.cons_append, List.cons_append, List.nil_append, H.esc_byte _ hx hy hxy,
        decode_flatMap henc s]

end LenientDecode

end S3V
