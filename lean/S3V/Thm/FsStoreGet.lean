import S3V.Thm.FsStoreNames
/-!
# C18: `get_object` (whole and ranged reads) refines the store
-/
namespace S3V.FsStore
open S3V.StoreSpec

/-- `Range::check` is the RFC 9110 interval (`rfcInterval`), for every range and every length -/
theorem rangeCheck_eq (r : Range) (len : Nat) : rangeCheck r len = DtoSpec.rfcInterval (toByteRange r) len := by
  cases r with
  | int first last =>
    by_cases hf : first < len
    case neg =>
      have hge : first ≥ len := Nat.le_of_not_lt hf
      cases last <;> simp [rangeCheck, DtoSpec.rfcInterval, toByteRange, hf, hge]
    have hge : ¬ first ≥ len := Nat.not_le.mpr hf
    cases last with
    | none => simp only [rangeCheck, DtoSpec.rfcInterval, toByteRange, hf, hge, if_false, if_true]
    | some l =>
      -- cutting `l` at the last byte does not change whether it lies before `first`, and gives the exclusive end
      have hcut : (first > min l (len - 1)) ↔ l < first := by omega
      have hend : min l (len - 1) + 1 = if l ≥ len then len else l + 1 := by split <;> omega
      simp only [rangeCheck, DtoSpec.rfcInterval, toByteRange, hf, hge, if_false, if_true, hcut, hend]
  | suffix n =>
    have hmin : min n len = if n > len then len else n := by split <;> omega
    simp only [rangeCheck, DtoSpec.rfcInterval, toByteRange, hmin]

/-- `get_object` may be compared with the store, for every range: names agree; for admissible names, when the bucket
    exists the path is not a leftover directory [else fs:leftover-directory]. A missing bucket is inside
    (`NoSuchBucket` on both sides: code since cc244fc, class fs:missing-bucket-reported-as-missing-key) -/
def GetOk (s : State) (b k : Bytes) : Prop :=
  NameOk b ∧ CanonKey k ∧ sideTooLong b k false = false ∧
  (bucketOk b = true →
    match keyPath k with
    | none => True
    | some p =>
      match s.tree b with
      | none => True
      | some t => ReadableNode (t.node p))

instance (s : State) (b k : Bytes) : Decidable (GetOk s b k) := by
  unfold GetOk; decide_pred

theorem get_refines (H : Hashes) (dl : Nat) {s : State} (hi : Inv s) {b k : Bytes} {range : Option Range}
    (hg : GetOk s b k) : Refines H dl s (.getObject b k range) := by
  obtain ⟨hname, hcanon, hshort, hbucket⟩ := hg
  rcases object_cases hi hname hcanon hbucket with hb | ⟨hb, hk | ⟨p, hk, _, _, ht | ⟨t, ht, hn | ⟨c, hn⟩⟩⟩⟩
  -- both refuse the bucket name; both refuse the key; the bucket is missing; the key is missing; a file is there
  · simp [Refines, step, StoreSpec.step, objPath, hb, hi]
  · simp [Refines, step, StoreSpec.step, objPath, hb, hk, hi]
  · simp [Refines, step, StoreSpec.step, objPath, State.node, hb, hk, ht, hi]
  · simp [Refines, step, StoreSpec.step, objPath, State.node, hb, hk, ht, hn, hi]
  have hload := loadMeta_eq hi hshort (b := b) (k := k)
  cases range with
  | none => simp [Refines, step, StoreSpec.step, objPath, State.node, hb, hk, ht, hn, hi, hload, hshort, readObj]
  | some r =>
    cases hrc : DtoSpec.rfcInterval (toByteRange r) c.length with
    | none => simp [Refines, step, StoreSpec.step, objPath, State.node, hb, hk, ht, hn, hi, readObj, rangeCheck_eq, hrc]
    | some se =>
      simp [Refines, step, StoreSpec.step, objPath, State.node, hb, hk, ht, hn, hi, readObj, rangeCheck_eq, hrc, hload,
        hshort, slice]

end S3V.FsStore
