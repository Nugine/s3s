import S3V.Spec.Policy
/-!
# Lemmas: the IAM grammar by itself

No reader here: the string-valued grammar lies inside the published one (`violation_mono`), a document in it has the
stated shapes (`must_of_grammar`), and a `Version` / `Effect` in object form breaks them. A document is in the grammar
when every counter of blocks (`atMostOne`, `exactlyOne`) answers `none`; the two `…_none_iff` say what that means for the
list counted, and both facts are read off that form.
-/
namespace S3V.Policy
open S3V S3V.PolicySpec

theorem atMostOne_none_iff {α : Type} (g : α → Option Viol) (many : Viol) (vs : List α) :
    atMostOne g many vs = none ↔ vs.length ≤ 1 ∧ ∀ v ∈ vs, g v = none := by
  match vs with
  | [] => simp [atMostOne]
  | [v] => simp [atMostOne]
  | v :: w :: rest => simp [atMostOne]

theorem exactlyOne_none_iff {α : Type} (g : α → Option Viol) (missing many : Viol) (vs : List α) :
    exactlyOne missing g many vs = none ↔ ∃ v, vs = [v] ∧ g v = none := by
  match vs with
  | [] => simp [exactlyOne]
  | [v] => simp [exactlyOne]
  | v :: w :: rest => simp [exactlyOne]

theorem statementsValueViol_none_iff (l : Bool) (v : Json) :
    statementsValueViol l v = none ↔ ∀ x ∈ stmtItems v, stmtViol l x = none := by
  cases v with
  | obj ms => simp [statementsValueViol, stmtItems]
  | arr items => simp [statementsValueViol, stmtItems]
  | _ => simp [statementsValueViol, stmtItems, stmtViol]

/-! ## the published grammar contains the string-valued one -/

theorem condScalarOk_mono (v : Json) (h : condScalarOk false v = true) : condScalarOk true v = true := by
  cases v <;> simp_all [condScalarOk]

theorem condValueOk_mono (v : Json) (h : condValueOk false v = true) : condValueOk true v = true := by
  cases v with
  | arr items =>
    simp only [condValueOk, List.all_eq_true] at h ⊢
    exact fun x hx => condScalarOk_mono x (h x hx)
  | _ => simp_all [condValueOk, condScalarOk]

theorem condKeysOk_mono (v : Json) (h : condKeysOk false v = true) : condKeysOk true v = true := by
  cases v with
  | obj kvs =>
    simp only [condKeysOk, List.all_eq_true] at h ⊢
    exact fun x hx => condValueOk_mono _ (h x hx)
  | _ => simp [condKeysOk] at h

theorem conditionValueViol_mono (v : Json) (h : conditionValueViol false v = none) :
    conditionValueViol true v = none := by
  cases v with
  | null => rfl
  | obj ops =>
    simp only [conditionValueViol, ite_eq_left_iff, reduceCtorEq, imp_false, Classical.not_not, List.all_eq_true] at h ⊢
    exact fun x hx => condKeysOk_mono _ (h x hx)
  | _ => simp [conditionValueViol] at h

theorem stmtViol_mono (x : Json) (h : stmtViol false x = none) : stmtViol true x = none := by
  cases x with
  | obj ms =>
    simp only [stmtViol, Option.or_eq_none_iff, atMostOne_none_iff] at h ⊢
    exact ⟨h.1, h.2.1, h.2.2.1, h.2.2.2.1, h.2.2.2.2.1,
      h.2.2.2.2.2.imp_right fun hc v hv => conditionValueViol_mono v (hc v hv)⟩
  | _ => simp [stmtViol] at h

theorem inStringGrammar_iff (j : Json) : inStringGrammar j = true ↔ violation false j = none := by
  rw [inStringGrammar, Option.isNone_iff_eq_none]

theorem violation_mono (j : Json) (h : violation false j = none) : violation true j = none := by
  cases j with
  | obj ms =>
    simp only [violation, Option.or_eq_none_iff, exactlyOne_none_iff, statementsValueViol_none_iff] at h ⊢
    exact ⟨h.1, h.2.1, h.2.2.imp fun v => And.imp_right fun hv x hx => stmtViol_mono x (hv x hx)⟩
  | arr _ => simp [violation] at h
  | _ => simp [violation] at h

/-! ### the grammar implies the stated shapes

The stated shapes (`headMust`, `stmtMust`) are consequences of the grammar, and every accepted
document is in the grammar (`fromJson?_some_iff`): necessary conditions for acceptance that hold with
no assumption about the rest of the document. -/

theorem stmtMust_of_grammar (x : Json) (h : stmtViol false x = none) : stmtMust x = true := by
  cases x with
  | obj ms =>
    simp only [stmtViol, Option.or_eq_none_iff, atMostOne_none_iff, exactlyOne_none_iff] at h
    obtain ⟨⟨s1, s2⟩, ⟨p1, p2⟩, ⟨ve, e1, e2⟩, ⟨ka, a1, a2⟩, ⟨kr, r1, r2⟩, c1, c2⟩ := h
    simp only [ruleMemberViol, ite_eq_left_iff, reduceCtorEq, imp_false, Bool.not_eq_true, Bool.not_eq_false] at a2 r2
    have hp : ∀ kv ∈ membersOf2 kPrincipal kNotPrincipal ms, principalValueOk kv.2 = true := fun kv hkv => by
      simpa [principalMemberViol] using p2 kv hkv
    simp only [stmtMust, e1, a1, r1, List.head?_cons, a2, r2, Bool.and_eq_true, decide_eq_true_eq, List.all_eq_true,
      Option.isNone_iff_eq_none, List.mem_singleton, forall_eq, and_assoc]
    -- the thirteen conjuncts of `stmtMust`, in its order; the `Effect`, action and resource lists are the singletons of
    -- `e1`, `a1`, `r1`, which settles their length and head conjuncts (`Nat.le_refl`, `rfl`, `trivial`)
    exact ⟨s1, Nat.le_refl _, c1, s2, rfl, e2, trivial, trivial, c2, p1, Nat.le_refl _, Nat.le_refl _, hp⟩
  | _ => simp [stmtViol] at h

theorem must_of_grammar (j : Json) (h : violation false j = none) :
    headMust j = true ∧ ∀ x ∈ statementNodes j, stmtMust x = true := by
  cases j with
  | obj ms =>
    simp only [violation, Option.or_eq_none_iff, atMostOne_none_iff, exactlyOne_none_iff,
      statementsValueViol_none_iff] at h
    obtain ⟨⟨v1, v2⟩, ⟨i1, i2⟩, vs, hs, hvs⟩ := h
    constructor
    · simp only [headMust, hs, Bool.and_eq_true, decide_eq_true_eq, List.all_eq_true, Option.isNone_iff_eq_none,
        and_assoc]
      -- the six conjuncts of `headMust`, in its order
      exact ⟨v1, i1, Nat.le_refl _, v2, i2, rfl⟩
    · simp only [statementNodes, hs, List.flatMap_cons, List.flatMap_nil, List.append_nil]
      exact fun x hx => stmtMust_of_grammar x (hvs x hx)
  | _ => simp [violation] at h

theorem enumObjectForm_viol (v : Json) (h : enumObjectForm v = true) :
    versionValueViol v = some .enumObjectForm ∧ effectValueViol v = some .enumObjectForm := by
  revert h
  fun_cases enumObjectForm v
  · exact fun _ => ⟨rfl, rfl⟩
  · exact fun h => nomatch h

theorem headMust_false_of_enumObjectForm (ms : List (Bytes × Json)) (v : Json) (hv : v ∈ valuesOf kVersion ms)
    (he : enumObjectForm v = true) : headMust (.obj ms) = false := by
  have hf : (valuesOf kVersion ms).all (fun v => (versionValueViol v).isNone) = false :=
    List.all_eq_false.mpr ⟨v, hv, by rw [(enumObjectForm_viol v he).1]; simp⟩
  simp [headMust, hf]

theorem stmtMust_false_of_enumObjectForm (ms : List (Bytes × Json)) (v : Json) (hv : v ∈ valuesOf kEffect ms)
    (he : enumObjectForm v = true) : stmtMust (.obj ms) = false := by
  have hf : (valuesOf kEffect ms).all (fun v => (effectValueViol v).isNone) = false :=
    List.all_eq_false.mpr ⟨v, hv, by rw [(enumObjectForm_viol v he).2]; simp⟩
  simp [stmtMust, hf]

end S3V.Policy
