import S3V.Model.Path
import S3V.Thm.PathHost
/-!
# Lemmas for C12: path parsing (`parse_path_style` vs `parse_virtual_hosted_style`)

The two parsers agree on the object and bucket forms (`style_equiv`, `style_equiv_bucket`); `target b k` is the `S3Path` a bucket
and a possibly empty key mean, and `parseVirtualHostedStyle_valid` is the host-style parser on a valid bucket as one equation
over it.
-/
namespace S3V.Path
open S3V S3V.Net S3V.Host

theorem stripSlash_cons (r : Bytes) : stripSlash (slash :: r) = some r := by simp [stripSlash]

/-- both styles on the object / trailing-slash forms -/
theorem style_equiv (b k : Bytes) (h : slash ∉ b) :
    parsePathStyle (slash :: (b ++ slash :: k)) = parseVirtualHostedStyle (some b) (slash :: k) := by
  unfold parsePathStyle parseVirtualHostedStyle
  simp only [stripSlash_cons]
  have hne : (b ++ slash :: k).isEmpty = false := by cases b <;> simp
  simp only [hne, splitBucketKey, splitOnce_cuts.append k h]
  cases k with
  | nil => simp
  | cons x xs => simp

/-- both styles on the bucket-only form -/
theorem style_equiv_bucket (b : Bytes) (h : slash ∉ b) (hne : b ≠ []) :
    parsePathStyle (slash :: b) = parseVirtualHostedStyle (some b) [slash] := by
  unfold parsePathStyle parseVirtualHostedStyle
  simp only [stripSlash_cons]
  have hne' : b.isEmpty = false := by cases b <;> simp_all
  simp [hne', splitBucketKey, splitOnce_cuts.eq_none_iff.mpr h]

end S3V.Path

/-- the `S3Path` that a request for bucket `b`, key `k` means. In namespace `S3V.RouteCompose` because the statements of
    `Props/C01Compose` name it so; it stands here because `parseVirtualHostedStyle_valid` is stated with it. -/
def S3V.RouteCompose.target (b k : Bytes) : S3V.Path.S3Path := if k = [] then .bucket b else .object b k

namespace S3V.Path
open S3V S3V.Net S3V.Host S3V.RouteCompose

theorem target_of_pos {k : Bytes} (hk : 0 < k.length) (b : Bytes) : target b k = .object b k :=
  if_neg (List.ne_nil_of_length_pos hk)

/-- `parse_virtual_hosted_style` on a valid bucket name: the key decides -/
theorem parseVirtualHostedStyle_valid {b : Bytes} (hb : checkBucketName b = true) (k : Bytes) :
    parseVirtualHostedStyle (some b) (slash :: k) =
      if k.length ≤ 1024 then .ok (target b k) else .error .keyTooLong := by
  cases k with
  | nil => simp [parseVirtualHostedStyle, stripSlash_cons, hb, target]
  | cons c r =>
    by_cases hk : (c :: r).length ≤ 1024
    -- after the unfolding what is left is `checkKey`'s bound on the key, `r.length + 1 ≤ 1024`, or its negation
    · rw [if_pos hk]; simp [parseVirtualHostedStyle, stripSlash_cons, hb, checkKey, target]; simpa using hk
    · rw [if_neg hk]; simp [parseVirtualHostedStyle, stripSlash_cons, hb, checkKey]; simpa using hk

end S3V.Path
