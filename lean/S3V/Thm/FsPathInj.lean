import S3V.Thm.FsPathNames
/-!
# Lemmas: the bookkeeping names determine what they belong to (C17)

Every variable part of a name (an encoded bucket or key, a UUID, a number) is free of `.` and is followed by a `.` of the fixed
text, so it ends at the first `.` (`append_cons_inj` of `Thm/BytesText`); names of different kinds differ inside their fixed
prefixes (`kinds_disjoint`). Assumption on the encoder (`base64_simd::URL_SAFE_NO_PAD`): injective, output without `.`; UUID
texts without `.` (`NoDot`).
-/
namespace S3V.FsPath

private theorem ne_of_getElem? {l l' : Bytes} {i : Nat} {a b : UInt8} (h : l[i]? = some a) (h' : l'[i]? = some b)
    (hab : a ≠ b) : l ≠ l' :=
  fun e => hab (Option.some.inj (by rw [← h, ← h', e]))

def NoDot (s : Bytes) : Prop := (46 : UInt8) ∉ s

/-- the tail after the encoded key: `[.upload-<uuid>].metadata.json` or `.internal.json`, without its first `.` -/
def metaTail (u : Option Bytes) : Bytes :=
  match u with
  | some u => sUpload.tail ++ u ++ sMetadataJson
  | none => sMetadataJson.tail
def infoTail : Bytes := sInternalJson.tail

theorem metadataName_eq (enc : Bytes → Bytes) (b k : Bytes) (u : Option Bytes) :
    metadataName enc b k u =
      sBucket ++ (enc b ++ 46 :: (sObject.tail ++ (enc k ++ 46 :: metaTail u))) := by
  cases u with
  | none =>
    simp only [metadataName, List.append_assoc, List.nil_append]
    rfl
  | some x =>
    simp only [metadataName, metaTail, List.append_assoc]
    rfl

theorem internalInfoName_eq (enc : Bytes → Bytes) (b k : Bytes) :
    internalInfoName enc b k =
      sBucket ++ (enc b ++ 46 :: (sObject.tail ++ (enc k ++ 46 :: infoTail))) := by
  simp only [internalInfoName, List.append_assoc]
  rfl

/-- the frame common to metadata and internal-info names, `.bucket-<enc b>.object-<enc k>.<tail>`, determines `enc b`, `enc k`
    and the tail -/
theorem objName_inj {enc : Bytes → Bytes} (hd : ∀ x, NoDot (enc x)) {b k b' k' t t' : Bytes}
    (h : sBucket ++ (enc b ++ 46 :: (sObject.tail ++ (enc k ++ 46 :: t))) =
         sBucket ++ (enc b' ++ 46 :: (sObject.tail ++ (enc k' ++ 46 :: t')))) :
    enc b = enc b' ∧ enc k = enc k' ∧ t = t' := by
  have h1 := List.append_cancel_left h
  obtain ⟨hb, h2⟩ := append_cons_inj (hd b) (hd b') h1
  have h3 := List.append_cancel_left h2
  obtain ⟨hk, h4⟩ := append_cons_inj (hd k) (hd k') h3
  exact ⟨hb, hk, h4⟩

theorem metaTail_inj {u u' : Option Bytes} (hu : ∀ x, u = some x → NoDot x) (hu' : ∀ x, u' = some x → NoDot x)
    (h : metaTail u = metaTail u') : u = u' := by
  -- with an upload the tail begins `u`pload-, without it `m`etadata
  cases u with
  | none =>
    cases u' with
    | none => rfl
    | some y => exact absurd h (ne_of_getElem? (i := 0) rfl rfl (by decide))
  | some x =>
    cases u' with
    | none => exact absurd h (ne_of_getElem? (i := 0) rfl rfl (by decide))
    | some y =>
      simp only [metaTail, List.append_assoc] at h
      rw [(append_cons_inj (hu x rfl) (hu' y rfl) (List.append_cancel_left h)).1]

theorem metadataName_inj {enc : Bytes → Bytes} (hi : ∀ x y, enc x = enc y → x = y) (hd : ∀ x, NoDot (enc x))
    {b k b' k' : Bytes} {u u' : Option Bytes} (hu : ∀ x, u = some x → NoDot x) (hu' : ∀ x, u' = some x → NoDot x)
    (h : metadataName enc b k u = metadataName enc b' k' u') : b = b' ∧ k = k' ∧ u = u' := by
  rw [metadataName_eq, metadataName_eq] at h
  obtain ⟨hb, hk, ht⟩ := objName_inj hd h
  exact ⟨hi _ _ hb, hi _ _ hk, metaTail_inj hu hu' ht⟩

theorem internalInfoName_inj {enc : Bytes → Bytes} (hi : ∀ x y, enc x = enc y → x = y) (hd : ∀ x, NoDot (enc x))
    {b k b' k' : Bytes} (h : internalInfoName enc b k = internalInfoName enc b' k') : b = b' ∧ k = k' := by
  rw [internalInfoName_eq, internalInfoName_eq] at h
  obtain ⟨hb, hk, _⟩ := objName_inj hd h
  exact ⟨hi _ _ hb, hi _ _ hk⟩

theorem metadataName_ne_internalInfoName {enc : Bytes → Bytes} (hd : ∀ x, NoDot (enc x))
    (b k b' k' : Bytes) (u : Option Bytes) : metadataName enc b k u ≠ internalInfoName enc b' k' := by
  intro h
  rw [metadataName_eq, internalInfoName_eq] at h
  -- after the encoded key a metadata name goes on `u`pload- or `m`etadata, an internal-info name `i`nternal
  have ht := (objName_inj hd h).2.2
  cases u <;> exact ne_of_getElem? (i := 0) rfl rfl (by decide) ht

theorem uploadInfoName_inj {u u' : Bytes} (hu : NoDot u) (hu' : NoDot u')
    (h : uploadInfoName u = uploadInfoName u') : u = u' := by
  simp only [uploadInfoName, List.append_assoc] at h
  exact (append_cons_inj hu hu' (List.append_cancel_left h)).1

theorem noDot_natDigits (n : Nat) : NoDot (natDigits n) := not_mem_natDigits rfl n

theorem natDigits_inj {a b : Nat} (h : natDigits a = natDigits b) : a = b := fmtDec_inj h

theorem natDigits_head_ne_minus (n : Nat) : (natDigits n).head? ≠ some 45 :=
  fun h => not_mem_natDigits rfl n (List.mem_of_mem_head? h)

theorem intText_inj {a b : Int} (h : intText a = intText b) : a = b := by
  unfold intText at h
  by_cases ha : a < 0 <;> by_cases hb : b < 0 <;> simp only [ha, hb, ↓reduceIte] at h
  · have := natDigits_inj (List.cons.inj h).2
    omega
  · exact absurd (by rw [← h]; rfl) (natDigits_head_ne_minus b.natAbs)
  · exact absurd (by rw [h]; rfl) (natDigits_head_ne_minus a.natAbs)
  · have := natDigits_inj h
    omega

theorem uploadPartName_inj {u u' : Bytes} {n n' : Int} (hu : NoDot u) (hu' : NoDot u')
    (h : uploadPartName u n = uploadPartName u' n') : u = u' ∧ n = n' := by
  simp only [uploadPartName, uploadPartPrefix, List.append_assoc] at h
  have h1 := List.append_cancel_left h
  have : ∀ t, sPart ++ t = 46 :: (sPart.tail ++ t) := fun _ => rfl
  rw [this, this] at h1
  obtain ⟨hu1, h2⟩ := append_cons_inj hu hu' h1
  exact ⟨hu1, intText_inj (List.append_cancel_left h2)⟩

theorem tmpName_inj {a b : Nat} (h : tmpName a = tmpName b) : a = b := by
  simp only [tmpName, List.append_assoc] at h
  exact natDigits_inj (append_cons_inj (noDot_natDigits a) (noDot_natDigits b) (List.append_cancel_left h)).1

/-- names of different kinds never coincide: they differ within their fixed prefixes — at the byte after the `.`
    (`b`ucket, `u`pload, `t`mp), the record of an upload and its parts at `.upload-` / `.upload_` -/
theorem kinds_disjoint (enc : Bytes → Bytes) (b k : Bytes) (uo : Option Bytes) (u u' : Bytes) (n : Int) (c : Nat) :
    metadataName enc b k uo ≠ uploadInfoName u ∧ metadataName enc b k uo ≠ uploadPartName u n ∧
    metadataName enc b k uo ≠ tmpName c ∧ internalInfoName enc b k ≠ uploadInfoName u ∧
    internalInfoName enc b k ≠ uploadPartName u n ∧ internalInfoName enc b k ≠ tmpName c ∧
    uploadInfoName u ≠ uploadPartName u' n ∧ uploadInfoName u ≠ tmpName c ∧ uploadPartName u n ≠ tmpName c := by
  have hm : (metadataName enc b k uo)[1]? = some 98 := rfl
  have hi : (internalInfoName enc b k)[1]? = some 98 := rfl
  have hr : (uploadInfoName u)[1]? = some 117 := rfl
  have hp : (uploadPartName u n)[1]? = some 117 := rfl
  have ht : (tmpName c)[1]? = some 116 := rfl
  have hr7 : (uploadInfoName u)[7]? = some 45 := rfl
  have hp7 : (uploadPartName u' n)[7]? = some 95 := rfl
  exact ⟨ne_of_getElem? hm hr (by decide), ne_of_getElem? hm hp (by decide), ne_of_getElem? hm ht (by decide),
    ne_of_getElem? hi hr (by decide), ne_of_getElem? hi hp (by decide), ne_of_getElem? hi ht (by decide),
    ne_of_getElem? hr7 hp7 (by decide), ne_of_getElem? hr ht (by decide), ne_of_getElem? hp ht (by decide)⟩

end S3V.FsPath
