import S3V.Model.HttpBody
import S3V.Thm.XmlTokenEnc
/-!
# Lemmas: the body helpers of `http/de.rs` / `http/ser.rs` over the XML codec

* the reader skips the XML declaration `set_xml_body` writes (`tokenize_decl_write`);
* what `T::serialize` writes under any root is a well-nested event sequence (`WN_encodeDoc` of `XmlTokenEnc.lean`), so
  `deserialize_xml` over the bytes of `set_xml_body[_no_decl]` sees the written events (`deEvents_setXmlBody`);
* that body is never empty (`setXmlBody_ne_nil`);
* hence `deserialize_xml` over that body gives a value back when the document decoder does on the events
  (`set_xml_body_roundtrip`), and so do `take_xml_body` / `take_opt_xml_body`, which on a non-empty body are
  `deserialize_xml` (`take_xml_body_roundtrip`).
-/
namespace S3V.Xml

/-- `?xml version="1.0" encoding="UTF-8"?>` — the declaration without its `<` -/
def declTail : Bytes := xmlDecl.tail

/-- quick-xml reads `<?xml version="1.0" encoding="UTF-8"?>` as one `Decl` event, whatever follows -/
theorem markup_decl (w : Bytes) (st : List Bytes) : markup (declTail ++ w) st = some (.decl, w, st) :=
  -- the scan for `?>` and the test for `xml` run over the bytes of `declTail` alone
  rfl

theorem tokenize_decl_write (evs : List Ev) (h : WN [] evs) :
    deEvents (tokenize (xmlDecl ++ write evs)) = evs := by
  have hb : stripBom (xmlDecl ++ write evs) = xmlDecl ++ write evs := by
    simp [xmlDecl, stripBom]
  unfold tokenize
  -- one round of the loop reads the declaration (`tokLoop_round` at `markup_decl`), the rest is `tokLoop_write`; the fuel
  -- is one more than that needs
  rw [hb, show xmlDecl = cLt :: declTail by decide]
  have hr := tokLoop_round ((declTail ++ write evs).length + 1) [] (declTail ++ write evs) [] [] .decl (write evs)
    (by simp) (markup_decl _ _)
  simp only [List.nil_append] at hr
  have hl : (cLt :: declTail ++ write evs).length + 1 = (declTail ++ write evs).length + 1 + 1 := by simp
  have hw := tokLoop_write evs [] ((declTail ++ write evs).length + 1) h (by simp; omega)
  rw [hl, List.cons_append, hr, hw]
  simp only [if_true, List.nil_append, deEvents, deEventsAt]
  exact deEvents_toQ evs [] h

end S3V.Xml

namespace S3V.HttpBody
open S3V S3V.Xml

theorem deEvents_setXmlBody (decl : Bool) (root : SerRoot) (s : Sch) (v : Val) (hr : root.tagsGood = true)
    (hs : s.tagsGood = true) :
    deEvents (tokenize (setXmlBody decl root s v)) = encodeDoc root s v := by
  have hwn := WN_encodeDoc root s v hr hs
  cases decl with
  | true => simpa [setXmlBody] using tokenize_decl_write _ hwn
  | false => simpa [setXmlBody] using deEvents_tokenize_write _ hwn

theorem setXmlBody_ne_nil (decl : Bool) (root : SerRoot) (s : Sch) (v : Val) :
    (setXmlBody decl root s v).isEmpty = false := by
  have h : ∃ n a t, encodeDoc root s v = .start n a :: t := by
    cases root with
    | named tag ns => exact ⟨_, _, _, rfl⟩
    | nested o i ns => exact ⟨_, _, _, rfl⟩
    | location tag ns =>
      simp only [encodeDoc]
      split <;> exact ⟨_, _, _, rfl⟩
  obtain ⟨n, a, t, ht⟩ := h
  cases decl <;> simp [setXmlBody, ht, write_cons, writeEv, xmlDecl]

theorem deserializeXml_of_decodeDoc {X : Ext} {root : DeRoot} {s : Sch} {bytes : Bytes} {v : Val}
    (h : decodeDoc X root s (deEvents (tokenize bytes)) = .ok v) : deserializeXml X root s bytes = .ok v := by
  simp only [deserializeXml, h]

theorem takeXmlBody_of_ne_nil {X : Ext} {root : DeRoot} {s : Sch} {body : Bytes} (h : body.isEmpty = false) :
    takeXmlBody X root s body = deserializeXml X root s body := by
  simp only [takeXmlBody, h, Bool.false_eq_true, if_false]

theorem takeOptXmlBody_nil (X : Ext) (root : DeRoot) (s : Sch) : takeOptXmlBody X root s [] = .ok none := by
  simp [takeOptXmlBody]

theorem takeOptXmlBody_of_ok {X : Ext} {root : DeRoot} {s : Sch} {body : Bytes} {v : Val} (h : body.isEmpty = false)
    (hd : deserializeXml X root s body = .ok v) : takeOptXmlBody X root s body = .ok (some v) := by
  simp only [takeOptXmlBody, h, Bool.false_eq_true, if_false, hd]

/-- **the response side of an XML body, any type and any root kind**: a client that runs a document decoder (schema
    `sd`; the type's own when `sd = ss`) over the BYTES `set_xml_body` / `set_xml_body_no_decl` put into the response
    gets the value, given the round trip on events -/
theorem set_xml_body_roundtrip (X : Ext) (root : SerRoot) (sd ss : Sch) (hg : root.tagsGood = true)
    (hsg : ss.tagsGood = true) (v : Val)
    (hdoc : decodeDoc X root.forget sd (encodeDoc root ss v) = .ok v) (decl : Bool) :
    deserializeXml X root.forget sd (setXmlBody decl root ss v) = .ok v :=
  deserializeXml_of_decodeDoc (by rw [deEvents_setXmlBody decl root ss v hg hsg]; exact hdoc)

/-- **the request side of an XML body, any type**: given that the deserialiser of the type reads back what a
    conforming encoder writes as events (`hdoc`, C13) and that the element names are plain (C13), `take_xml_body` and
    `take_opt_xml_body` applied to the BYTES of the document — with or without an XML declaration in front, whatever
    namespace the root declares — yield the value: the body is not empty, so both helpers are `deserialize_xml`.
    (The empty body, the absent optional member, is `takeOptXmlBody_nil`.) -/
theorem take_xml_body_roundtrip (X : Ext) (root : Bytes) (sd ss : Sch) (hg : goodName root = true)
    (hsg : ss.tagsGood = true) (v : Val) (ns : Option Bytes)
    (hdoc : decodeDoc X (.named root) sd (encodeDoc (.named root ns) ss v) = .ok v) (decl : Bool) :
    takeXmlBody X (.named root) sd (setXmlBody decl (.named root ns) ss v) = .ok v ∧
    takeOptXmlBody X (.named root) sd (setXmlBody decl (.named root ns) ss v) = .ok (some v) := by
  have hne := setXmlBody_ne_nil decl (.named root ns) ss v
  have hd := set_xml_body_roundtrip X (.named root ns) sd ss (by simpa [SerRoot.tagsGood] using hg) hsg v hdoc decl
  exact ⟨by rw [takeXmlBody_of_ne_nil hne]; exact hd, takeOptXmlBody_of_ok hne hd⟩

end S3V.HttpBody
