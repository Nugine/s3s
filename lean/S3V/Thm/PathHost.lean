import S3V.Model.Host
import S3V.Thm.BytesText
/-!
# Lemmas for C12: the host parsers

`MultiDomain::new` (`multiNew_ok`), what `parse_host_header` answers (`parseHostHeader_some`), uniqueness of the matching base
domain (`firstMatch_eq_of_mem`), and the hosts outside the base domains, in the notions the statements of `Props/C12` are written
in: `Outside`, `HostName`, `DecimalPort` (with `Overlap` / `OverlapCI` for the configurations).
-/
namespace S3V.Host
open S3V S3V.Net

theorem splitOnce_cuts : CutsAtFirst splitOnce :=
  ⟨fun _ => rfl, fun c x xs => by
    rw [splitOnce]
    cases splitOnce c xs with
    | none => rfl
    | some p => cases p; rfl⟩

theorem splitAll_splits (c : UInt8) : SplitsAt c (splitAll c) :=
  ⟨rfl, fun _ _ _ _ h => by rw [splitAll, h]⟩

/-- one text `ends_with` the other -/
def Overlap (a b : Bytes) : Prop := a <:+ b ∨ b <:+ a

theorem Overlap.symm {a b : Bytes} (h : Overlap a b) : Overlap b a := h.elim Or.inr Or.inl

/-- two domains overlap as the code defines it: once ASCII case is ignored
    (`to_ascii_lowercase` of both), one `ends_with` the other — the notion that matters for the
    (case-insensitive) resolution of hosts -/
def OverlapCI (a b : Bytes) : Prop := Overlap (toAsciiLower a) (toAsciiLower b)

theorem OverlapCI.symm {a b : Bytes} (h : OverlapCI a b) : OverlapCI b a := Overlap.symm h

theorem overlapsAny_false (v : List Bytes) (d : Bytes) :
    overlapsAny v d = false ↔ ∀ o ∈ v, ¬ OverlapCI o d := by
  simp [overlapsAny, Overlap, OverlapCI]

theorem multiNewLoop_cons (d : Bytes) (rest v w : List Bytes) :
    multiNewLoop (d :: rest) v = .ok w ↔
      isValidDomain d = true ∧ (∀ o ∈ v, ¬ OverlapCI o d) ∧ multiNewLoop rest (v ++ [d]) = .ok w := by
  rw [multiNewLoop, ← overlapsAny_false]
  cases isValidDomain d with
  | false => simp
  | true => cases overlapsAny v d <;> simp

/-- the loop invariant of `MultiDomain::new`, the accepted vector `v` being the accumulator -/
theorem multiNewLoop_ok (ds v w : List Bytes) :
    multiNewLoop ds v = .ok w ↔
      w = v ++ ds ∧ v ++ ds ≠ [] ∧ (∀ d ∈ ds, isValidDomain d = true) ∧
      (∀ d ∈ ds, ∀ o ∈ v, ¬ OverlapCI o d) ∧ ds.Pairwise (fun a b => ¬ OverlapCI a b) := by
  induction ds generalizing v with
  | nil =>
    cases v with
    | nil => simp [multiNewLoop]
    | cons x xs =>
      simp only [multiNewLoop, List.isEmpty_cons, List.append_nil]
      constructor
      · intro h; injection h with h; subst h; simp
      · rintro ⟨h, _⟩; simp [h]
  | cons d rest ih =>
    rw [multiNewLoop_cons, ih]
    simp only [List.append_assoc, List.singleton_append, List.mem_cons, List.mem_append,
      List.pairwise_cons, forall_eq_or_imp]
    constructor
    · rintro ⟨hv, ho, h1, h2, h3, h4, h5⟩
      exact ⟨h1, h2, ⟨hv, h3⟩, ⟨ho, fun d' hd' o ho1 => h4 d' hd' o (Or.inl ho1)⟩,
        fun d' hd' => h4 d' hd' d (Or.inr (Or.inl rfl)), h5⟩
    · rintro ⟨h1, h2, ⟨hv, h3⟩, ⟨ho, h4⟩, h5, h6⟩
      refine ⟨hv, ho, h1, h2, h3, fun d' hd' o ho1 => ?_, h6⟩
      rcases ho1 with ho1 | rfl | ho1
      · exact h4 d' hd' o ho1
      · exact h5 d' hd'
      · cases ho1

/-- `MultiDomain::new` succeeds exactly on non-empty lists of valid domains no two of which
    overlap once ASCII case is ignored, and keeps them in the order given -/
theorem multiNew_ok (ds w : List Bytes) :
    multiNew ds = .ok w ↔
      w = ds ∧ ds ≠ [] ∧ (∀ d ∈ ds, isValidDomain d = true) ∧
      ds.Pairwise (fun a b => ¬ OverlapCI a b) := by
  unfold multiNew
  rw [multiNewLoop_ok]
  simp

theorem toAsciiLower_length (s : Bytes) : (toAsciiLower s).length = s.length := by
  simp [toAsciiLower]

theorem toAsciiLower_append (a b : Bytes) : toAsciiLower (a ++ b) = toAsciiLower a ++ toAsciiLower b := by
  simp [toAsciiLower]

theorem eqIgnoreAsciiCase_iff (a b : Bytes) : eqIgnoreAsciiCase a b = true ↔ toAsciiLower a = toAsciiLower b := by
  simp [eqIgnoreAsciiCase]

theorem stripSuffixIgnoreAsciiCase_some {s suf r : Bytes} (h : stripSuffixIgnoreAsciiCase s suf = some r) :
    ∃ t, s = r ++ t ∧ toAsciiLower t = toAsciiLower suf := by
  simp only [stripSuffixIgnoreAsciiCase, Option.ite_none_left_eq_some, Option.ite_none_right_eq_some,
    Option.some.injEq] at h
  obtain ⟨_, _, heq, rfl⟩ := h
  exact ⟨s.drop (s.length - suf.length), (List.take_append_drop _ s).symm, (eqIgnoreAsciiCase_iff _ _).mp heq⟩

theorem parseHostHeader_self {d host : Bytes} (h : toAsciiLower host = toAsciiLower d) :
    parseHostHeader d host = some ⟨d, none⟩ := by
  rw [parseHostHeader, if_pos ((eqIgnoreAsciiCase_iff host d).mpr h)]

theorem stripSuffixIgnoreAsciiCase_append {r t suf : Bytes} (ht : toAsciiLower t = toAsciiLower suf)
    (hb : ∀ c ∈ t.head?, c.toNat < 128 ∨ 192 ≤ c.toNat) :
    stripSuffixIgnoreAsciiCase (r ++ t) suf = some r := by
  have hlen : t.length = suf.length := by
    rw [← toAsciiLower_length t, ht, toAsciiLower_length]
  have hidx : (r ++ t).length - suf.length = r.length := by
    rw [List.length_append, hlen]; omega
  have hbd : isCharBoundary (r ++ t) r.length = true := by
    unfold isCharBoundary
    split
    · rfl
    · rw [List.drop_left]
      cases t with
      | nil => simp
      | cons c _ => simpa using hb c rfl
  unfold stripSuffixIgnoreAsciiCase
  rw [if_neg (by rw [List.length_append, hlen]; omega)]
  simp only [hidx, List.drop_left, List.take_left, hbd, (eqIgnoreAsciiCase_iff t suf).mpr ht]
  rfl

theorem stripSuffix_append (b suf : Bytes) : stripSuffix suf (b ++ suf) = some b := by
  unfold stripSuffix
  rw [if_pos (List.isSuffixOf_iff_suffix.mpr ⟨b, rfl⟩), List.length_append, Nat.add_sub_cancel, List.take_left]

/-- `b.t` belongs to base domain `d` with bucket `b` (verbatim) whenever `t` is `d` up to ASCII
    case and starts at a character boundary (`hbnd`: `str::is_char_boundary` at the cut, which
    `strip_suffix_ignore_ascii_case` asks for; it holds of every ASCII `t`) -/
theorem parseHostHeader_sub (b t d : Bytes) (ht : toAsciiLower t = toAsciiLower d)
    (hbnd : ∀ c ∈ t.head?, c.toNat < 128 ∨ 192 ≤ c.toNat) :
    parseHostHeader d (b ++ dot :: t) = some ⟨d, some b⟩ := by
  have hne : eqIgnoreAsciiCase (b ++ dot :: t) d = false := by
    rw [Bool.eq_false_iff]
    intro he
    have h1 := congrArg List.length ((eqIgnoreAsciiCase_iff _ _).mp he)
    have h2 := congrArg List.length ht
    simp only [toAsciiLower_length, List.length_append, List.length_cons] at h1 h2
    omega
  have hsplit : b ++ dot :: t = (b ++ [dot]) ++ t := by simp
  unfold parseHostHeader
  rw [hne, hsplit, stripSuffixIgnoreAsciiCase_append ht hbnd, Option.bind_some, stripSuffix_append]
  rfl

/-- what `parse_host_header(d, host)` can answer: the domain itself when the host is `d` in any ASCII case, the
    bucket `b` when the host is `b.t` with `t` being `d` in any ASCII case -/
theorem parseHostHeader_some {d host : Bytes} {vh : VirtualHost} (h : parseHostHeader d host = some vh) :
    vh.domain = d ∧ ((vh.bucket = none ∧ toAsciiLower host = toAsciiLower d) ∨
      ∃ b t, vh.bucket = some b ∧ host = b ++ dot :: t ∧ toAsciiLower t = toAsciiLower d) := by
  unfold parseHostHeader at h
  by_cases he : eqIgnoreAsciiCase host d = true
  · rw [if_pos he] at h
    cases h
    exact ⟨rfl, Or.inl ⟨rfl, (eqIgnoreAsciiCase_iff _ _).mp he⟩⟩
  · rw [if_neg he] at h
    cases hs : stripSuffixIgnoreAsciiCase host d with
    | none => rw [hs] at h; cases h
    | some r =>
      obtain ⟨t, rfl, ht⟩ := stripSuffixIgnoreAsciiCase_some hs
      rw [hs, Option.bind_some] at h
      unfold stripSuffix at h
      by_cases hd : ([dot] : Bytes).isSuffixOf r = true
      · rw [if_pos hd] at h
        cases h
        obtain ⟨b, rfl⟩ := List.isSuffixOf_iff_suffix.mp hd
        exact ⟨rfl, Or.inr ⟨b, t, by simp, by simp, ht⟩⟩
      · rw [if_neg hd] at h
        cases h

theorem member_of_parseHostHeader {d host : Bytes} {vh : VirtualHost}
    (h : parseHostHeader d host = some vh) :
    toAsciiLower host = toAsciiLower d ∨ (dot :: toAsciiLower d) <:+ toAsciiLower host := by
  rcases (parseHostHeader_some h).2 with ⟨_, he⟩ | ⟨b, t, _, rfl, ht⟩
  · exact Or.inl he
  · rw [toAsciiLower_append, ← ht]
    exact Or.inr (List.suffix_append _ _)

theorem suffix_of_parseHostHeader {d host : Bytes} {vh : VirtualHost}
    (h : parseHostHeader d host = some vh) : toAsciiLower d <:+ toAsciiLower host :=
  (member_of_parseHostHeader h).elim (fun e => e ▸ List.suffix_refl _)
    fun hs => (List.suffix_cons dot _).trans hs

theorem overlap_of_both_match {d1 d2 host : Bytes} {v1 v2 : VirtualHost}
    (h1 : parseHostHeader d1 host = some v1) (h2 : parseHostHeader d2 host = some v2) :
    OverlapCI d1 d2 :=
  List.suffix_or_suffix_of_suffix (suffix_of_parseHostHeader h1) (suffix_of_parseHostHeader h2)

theorem pairwiseCI_of_accepted {ds v : List Bytes} (h : multiNew ds = .ok v) :
    v.Pairwise (fun a b => ¬ OverlapCI a b) := by
  obtain ⟨rfl, _, _, hp⟩ := (multiNew_ok ds v).mp h
  exact hp

theorem toAsciiLower_suffix {a b : Bytes} (h : a <:+ b) : toAsciiLower a <:+ toAsciiLower b := by
  obtain ⟨t, rfl⟩ := h
  rw [toAsciiLower_append]
  exact List.suffix_append _ _

theorem OverlapCI.of_overlap {a b : Bytes} (h : Overlap a b) : OverlapCI a b :=
  h.elim (fun h => Or.inl (toAsciiLower_suffix h)) (fun h => Or.inr (toAsciiLower_suffix h))

theorem firstMatch_eq_findSome? (ds : List Bytes) (host : Bytes) :
    firstMatch ds host = ds.findSome? fun d => parseHostHeader d host := by
  induction ds with
  | nil => rfl
  | cons b bs ih =>
    rw [firstMatch, List.findSome?_cons, ih]
    cases parseHostHeader b host <;> rfl

theorem firstMatch_some {ds : List Bytes} {host : Bytes} {vh : VirtualHost}
    (h : firstMatch ds host = some vh) : ∃ d ∈ ds, parseHostHeader d host = some vh := by
  rw [firstMatch_eq_findSome?] at h
  exact List.exists_of_findSome?_eq_some h

theorem firstMatch_none {ds : List Bytes} {host : Bytes} :
    firstMatch ds host = none ↔ ∀ d ∈ ds, parseHostHeader d host = none := by
  rw [firstMatch_eq_findSome?, List.findSome?_eq_none_iff]

/-- with pairwise non-overlapping domains, the first match is *the* match: a domain in front of a matching one
    cannot match too, as two domains that match one host overlap -/
theorem firstMatch_eq_of_mem {ds : List Bytes} (hp : ds.Pairwise (fun a b => ¬ OverlapCI a b))
    {d host : Bytes} {vh : VirtualHost} (hd : d ∈ ds) (hm : parseHostHeader d host = some vh) :
    firstMatch ds host = some vh := by
  induction hp with
  | nil => cases hd
  | @cons b bs hb _ ih =>
    rw [firstMatch]
    rcases List.mem_cons.mp hd with rfl | hd
    · rw [hm]
    · cases hb' : parseHostHeader b host with
      | none => exact ih hd
      | some v => exact absurd (overlap_of_both_match hb' hm) (hb d hd)

/-- both are the first match, and an answer names its domain -/
theorem unique_match {ds : List Bytes} (hp : ds.Pairwise (fun a b => ¬ OverlapCI a b))
    {d1 d2 host : Bytes} {v1 v2 : VirtualHost} (m1 : d1 ∈ ds) (m2 : d2 ∈ ds)
    (h1 : parseHostHeader d1 host = some v1) (h2 : parseHostHeader d2 host = some v2) : d1 = d2 := by
  cases Option.some.inj ((firstMatch_eq_of_mem hp m1 h1).symm.trans (firstMatch_eq_of_mem hp m2 h2))
  exact (parseHostHeader_some h1).1.symm.trans (parseHostHeader_some h2).1

theorem multiNew_perm {ds ds' : List Bytes} (h : multiNew ds = .ok ds) (hperm : ds'.Perm ds) :
    multiNew ds' = .ok ds' := by
  obtain ⟨_, hne, hval, hp⟩ := (multiNew_ok ds ds).mp h
  exact (multiNew_ok ds' ds').mpr ⟨rfl, fun e => hne (e ▸ hperm).symm.eq_nil, fun d hd => hval d (hperm.subset hd),
    (hperm.pairwise_iff fun h hba => h hba.symm).mpr hp⟩

theorem multiParse_perm {ds ds' : List Bytes} (hp : ds.Pairwise (fun a b => ¬ OverlapCI a b))
    (hperm : ds'.Perm ds) (host : Bytes) : multiParse ds' host = multiParse ds host := by
  have hp' : ds'.Pairwise (fun a b => ¬ OverlapCI a b) :=
    (hperm.pairwise_iff (fun h hba => h (Overlap.symm hba))).mpr hp
  -- whichever list finds a match, the match is a member of the other list too, hence its first match
  have : firstMatch ds' host = firstMatch ds host := Option.ext fun vh =>
    ⟨fun h => let ⟨_, hd, hm⟩ := firstMatch_some h; firstMatch_eq_of_mem hp (hperm.subset hd) hm,
      fun h => let ⟨_, hd, hm⟩ := firstMatch_some h; firstMatch_eq_of_mem hp' (hperm.symm.subset hd) hm⟩
  rw [multiParse, multiParse, this]

/-! ## a host outside the base domains: the port of the `Host` value is no part of the bucket -/

/-- `host` is not base domain `d` and not a sub-domain of it, ASCII case ignored -/
def Outside (d host : Bytes) : Prop :=
  toAsciiLower host ≠ toAsciiLower d ∧ ¬ (dot :: toAsciiLower d) <:+ toAsciiLower host

/-- a host name: labels of ASCII letters, digits and `-`, none empty, separated by `.` -/
def HostName (h : Bytes) : Prop := (splitAll dot h).all labelOk = true

/-- a decimal port: one or more ASCII digits, value at most 65535 -/
def DecimalPort (p : Bytes) : Prop := p ≠ [] ∧ p.all isDigit = true ∧ decVal p ≤ 65535

instance (d host : Bytes) : Decidable (Outside d host) := by unfold Outside; infer_instance
instance (h : Bytes) : Decidable (HostName h) := by unfold HostName; infer_instance
instance (p : Bytes) : Decidable (DecimalPort p) := by unfold DecimalPort; infer_instance

theorem HostName.no_colon {h : Bytes} (hn : HostName h) : colon ∉ h := by
  -- every byte between the periods is alphanumeric or `-`, and `:` is neither that nor a period (`forall_mem_iff`)
  have hp : ∀ g ∈ splitAll dot h, ∀ x ∈ g, (isAsciiAlnum x || x = 45) = true := fun g hg =>
    List.all_eq_true.mp (Bool.and_eq_true _ _ ▸ List.all_eq_true.mp hn g hg).2
  exact fun hc => absurd ((splitAll_splits dot).forall_mem_iff.mp hp colon hc (by decide)) (by decide)

theorem HostName.ne_nil {h : Bytes} (hn : HostName h) : h ≠ [] := by
  rintro rfl
  exact absurd hn (by decide)

theorem isValidDomain_name_port {h p : Bytes} (hn : HostName h) (hp : DecimalPort p) :
    isValidDomain (h ++ colon :: p) = true := by
  obtain ⟨hp0, hpd, hpv⟩ := hp
  unfold isValidDomain
  rw [splitOnce_cuts.append p hn.no_colon]
  have hu : parseU16Ok p = true := by
    cases p with
    | nil => exact absurd rfl hp0
    | cons c r =>
      have hc : c ≠ 43 := by
        intro e
        have := List.all_eq_true.mp hpd c (by simp)
        rw [e] at this
        exact absurd this (by decide)
      simp only [parseU16Ok, if_neg hc, hpd, List.isEmpty_cons, Bool.not_false, Bool.true_and,
        decide_eq_true_eq]
      exact hpv
  have he : (h ++ colon :: p).isEmpty = false := by cases h <;> rfl
  have hpe : p.isEmpty = false := by cases p with | nil => exact absurd rfl hp0 | cons _ _ => rfl
  simp only [he, hpe, hpd, hu]
  exact hn

theorem isValidDomain_name {h : Bytes} (hn : HostName h) : isValidDomain h = true := by
  unfold isValidDomain
  rw [splitOnce_cuts.eq_none_iff.mpr hn.no_colon]
  have he : h.isEmpty = false := by
    cases h with | nil => exact absurd rfl hn.ne_nil | cons _ _ => rfl
  simp only [he]
  exact hn

theorem bucketOfHost_name_port {h : Bytes} (hc : colon ∉ h) (p : Bytes) :
    bucketOfHost (h ++ colon :: p) = toAsciiLower h := by
  simp [bucketOfHost, splitOnce_cuts.append p hc]

theorem bucketOfHost_name {h : Bytes} (hc : colon ∉ h) : bucketOfHost h = toAsciiLower h := by
  simp [bucketOfHost, splitOnce_cuts.eq_none_iff.mpr hc]

/-- `to_ascii_lowercase` writes no byte that was not there, other than lower-case letters -/
theorem mem_toAsciiLower {x : UInt8} {s : Bytes} (h : x ∈ toAsciiLower s) :
    x ∈ s ∨ (97 ≤ x.toNat ∧ x.toNat ≤ 122) := by
  obtain ⟨c, hcs, he⟩ := List.mem_map.mp h
  by_cases hu : (65 ≤ c.toNat && c.toNat ≤ 90) = true
  · rw [if_pos hu] at he
    simp only [Bool.and_eq_true, decide_eq_true_eq] at hu
    have h32 : (32 : UInt8).toNat = 32 := rfl
    right
    rw [← he, UInt8.toNat_add, h32, Nat.mod_eq_of_lt (Nat.lt_of_le_of_lt (Nat.add_le_add_right hu.2 32) (by decide))]
    exact ⟨Nat.add_le_add_right hu.1 32, Nat.add_le_add_right hu.2 32⟩
  · rw [if_neg hu] at he
    exact .inl (he ▸ hcs)

theorem bucketOfHost_no_colon (host : Bytes) : colon ∉ bucketOfHost host := by
  unfold bucketOfHost
  refine fun hc => (mem_toAsciiLower hc).elim ?_ (by decide)
  cases hs : splitOnce colon host with
  | none => exact splitOnce_cuts.eq_none_iff.mp hs
  | some ab =>
    obtain ⟨a, b⟩ := ab
    exact (splitOnce_cuts.eq_some_iff.mp hs).2

theorem parseHostHeader_none_of_outside {d host : Bytes} (ho : Outside d host) :
    parseHostHeader d host = none := by
  cases h : parseHostHeader d host with
  | none => rfl
  | some vh =>
    rcases member_of_parseHostHeader h with h1 | h1
    · exact absurd h1 ho.1
    · exact absurd h1 ho.2

theorem fallback_name_port {h p : Bytes} (hn : HostName h) (hp : DecimalPort p) :
    fallback (h ++ colon :: p) = some ⟨h ++ colon :: p, some (toAsciiLower h)⟩ := by
  simp only [fallback, isValidDomain_name_port hn hp, bucketOfHost_name_port hn.no_colon, if_true]

theorem fallback_name {h : Bytes} (hn : HostName h) : fallback h = some ⟨h, some (toAsciiLower h)⟩ := by
  simp only [fallback, isValidDomain_name hn, bucketOfHost_name hn.no_colon, if_true]

theorem fallback_some {host : Bytes} {vh : VirtualHost} (h : fallback host = some vh) :
    vh = ⟨host, some (bucketOfHost host)⟩ := by
  unfold fallback at h
  split at h
  · exact (Option.some.inj h).symm
  · cases h

theorem singleParse_of_none {d host : Bytes} (h : parseHostHeader d host = none) :
    singleParse d host = fallback host := by
  simp only [singleParse, h]

theorem multiParse_of_none {ds : List Bytes} {host : Bytes} (h : ∀ d ∈ ds, parseHostHeader d host = none) :
    multiParse ds host = fallback host := by
  simp only [multiParse, firstMatch_none.mpr h]

end S3V.Host
