import S3V.Model.Multipart
import S3V.Thm.MultipartSpec
/-!
# Lemmas: the `FileStream` DFA refines "bytes before the first delimiter" (C09d, C10)

`scan_cons` is the equation of state 2 for a delimiter that starts with CR, `afterScan_refines` what its
three outcomes mean against the executable spec function `specFile`; `fsRead_spec` / `fileStream_spec` is
the refinement for every list of frames.
-/
namespace S3V.Multipart
open S3V S3V.MultipartSpec

def FTerm.toSpec : FTerm → FileEnd
  | .ok => .ok
  | .incomplete => .incomplete
  | .underlying => .underlying

theorem FTerm.toSpec_injective {a c : FTerm} (h : a.toSpec = c.toSpec) : a = c := by
  cases a <;> cases c <;> simp [FTerm.toSpec] at h ⊢

theorem length_lt_of_prefix_of_not_prefix {x p : Bytes} (h : x <+: p) (hn : ¬ p <+: x) :
    x.length < p.length :=
  Nat.lt_of_not_le fun hle => hn (h.eq_of_length_le hle ▸ List.prefix_rfl)

/-- the three outcomes of state 2 at a byte: the delimiter starts here, the rest of the data is a proper prefix of it, or
    neither. Only for a delimiter that starts with CR: state 2 tests at CR positions only (`memchr_iter(b'\r', bytes)`), so
    for any other first byte the equation is false -/
theorem scan_cons (pt cs : Bytes) (c : UInt8) :
    scan (13 :: pt) (c :: cs) =
      if 13 :: pt <+: c :: cs then .found []
      else if c :: cs <+: 13 :: pt then .carry [] (c :: cs)
      else (scan (13 :: pt) cs).cons c := by
  rw [scan]
  by_cases h1 : 13 :: pt <+: c :: cs
  · have hc : c = 13 := (List.cons_prefix_cons.mp h1).1.symm
    rw [if_pos h1, if_pos hc, if_pos h1.length_le, if_pos (bytes_isPrefixOf_iff.mpr h1)]
  · by_cases h2 : c :: cs <+: 13 :: pt
    · have hc : c = 13 := (List.cons_prefix_cons.mp h2).1
      have hl : ¬ (13 :: pt).length ≤ (c :: cs).length :=
        Nat.not_le_of_lt (length_lt_of_prefix_of_not_prefix h2 h1)
      rw [if_neg h1, if_pos h2, if_pos hc, if_neg hl, if_pos (bytes_isPrefixOf_iff.mpr h2)]
    · simp only [bytes_isPrefixOf_iff, if_neg h1, if_neg h2, ite_self]

theorem fsAfterScan_cons (k : Bytes → List Frame → List Bytes × FTerm) (c : UInt8) (s : Scan)
    (fs : List Frame) :
    (fsAfterScan k (s.cons c) fs).1.flatten = c :: (fsAfterScan k s fs).1.flatten ∧
    (fsAfterScan k (s.cons c) fs).2 = (fsAfterScan k s fs).2 := by
  cases s <;> exact ⟨rfl, rfl⟩

theorem fsRead_some (pat carry f : Bytes) (fs : List Frame) :
    fsRead pat carry (some f :: fs) = fsAfterScan (fsRead pat) (scan pat (carry ++ f)) fs := by
  rw [fsRead]
  cases scan pat (carry ++ f) <;> rfl

/-- the refinement statement for one start configuration: data already in hand `x`, frames to come -/
def Refines (pat x : Bytes) (fs : List Frame) (r : List Bytes × FTerm) : Prop :=
  (r.1.flatten, r.2.toSpec) = specFile pat (x ++ dataBeforeError fs) (hasError fs)

/-- state 2 on `x` (the delimiter starts with CR), then on with any `k` that refines from every proper
    prefix of the delimiter it is handed: `found` ends the part in front of the delimiter, `carry` and `all`
    hand on what they yield and leave the rest of the outcome to `k` -/
theorem afterScan_refines (pt x : Bytes) (fs : List Frame) (k : Bytes → List Frame → List Bytes × FTerm)
    (hk : ∀ carry, carry.length < (13 :: pt).length → carry <+: 13 :: pt →
      Refines (13 :: pt) carry fs (k carry fs)) :
    Refines (13 :: pt) x fs (fsAfterScan k (scan (13 :: pt) x) fs) := by
  induction x with
  | nil => exact hk [] (Nat.succ_pos _) List.nil_prefix
  | cons c cs ih =>
    have happ : c :: cs <+: c :: cs ++ dataBeforeError fs := List.prefix_append (c :: cs) _
    rw [scan_cons]
    by_cases h1 : 13 :: pt <+: c :: cs
    · rw [if_pos h1]
      exact (specFile_of_pat_prefix (h1.trans happ) _).symm
    · by_cases h2 : c :: cs <+: 13 :: pt
      · rw [if_neg h1, if_pos h2]
        exact hk (c :: cs) (length_lt_of_prefix_of_not_prefix h2 h1) h2
      · -- `c :: cs` and the delimiter are not comparable, so neither are `c :: cs` with more data and it
        have h1' : ¬ 13 :: pt <+: c :: (cs ++ dataBeforeError fs) := fun h =>
          (List.prefix_or_prefix_of_prefix h happ).elim h1 h2
        have h2' : ¬ c :: (cs ++ dataBeforeError fs) <+: 13 :: pt := fun h => h2 (happ.trans h)
        unfold Refines at ih ⊢
        rw [if_neg h1, if_neg h2, List.cons_append, specFile_cons h1' h2', ← ih,
          (fsAfterScan_cons k c _ fs).1, (fsAfterScan_cons k c _ fs).2]
        rfl

theorem fsRead_spec (pt : Bytes) (fs : List Frame) (carry : Bytes)
    (hl : carry.length < (13 :: pt).length) (hp : carry <+: 13 :: pt) :
    Refines (13 :: pt) carry fs (fsRead (13 :: pt) carry fs) := by
  induction fs generalizing carry with
  | nil =>
    rw [Refines, dataBeforeError, List.append_nil, specFile_of_proper_prefix_of_pat hl hp]
    rfl
  | cons f fs ih =>
    cases f with
    | none =>
      rw [Refines, dataBeforeError, List.append_nil, specFile_of_proper_prefix_of_pat hl hp]
      rfl
    | some f =>
      rw [fsRead_some, Refines, dataBeforeError, ← List.append_assoc]
      exact afterScan_refines pt (carry ++ f) fs _ ih

theorem fileStream_spec (b rest : Bytes) (fs : List Frame) :
    Refines (crlfPat b) rest fs (fileStream b rest fs) := by
  unfold fileStream fsStart crlfPat
  by_cases hr : rest = []
  · subst hr
    exact fsRead_spec _ fs [] (Nat.succ_pos _) List.nil_prefix
  · rw [if_neg hr]
    exact afterScan_refines _ rest fs _ (fsRead_spec _ fs)

/-- the delimiter occurs: the stream hands on exactly what precedes its first occurrence -/
theorem fileStream_of_firstOcc {b rest content : Bytes} {fs : List Frame}
    (hc : FirstOcc (crlfPat b) (rest ++ dataBeforeError fs) content) :
    (fileStream b rest fs).1.flatten = content ∧ (fileStream b rest fs).2 = .ok := by
  have h := fileStream_spec b rest fs
  simp only [Refines, specFile, (beforeFirst_eq_some_iff _ _ _).mpr hc, Prod.mk.injEq] at h
  exact ⟨h.1, FTerm.toSpec_injective (c := .ok) h.2⟩

/-- it does not occur: the stream ends with the transport -/
theorem fileStream_of_no_occ {b rest : Bytes} {fs : List Frame}
    (hn : ∀ b', ¬ OccursAt (crlfPat b) (rest ++ dataBeforeError fs) b') :
    (fileStream b rest fs).2 = if hasError fs then .underlying else .incomplete := by
  have h := fileStream_spec b rest fs
  simp only [Refines, specFile, (beforeFirst_eq_none_iff _ _).mpr hn, Prod.mk.injEq] at h
  apply FTerm.toSpec_injective
  rw [h.2]
  split <;> rfl

end S3V.Multipart
