import S3V.Gen.Route
import S3V.Thm.ListLemmas
/-!
# Obligations on the generated tables are checked once, on the list `Op.all`

`Op.all` holds every operation, so a decidable property evaluated over that list (one kernel evaluation) holds of
every operation. The duplicate check used in such evaluations is `nodupB` of `Thm/ListLemmas.lean`.
-/
namespace S3V.Gen

/-- `Op.all` lists the constructors in declaration order (stated with `Op.all.length`, so that it survives a
    regenerated table with more operations) -/
theorem Op.all_eq_map_ofNat : Op.all = (List.range Op.all.length).map Op.ofNat := by
  decide +kernel

/-- by cases, and cheap (a constructor index against a length): `Op.mem_all`, on which `Op.forall_of_all` rests, needs it -/
theorem Op.ctorIdx_lt (op : Op) : op.ctorIdx < Op.all.length := by
  cases op <;> decide

theorem Op.mem_all (op : Op) : op ∈ Op.all := by
  rw [Op.all_eq_map_ofNat, ← Op.ofNat_ctorIdx op]
  exact List.mem_map_of_mem (List.mem_range.mpr op.ctorIdx_lt)

/-- a table obligation over all operations is discharged by one evaluation along `Op.all`:
    `Op.forall_of_all (by decide +kernel)` — one evaluation instead of one per constructor -/
theorem Op.forall_of_all {p : Op → Prop} [DecidablePred p] (h : (Op.all.all fun op => decide (p op)) = true)
    (op : Op) : p op :=
  of_decide_eq_true (List.all_eq_true.mp h op op.mem_all)

end S3V.Gen
