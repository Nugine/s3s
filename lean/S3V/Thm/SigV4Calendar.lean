import S3V.Model.SigV4
import S3V.Spec.SigV4
import S3V.Thm.DtoCivil
/-!
# Hinnant's `days_from_civil` (the model of `time::Date`) equals the counting definition of the specification

`SigV4.daysFromCivil` is the era formula on `Nat` years, shifted by one era; it is `Dto.daysFromCivil` on the same year
(`daysFromCivil_eq_dto`), whose day number counted the civil way (`Dto.daysFromCivil_jan`) is the specification's count: the
years by `daysBeforeYear_eq`, the months by `Dto.monthStart_of_rec`.
-/
namespace S3V.SigV4
open S3V SigV4Spec

theorem daysFromCivil_eq_dto (y m d : Nat) : daysFromCivil y m d = Dto.daysFromCivil (y : Int) m d := by
  -- era and year of era of the `Int` year `y'` against those of `Y = y' + 400` in `Nat` (used twice: `m ≤ 2` belongs to the
  -- era year before)
  have shift : ∀ (Y : Nat) (y' : Int), y' = Y - 400 →
      ((Y / 400 * 146097 + Dto.encDoe (Y % 400) ((m + 9) % 12) d : Nat) : Int) - 719468 - 146097 =
        y' / 400 * 146097 + (Dto.encDoe (y' - y' / 400 * 400).toNat ((m + 9) % 12) d : Nat) - 719468 := by
    intro Y y' h
    have he : y' / 400 = (Y / 400 : Nat) - 1 := by omega
    have hy : (y' - y' / 400 * 400).toNat = Y % 400 := by omega
    rw [hy, he]
    generalize Dto.encDoe (Y % 400) _ d = e
    omega
  unfold Dto.daysFromCivil daysFromCivil
  by_cases h : m ≤ 2
  · simp only [if_pos h]
    exact shift (y + 399) _ (by omega)
  · simp only [if_neg h]
    exact shift (y + 400) _ (by omega)

theorem leap_iff (y : Nat) : leap y = true ↔ Dto.Leap (y : Int) := by
  simp only [leap, Bool.or_eq_true, Bool.and_eq_true, decide_eq_true_eq, ne_eq, decide_not, Bool.not_eq_true',
    decide_eq_false_iff_not]
  omega

theorem monthDays_eq_dto (y m : Nat) : monthDays y m = Dto.daysInMonth (y : Int) m := by
  have hl : Dto.isLeap (y : Int) = leap y := by rw [Bool.eq_iff_iff, Dto.isLeap_iff, leap_iff]
  rw [monthDays, Dto.daysInMonth, hl]

/-- year 0 is a leap year: 366 days more than the count from year 1 -/
theorem daysBeforeYear_eq (y : Nat) : (daysBeforeYear y : Int) = Dto.daysThrough ((y : Int) - 1) + 366 := by
  induction y with
  | zero => rfl
  | succ y ih =>
    have hs := Dto.daysThrough_step y
    have hl := leap_iff y
    rw [daysBeforeYear, Int.natCast_add, ih, yearDays, show ((y + 1 : Nat) : Int) - 1 = y by omega, hs]
    by_cases h : leap y = true
    · rw [if_pos h, if_pos (hl.mp h)]
      omega
    · rw [if_neg h, if_neg (mt hl.mpr h)]
      omega

/-- the day number of the model is the specification's count. `719528` is `SigV4Spec.epochDays`, the days from 0000-01-01 to
    1970-01-01; Hinnant's `719468` counts from 0000-03-01, 60 days later, and the `+ 366` of `daysBeforeYear_eq` is year 0. -/
theorem daysFromCivil_eq (y m d : Nat) (h1 : 1 ≤ m) (h2 : m ≤ 12) (h3 : 1 ≤ d) :
    daysFromCivil y m d =
      ((daysBeforeYear y + daysBeforeMonth y m + (d - 1) : Nat) : Int) - 719528 := by
  have hM := Dto.monthStart_of_rec y (daysBeforeMonth y) (monthDays y) rfl
    (fun m hm => by obtain ⟨k, rfl⟩ : ∃ k, m = k + 1 := ⟨m - 1, by omega⟩; rfl)
    (fun m _ _ => monthDays_eq_dto y m) m h1 h2
  have hY := daysBeforeYear_eq y
  rw [daysFromCivil_eq_dto, Dto.daysFromCivil_jan _ m d h1 h2 h3, hM]
  omega

theorem daysInMonth_eq (y m : Nat) : daysInMonth y m = monthDays y m := rfl

theorem toTime_eq_spec (d : AmzDate) :
    d.toTime = if validCivil d.year d.month d.day d.hour d.minute d.second = true then
      some (civilToUnix d.year d.month d.day d.hour d.minute d.second) else none := by
  unfold AmzDate.toTime validCivil
  rw [daysInMonth_eq]
  split
  · rename_i h
    simp only [Bool.and_eq_true, decide_eq_true_eq] at h
    rw [daysFromCivil_eq d.year d.month d.day h.1.1.1.1.1.1 h.1.1.1.1.1.2 h.1.1.1.1.2]
    rfl
  · rfl

end S3V.SigV4
