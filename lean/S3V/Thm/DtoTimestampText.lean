import S3V.Model.DtoTimestamp
import S3V.Thm.Decimal
/-! # Timestamp text (C14): fields of `n` digits (`NDigits`: what `exactly_n_digits` reads, what `pad2` … `pad9` write), the
RFC 3339 reader on such fields (`parseTime_digits`), and what the `DateTime` arm adds to `time`'s reader -/
namespace S3V.Dto

def NDigits (n : Nat) (ds : Bytes) (v : Nat) : Prop := ds.length = n ∧ digitsVal ds 0 = some v

theorem exactlyDigits_append (ds rest : Bytes) (acc : Nat) :
    exactlyDigits ds.length (ds ++ rest) acc = (digitsVal ds acc).map (·, rest) := by
  induction ds generalizing acc with
  | nil => rfl
  | cons c cs ih =>
    rw [List.length_cons, List.cons_append, exactlyDigits, digitsVal]
    split
    · exact ih _
    · rfl

theorem NDigits.read {n : Nat} {ds : Bytes} {v : Nat} (h : NDigits n ds v) (rest : Bytes) :
    exactlyDigits n (ds ++ rest) 0 = some (v, rest) := by
  rw [← h.1, exactlyDigits_append, h.2, Option.map_some]

/-- the `k` low digits of `n < 10 ^ k` are a field of `k` digits with value `n`; `pad2` … `pad9` write them -/
theorem nDigits_lowDigits (n k : Nat) (h : n < 10 ^ k) :
    NDigits k ((List.range k).reverse.map fun i => digitChar (n / 10 ^ i % 10)) n :=
  ⟨by simp, by rw [digitsVal_lowDigits, Nat.zero_mul, Nat.zero_add, Nat.mod_eq_of_lt h]⟩

theorem nDigits_pad2 {n : Nat} (h : n < 100) : NDigits 2 (pad2 n) n := by
  simpa [List.range_succ, pad2] using nDigits_lowDigits n 2 h

theorem nDigits_pad3 {n : Nat} (h : n < 1000) : NDigits 3 (pad3 n) n := by
  simpa [List.range_succ, pad3] using nDigits_lowDigits n 3 h

theorem nDigits_pad4 {n : Nat} (h : n < 10000) : NDigits 4 (pad4 n) n := by
  simpa [List.range_succ, pad4] using nDigits_lowDigits n 4 h

theorem nDigits_pad9 {n : Nat} (h : n < 1000000000) : NDigits 9 (pad9 n) n := by
  simpa [List.range_succ, pad9] using nDigits_lowDigits n 9 h

theorem expectChar_cons (c : UInt8) (r : Bytes) : expectChar c (c :: r) = some r := by
  simp [expectChar]

theorem subsecLoop_digit (x value mult : Nat) (rest : Bytes) :
    subsecLoop (digitChar (x % 10) :: rest) value mult = subsecLoop rest (value + x % 10 * mult) (mult / 10) := by
  simp only [subsecLoop, isDigit_digit, if_true, digit_val]

theorem subsecLoop_stop (c : UInt8) (hc : isDigit c = false) (value mult : Nat) (rest : Bytes) :
    subsecLoop (c :: rest) value mult = (value, c :: rest) := by
  simp [subsecLoop, hc]

/-- only where the loop stops: its one use, the strict reader of the POST policy, does not need the value -/
theorem subsecLoop_digits (fr : Bytes) (h : fr.all isDigit = true) (c : UInt8) (hc : isDigit c = false) (rest : Bytes)
    (value mult : Nat) : ∃ v, subsecLoop (fr ++ c :: rest) value mult = (v, c :: rest) := by
  induction fr generalizing value mult with
  | nil => exact ⟨value, subsecLoop_stop c hc value mult rest⟩
  | cons d r ih =>
    simp only [List.all_cons, Bool.and_eq_true] at h
    obtain ⟨v, hv⟩ := ih h.2 (value + (d.toNat - 48) * mult) (mult / 10)
    exact ⟨v, by simp only [List.cons_append, subsecLoop, h.1, if_true, hv]⟩

theorem parseSubsec_dot {c : UInt8} (hc : isDigit c = true) (rest : Bytes) :
    parseSubsec (46 :: c :: rest) = some (subsecLoop rest ((c.toNat - 48) * 100000000) 10000000) := by
  simp only [parseSubsec, hc, if_true]

theorem parseSubsec_pad3 (ms : Nat) (h : ms < 1000) (c : UInt8) (hc : isDigit c = false) (rest : Bytes) :
    parseSubsec (46 :: (pad3 ms ++ c :: rest)) = some (ms * 1000000, c :: rest) := by
  show parseSubsec (46 :: digitChar (ms / 100 % 10) :: digitChar (ms / 10 % 10) :: digitChar (ms % 10) :: c :: rest) = _
  rw [parseSubsec_dot (isDigit_digit _), digit_val, subsecLoop_digit, subsecLoop_digit, subsecLoop_stop _ hc]
  have : ms / 100 % 10 * 100000000 + ms / 10 % 10 * 10000000 + ms % 10 * (10000000 / 10) = ms * 1000000 := by omega
  rw [this]

theorem parseSubsec_none (c : UInt8) (hc : c ≠ 46) (rest : Bytes) :
    parseSubsec (c :: rest) = some (0, c :: rest) := by
  simp [parseSubsec, hc]

/-- the fixed-width part of an RFC 3339 text, on any digits and any separator byte: the fields are read with their decimal
    values (second 60 apart) -/
theorem parseTime_digits {ys ms ds hs mis ss : Bytes} {Y m d H Mi S : Nat}
    (hY : NDigits 4 ys Y) (hm : NDigits 2 ms m) (hd : NDigits 2 ds d) (hH : NDigits 2 hs H) (hMi : NDigits 2 mis Mi)
    (hS : NDigits 2 ss S) (h60 : S < 60) (sep : UInt8) {tail offTxt : Bytes} {nanos : Nat} {off : Int}
    (hfrac : parseSubsec tail = some (nanos, offTxt)) (hoff : parseOffset offTxt = some (off, [])) :
    parseRfc3339Time (ys ++ 45 :: (ms ++ 45 :: (ds ++ sep :: (hs ++ 58 :: (mis ++ 58 :: (ss ++ tail)))))) =
      if validFields Y m d H Mi S then some ⟨localSeconds Y m d H Mi S - off, nanos, off⟩ else none := by
  unfold parseRfc3339Time
  simp only [hY.read, hm.read, hd.read, hH.read, hMi.read, hS.read, expectChar_cons, hfrac, hoff, bind, Option.bind]
  have h60 : (S == 60) = false := by simp; omega
  simp only [h60, Bool.false_eq_true, if_false, Bool.false_and, List.isEmpty_nil, Bool.not_true]
  cases validFields (↑Y) m d H Mi S <;> simp

theorem parseOffset_Z : parseOffset [90] = some (0, []) := by decide

theorem parseOffset_hm (neg : Bool) (oh om : Nat) (hoh : oh ≤ 23) (hom : om ≤ 59) :
    parseOffset ((if neg then 45 else 43) :: (pad2 oh ++ 58 :: pad2 om)) =
      some ((if neg then -((oh * 3600 + om * 60 : Nat) : Int) else ((oh * 3600 + om * 60 : Nat) : Int)), []) := by
  have h2 : exactlyDigits 2 (pad2 om) 0 = some (om, []) := by
    have := (nDigits_pad2 (show om < 100 by omega)).read []
    simpa using this
  have hoh' : ¬ oh > 23 := by omega
  have hom' : ¬ om > 59 := by omega
  unfold parseOffset
  simp only [(nDigits_pad2 (show oh < 100 by omega)).read, expectChar_cons, h2, bind, Option.bind, hoh', hom']
  cases neg <;> simp

/-- each further digit adds at most `9 * mult`, with `mult` a tenth of the one before: at most `99…9 ≤ 10 * mult - 1`
    in all (truncated subtraction: nothing once `mult` is 0) -/
theorem subsecLoop_le (s : Bytes) (value mult : Nat) :
    (subsecLoop s value mult).1 ≤ value + (10 * mult - 1) := by
  induction s generalizing value mult with
  | nil =>
    simp only [subsecLoop]
    omega
  | cons c s ih =>
    simp only [subsecLoop]
    split
    · rename_i hd
      have hc := digit_le_nine c hd
      have := ih (value + (c.toNat - 48) * mult) (mult / 10)
      have h9 : (c.toNat - 48) * mult ≤ 9 * mult := Nat.mul_le_mul_right _ hc
      omega
    · simp only
      omega

theorem parseSubsec_lt {input : Bytes} {p : Nat × Bytes} : parseSubsec input = some p → p.1 < 1000000000 := by
  fun_cases parseSubsec input
  -- the leaves that refuse
  all_goals try exact fun h => absurd h.symm (Option.some_ne_none p)
  all_goals (intro h; cases h)
  next d r' hd =>
    have := subsecLoop_le r' ((d.toNat - 48) * 100000000) 10000000
    have hd9 := digit_le_nine d hd
    omega
  -- no fraction: nanosecond 0
  all_goals exact Nat.zero_lt_succ _

theorem parseRfc3339Time_nanos_lt {e : Bytes} {t : Ts} (h : parseRfc3339Time e = some t) : t.nanos < 1000000000 := by
  unfold parseRfc3339Time at h
  simp only [Option.bind_eq_bind, Option.bind_eq_some_iff] at h
  obtain ⟨a, -, a1, -, a2, -, a3, -, a4, -, a5, -, a6, -, a7, -, a8, -, a9, -, a10, -, ⟨ns, r⟩, h11, ⟨off, r'⟩, -, h⟩ := h
  have hn : ns < 1000000000 := parseSubsec_lt h11
  -- past the three refusals, the nanosecond is the parsed one or that of the leap-second stand-in
  simp only [Option.bind_none, Option.ite_none_left_eq_some] at h
  obtain ⟨-, -, -, h⟩ := h
  rw [← Option.some.inj h]
  show (if (a10.1 == 60) = true then 999999999 else ns) < 1000000000
  split <;> omega

/-- the `DateTime` arm of `Timestamp::parse` hands on what `time` parsed, if its UTC year is one of 0000 … 9999
    (the year check of b7ef08a only refuses) -/
theorem parseRfc3339_eq (e : Bytes) : parseRfc3339 e = (parseRfc3339Time e).bind fun t =>
    if 0 ≤ (utcFields t.unix).1 ∧ (utcFields t.unix).1 ≤ 9999 then some t else none := by
  unfold parseRfc3339 toUtc
  cases parseRfc3339Time e with
  | none => rfl
  | some t =>
    rw [Option.bind_some]
    -- past `toUtc` the two checks are the same; where `toUtc` refuses, the year is outside 0000 … 9999 as well
    by_cases c : -9999 ≤ (utcFields t.unix).1 ∧ (utcFields t.unix).1 ≤ 9999
    · simp only [c, decide_true, Bool.and_self, if_true, Bool.and_eq_true, decide_eq_true_eq]
    · have h : ¬ (0 ≤ (utcFields t.unix).1 ∧ (utcFields t.unix).1 ≤ 9999) := by omega
      simp only [Bool.and_eq_true, decide_eq_true_eq, c, h, if_false]

theorem parseRfc3339_time {e : Bytes} {t : Ts} (h : parseRfc3339 e = some t) : parseRfc3339Time e = some t := by
  rw [parseRfc3339_eq] at h
  obtain ⟨t', ht, h⟩ := Option.bind_eq_some_iff.mp h
  obtain ⟨-, h⟩ := Option.ite_none_right_eq_some.mp h
  rw [← Option.some.inj h]
  exact ht

theorem parseRfc3339_nanos_lt {e : Bytes} {t : Ts} (h : parseRfc3339 e = some t) : t.nanos < 1000000000 :=
  parseRfc3339Time_nanos_lt (parseRfc3339_time h)

end S3V.Dto
