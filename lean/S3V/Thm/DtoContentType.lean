import S3V.Model.DtoContentType
import S3V.Thm.DtoText
import S3V.Thm.ListLemmas
/-!
# `ContentType` (subset of `mime`): the stored text of a parsed content type is read back as the same value

`parseParam` and `parseSubset` computed on texts of the grammar's shape (`parseParam_build`, `parseSubset_join`); the text the
reader stores for a parameter is itself of that shape, with name and value already lower-cased where the reader lower-cases,
so it is read back unchanged (`parseParam_text`, `mapM_parseParam_text`: lower-casing is idempotent); `parseSubset_eq_some` is
the one leaf of `parseSubset` that answers.
-/
namespace S3V.Dto.ContentType
open S3V S3V.Dto

theorem splitOn_spec (sep : UInt8) (s : Bytes) :
    ∃ head segs, splitOn sep s = head :: segs ∧ s = head ++ (segs.map fun g => sep :: g).flatten ∧
      (∀ x ∈ head, x ≠ sep) ∧ (∀ g ∈ segs, ∀ x ∈ g, x ≠ sep) := by
  induction s with
  | nil => exact ⟨[], [], rfl, rfl, by simp, by simp⟩
  | cons c cs ih =>
    obtain ⟨h, sg, he, hj, hh, hs⟩ := ih
    rw [(splitOn_splits sep).cons c cs h sg he]
    by_cases hcs : c = sep
    · subst hcs
      exact ⟨[], h :: sg, by simp, by simp [hj], by simp, List.forall_mem_cons.mpr ⟨hh, hs⟩⟩
    · exact ⟨c :: h, sg, by simp [hcs], by simp [hj], List.forall_mem_cons.mpr ⟨hcs, hh⟩, hs⟩

theorem lower_toNat (c : UInt8) :
    (lower c).toNat = if 65 ≤ c.toNat ∧ c.toNat ≤ 90 then c.toNat + 32 else c.toNat := by
  unfold lower
  simp only [Bool.and_eq_true, decide_eq_true_eq]
  split
  · rw [UInt8.toNat_add]
    show (c.toNat + 32) % 256 = c.toNat + 32
    omega
  · rfl

theorem isToken_lower (c : UInt8) (h : isToken c = true) : isToken (lower c) = true := by
  simp only [isToken, lower_toNat, Bool.or_eq_true, Bool.and_eq_true, decide_eq_true_eq] at h ⊢
  split <;> omega

theorem lower_lower (c : UInt8) : lower (lower c) = lower c := by
  apply UInt8.toNat_inj.mp
  rw [lower_toNat (lower c), lower_toNat c]
  by_cases h : 65 ≤ c.toNat ∧ c.toNat ≤ 90
  · rw [if_pos h, if_neg (by omega)]
  · rw [if_neg h, if_neg h]

theorem lowerAll_lowerAll (b : Bytes) : lowerAll (lowerAll b) = lowerAll b := by
  simp [lowerAll, List.map_map, Function.comp_def, lower_lower]

theorem isTok_lowerAll (b : Bytes) (h : isTok b = true) : isTok (lowerAll b) = true := by
  simp only [isTok, Bool.and_eq_true, Bool.not_eq_true', List.all_eq_true] at h ⊢
  refine ⟨?_, ?_⟩
  · cases b <;> simp_all [lowerAll]
  · intro x hx
    simp only [lowerAll, List.mem_map] at hx
    obtain ⟨y, hy, rfl⟩ := hx
    exact isToken_lower y (h.2 y hy)

/-- the separators of the grammar are no token bytes -/
theorem isToken_ne (c : UInt8) (h : isToken c = true) : c ≠ 59 ∧ c ≠ 47 ∧ c ≠ 61 ∧ c ≠ 32 := by
  refine ⟨?_, ?_, ?_, ?_⟩
  all_goals
    rintro rfl
    exact absurd h (by decide)

theorem isTok_free (b : Bytes) (h : isTok b = true) (x : UInt8) (hx : x ∈ b) :
    x ≠ 59 ∧ x ≠ 47 ∧ x ≠ 61 ∧ x ≠ 32 := by
  simp only [isTok, Bool.and_eq_true, List.all_eq_true] at h
  exact isToken_ne x (h.2 x hx)

theorem isTok_ne_nil (b : Bytes) (h : isTok b = true) : b ≠ [] := by
  intro hb; subst hb; simp [isTok] at h

theorem param_free (sp n v : Bytes) (hsp : ∀ x ∈ sp, x = 32) (hn : isTok n = true) (hv : isTok v = true) :
    ∀ x ∈ sp ++ n ++ [61] ++ v, x ≠ 59 := by
  intro x hx
  simp only [List.append_assoc, List.mem_append, List.mem_singleton] at hx
  rcases hx with hx | hx | hx | hx
  · rw [hsp x hx]; decide
  · exact (isTok_free _ hn x hx).1
  · rw [hx]; decide
  · exact (isTok_free _ hv x hx).1

theorem parseParam_build (sp n v : Bytes) (hsp : ∀ x ∈ sp, x = 32) (hn : isTok n = true) (hv : isTok v = true) :
    parseParam (sp ++ n ++ [61] ++ v) =
      some ((lowerAll n, if lowerAll n = charsetName then lowerAll v else v),
        sp ++ lowerAll n ++ [61] ++ (if lowerAll n = charsetName then lowerAll v else v)) := by
  unfold parseParam
  simp only
  have hn0 : n ≠ [] := isTok_ne_nil n hn
  obtain ⟨n0, nr, rfl⟩ := List.exists_cons_of_ne_nil hn0
  have hn0ne : n0 ≠ 32 := (isTok_free _ hn n0 (by simp)).2.2.2
  have htw : (sp ++ (n0 :: nr) ++ [61] ++ v).takeWhile (· = 32) = sp := by
    rw [List.append_assoc, List.append_assoc]
    exact (span_cons (fun x hx => decide_eq_true (hsp x hx)) (decide_eq_false hn0ne)).1
  rw [htw]
  have hdrop : (sp ++ (n0 :: nr) ++ [61] ++ v).drop sp.length = (n0 :: nr) ++ 61 :: v := by
    simp [List.append_assoc]
  rw [hdrop]
  have hsplit2 : splitOn 61 ((n0 :: nr) ++ 61 :: v) = [n0 :: nr, v] := by
    rw [splitOn_append_sep 61 _ _ (fun x hx => (isTok_free _ hn x hx).2.2.1)]
    rw [splitOn_free 61 v (fun x hx => (isTok_free _ hv x hx).2.2.1)]
  rw [hsplit2]
  simp only [hn, hv, Bool.and_self, if_true]

theorem parseParam_text (seg : Bytes) (nv : Bytes × Bytes) (txt : Bytes) (h : parseParam seg = some (nv, txt)) :
    parseParam txt = some (nv, txt) ∧ (∀ x ∈ txt, x ≠ 59) := by
  -- the stored text is spaces, name `n`, `=`, value `v`, both already lower-cased where the parser lower-cases: the shape
  -- `parseParam_build` reads, and it reads `n`, `v` back unchanged because lower-casing is idempotent (`hN`, `hV`)
  unfold parseParam at h
  simp only at h
  split at h
  · rename_i name value hsplit
    split at h
    · rename_i htok
      simp only [Bool.and_eq_true] at htok
      simp only [Option.some.injEq, Prod.mk.injEq] at h
      obtain ⟨rfl, rfl⟩ := h
      have hspAll : ∀ x ∈ seg.takeWhile (· = 32), x = 32 := by
        intro x hx
        simpa using List.all_eq_true.mp List.all_takeWhile x hx
      have hnT : isTok (lowerAll name) = true := isTok_lowerAll name htok.1
      have hN : lowerAll (lowerAll name) = lowerAll name := lowerAll_lowerAll name
      generalize lowerAll name = n at hnT hN ⊢
      have hvT : isTok (if n = charsetName then lowerAll value else value) = true := by
        split
        · exact isTok_lowerAll value htok.2
        · exact htok.2
      have hV : (if n = charsetName then lowerAll (if n = charsetName then lowerAll value else value)
          else (if n = charsetName then lowerAll value else value)) =
            (if n = charsetName then lowerAll value else value) := by
        split
        · exact lowerAll_lowerAll value
        · rfl
      generalize (if n = charsetName then lowerAll value else value) = v at hvT hV ⊢
      refine ⟨?_, ?_⟩
      · rw [parseParam_build _ n v hspAll hnT hvT, hN, hV]
      · exact param_free _ n v hspAll hnT hvT
    · cases h
  · cases h

theorem mapM_parseParam_text (segs : List Bytes) (ps : List ((Bytes × Bytes) × Bytes))
    (h : segs.mapM parseParam = some ps) :
    (ps.map (·.2)).mapM parseParam = some ps ∧ (∀ g ∈ ps.map (·.2), ∀ x ∈ g, x ≠ 59) := by
  -- every result comes from some segment, so its stored text is read again with the same result
  have key : ∀ p ∈ ps, parseParam p.2 = some p ∧ ∀ x ∈ p.2, x ≠ 59 := fun p hp =>
    let ⟨a, ha⟩ := mem_of_mapM_eq_some h p hp
    parseParam_text a p.1 p.2 ha
  refine ⟨by simpa using mapM_map parseParam (·.2) id ps fun p hp => (key p hp).1, fun g hg => ?_⟩
  obtain ⟨p, hp, rfl⟩ := List.mem_map.mp hg
  exact (key p hp).2

theorem parseSubset_join (t st : Bytes) (segs : List Bytes) (ht : isTok t = true) (hst : isTok st = true)
    (hfree : ∀ g ∈ segs, ∀ x ∈ g, x ≠ 59) :
    parseSubset (t ++ [47] ++ st ++ (segs.map fun g => 59 :: g).flatten) =
      (segs.mapM parseParam).map fun ps =>
        ⟨lowerAll t ++ [47] ++ lowerAll st, ps.map (·.1),
          lowerAll t ++ [47] ++ lowerAll st ++ (ps.map fun p => 59 :: p.2).flatten⟩ := by
  have hhead : ∀ x ∈ t ++ [47] ++ st, x ≠ 59 := by
    intro x hx
    simp only [List.append_assoc, List.mem_append, List.mem_singleton] at hx
    rcases hx with hx | hx | hx
    · exact (isTok_free _ ht x hx).1
    · rw [hx]; decide
    · exact (isTok_free _ hst x hx).1
  have hslash : splitOn 47 (t ++ [47] ++ st) = [t, st] := by
    rw [List.append_assoc, List.singleton_append, splitOn_append_sep 47 t st (fun x hx => (isTok_free _ ht x hx).2.1),
      splitOn_free 47 st (fun x hx => (isTok_free _ hst x hx).2.1)]
  unfold parseSubset
  rw [splitOn_join 59 _ segs hhead hfree]
  simp only [hslash, ht, hst, Bool.and_self, if_true]
  cases segs.mapM parseParam <;> rfl

/-- the one leaf of `parseSubset` that answers: type and subtype are tokens and every parameter was read -/
theorem parseSubset_eq_some {s : Bytes} {r : Parsed} : parseSubset s = some r →
    ∃ (t st : Bytes) (segs : List Bytes) (ps : List ((Bytes × Bytes) × Bytes)), isTok t = true ∧ isTok st = true ∧
      segs.mapM parseParam = some ps ∧
      r = ⟨lowerAll t ++ [47] ++ lowerAll st, ps.map (·.1),
        lowerAll t ++ [47] ++ lowerAll st ++ (ps.map fun p => 59 :: p.2).flatten⟩ := by
  fun_cases parseSubset s
  -- the leaves that refuse
  all_goals try exact fun h => absurd h.symm (Option.some_ne_none r)
  next head segs _ t st _ htok ps hps _ =>
    rintro ⟨⟩
    simp only [Bool.and_eq_true] at htok
    exact ⟨t, st, segs, ps, htok.1, htok.2, hps, rfl⟩

end S3V.Dto.ContentType
