import S3V.Model.Path
import S3V.Spec.Path
import S3V.Thm.ListLemmas
/-!
# Lemmas for C12: the address parser model against the dotted-quad specifications

Two facts that place `IpAddr::from_str` (model `ipAddrOk`) between the two readings of a dotted quad in `Spec/Path`:
`strictIpv4B n → ipAddrOk n` (`readIpv4_of_canon` here; closed in `PathBucket.ipAddrOk_of_strictIpv4B`, which needs
`quad_of_dotGroups`) and `':' ∉ n → ipAddrOk n → Ipv4Formatted n` (`ipv4Formatted_of_ipAddrOk`). Everything else in the file
serves one of the two. No property theorem uses them.
-/
namespace S3V.Net
open S3V S3V.PathSpec

theorem isDig_eq_isDigit : isDig = isDigit := rfl
theorem digitsValue_eq_decVal : digitsValue = decVal := rfl

theorem readChar_eq_some {c : UInt8} {s r : Bytes} : readChar c s = some r ↔ s = c :: r := by
  cases s with
  | nil => simp [readChar]
  | cons x xs =>
    simp only [readChar]
    by_cases h : x = c <;> simp [h]

theorem readChar_none_of_not_mem {c : UInt8} {s : Bytes} (h : c ∉ s) : readChar c s = none := by
  cases s with
  | nil => rfl
  | cons x xs =>
    have : x ≠ c := fun e => h (by simp [e])
    simp [readChar, this]

theorem readOctet_some {s r : Bytes} (h : readOctet s = some r) :
    ∃ ds, s = ds ++ r ∧ ds ≠ [] ∧ ∀ c ∈ ds, isDigit c = true := by
  simp only [readOctet, Option.ite_none_left_eq_some, Option.some.injEq] at h
  obtain ⟨h0, _, _, _, rfl⟩ := h
  exact ⟨s.takeWhile isDigit, List.takeWhile_append_dropWhile.symm, fun e => h0 (by rw [e]; rfl),
    List.all_eq_true.mp List.all_takeWhile⟩

/-- a canonical octet in front of a non-digit is read whole; the bounds 3 and 255 are those of `canonOctetB` -/
theorem readOctet_canon {a t : Bytes} (ha : canonOctetB a = true)
    (ht : ∀ x ∈ t.head?, isDigit x = false) : readOctet (a ++ t) = some t := by
  simp only [canonOctetB, digitRunB, Bool.and_eq_true, Bool.not_eq_true', decide_eq_true_eq,
    List.all_eq_true] at ha
  obtain ⟨⟨⟨⟨hne, hall⟩, hlen⟩, hval⟩, hz⟩ := ha
  have hall' : ∀ c ∈ a, isDigit c = true := hall
  have hcut : (a ++ t).takeWhile isDigit = a ∧ (a ++ t).dropWhile isDigit = t := span_eq hall' ht
  have hne' : a.length ≠ 0 := by
    cases a with
    | nil => simp at hne
    | cons _ _ => simp
  unfold readOctet
  simp only [hcut.1, hcut.2]
  rw [if_neg hne', if_neg (by omega)]
  have hz' : ¬ (a.head? = some zero ∧ a.length > 1) := by
    intro ⟨h1, h2⟩
    simp [h1, h2, zero] at hz
  rw [if_neg hz']
  have hv : ¬ decVal a > 255 := by
    rw [← digitsValue_eq_decVal]
    omega
  rw [if_neg hv]

theorem readIpv4_of_canon {a b c d : Bytes} (ha : canonOctetB a = true) (hb : canonOctetB b = true)
    (hc : canonOctetB c = true) (hd : canonOctetB d = true) :
    readIpv4 (a ++ dot :: (b ++ dot :: (c ++ dot :: d))) = some [] := by
  have stop : ∀ t : Bytes, ∀ x ∈ (dot :: t).head?, isDigit x = false :=
    fun _ _ h => Option.some.inj h ▸ (by decide)
  unfold readIpv4
  rw [readOctet_canon ha (stop _)]
  simp only [Option.bind_some, readChar, if_true]
  rw [readOctet_canon hb (stop _)]
  simp only [Option.bind_some, if_true]
  rw [readOctet_canon hc (stop _)]
  simp only [Option.bind_some, if_true]
  have := readOctet_canon (t := []) hd nofun
  simpa using this

theorem ipv4Formatted_of_readIpv4 {n : Bytes} (h : readIpv4 n = some []) : Ipv4Formatted n := by
  unfold readIpv4 at h
  simp only [Option.bind_eq_some_iff] at h
  obtain ⟨r1, h1, r1', c1, r2, h2, r2', c2, r3, h3, r3', c3, h4⟩ := h
  obtain ⟨d1, e1, n1, a1⟩ := readOctet_some h1
  obtain ⟨d2, e2, n2, a2⟩ := readOctet_some h2
  obtain ⟨d3, e3, n3, a3⟩ := readOctet_some h3
  obtain ⟨d4, e4, n4, a4⟩ := readOctet_some h4
  rw [readChar_eq_some] at c1 c2 c3
  refine ⟨d1, d2, d3, d4, ?_, ⟨n1, a1⟩, ⟨n2, a2⟩, ⟨n3, a3⟩, ⟨n4, a4⟩⟩
  rw [e1, c1, e2, c2, e3, c3, e4]
  simp [dot]

theorem readHex4_some_mem {s r : Bytes} (h : readHex4 s = some r) : ∀ c ∈ r, c ∈ s := by
  simp only [readHex4, Option.ite_none_left_eq_some, Option.some.injEq] at h
  obtain ⟨_, _, rfl⟩ := h
  exact fun c hc => (List.dropWhile_sublist _).subset hc

theorem readGroups_succ (n i : Nat) (s : Bytes) : readGroups (n + 1) i s =
    match (if n ≥ 1 then (if i > 0 then readChar colon s else some s).bind readIpv4 else none) with
    | some r => (i + 2, true, r)
    | none =>
      match (if i > 0 then readChar colon s else some s).bind readHex4 with
      | some r => readGroups n (i + 1) r
      | none => (i, false, s) := by
  rw [readGroups]; rfl

/-- without `:` the group loop reads at most one group, and the `::` that would have to follow cannot -/
theorem readIpv6_none_of_no_colon {n : Bytes} (hc : colon ∉ n) (h4 : readIpv4 n = none) :
    readIpv6 n = none := by
  have step0 : readGroups 8 0 n =
      match readHex4 n with
      | some r => readGroups 7 1 r
      | none => (0, false, n) := by
    rw [show (8 : Nat) = 7 + 1 from rfl, readGroups_succ]
    simp [h4]
  unfold readIpv6
  rw [step0]
  cases hx : readHex4 n with
  | none =>
    simp [readChar_none_of_not_mem hc]
  | some r =>
    have hcr : colon ∉ r := fun h => hc (readHex4_some_mem hx _ h)
    have step1 : readGroups 7 1 r = (1, false, r) := by
      rw [show (7 : Nat) = 6 + 1 from rfl, readGroups_succ]
      simp [readChar_none_of_not_mem hcr]
    simp [step1, readChar_none_of_not_mem hcr]

theorem ipv4Formatted_of_ipAddrOk {n : Bytes} (hc : colon ∉ n) (h : ipAddrOk n = true) :
    Ipv4Formatted n := by
  unfold ipAddrOk readIpAddr at h
  cases h4 : readIpv4 n with
  | none =>
    rw [h4, readIpv6_none_of_no_colon hc h4] at h
    simp at h
  | some r =>
    rw [h4] at h
    simp only [beq_iff_eq, Option.some.injEq] at h
    subst h
    exact ipv4Formatted_of_readIpv4 h4

end S3V.Net
