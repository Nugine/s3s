import S3V.Thm.FsStoreInv
/-!
# C18: the names both sides accept (bucket names, keys), the predicates `NameOk`, `CanonKey` every operation shares with
the tactic that builds the `Decidable` instances of the operations' predicates (`decide_pred`), and how both sides resolve the object a request names
(`object_cases`: get, head, delete; its second half `lookup_cases`: the source of a copy)
-/
namespace S3V.FsStore
open S3V.StoreSpec

theorem bucketDir_of_bucketOk {b : Bytes} (h : bucketOk b = true) : bucketDir b = some b := by
  unfold bucketOk at h
  simp only [Bool.and_eq_true, Bool.not_eq_true', decide_eq_true_eq] at h
  obtain ⟨⟨⟨h1, h2⟩, h3⟩, h4⟩ := h
  have hs : slash ∉ b := by
    intro hm
    have : b.contains 47 = true := List.contains_iff_mem.mpr hm
    rw [h2] at this; exact absurd this (by simp)
  have hh : b.head? ≠ some slash := by
    intro e
    exact hs (List.mem_of_mem_head? e)
  unfold bucketDir
  simp only [hh, if_false, splitSlash_splits.of_not_mem hs]
  have h3' : b ≠ dot := h3
  have h4' : b ≠ dotdot := h4
  simp [h1, h3', h4']

theorem splitSlash_eq (k : Bytes) : StoreSpec.splitSlash k = FsStore.splitSlash k :=
  SplitsAt.unique ⟨rfl, fun _ _ _ _ h => by rw [StoreSpec.splitSlash, h]; rfl⟩ splitSlash_splits k

/-- the store refuses exactly the keys the backend's path mapping refuses -/
theorem keyOk_eq_keyPath (k : Bytes) : keyOk k = (keyPath k).isSome := by
  rw [Bool.eq_iff_iff, Option.isSome_iff_exists]
  simp only [keyPath_eq_some, exists_and_left, exists_eq_left', List.mem_filter, ne_eq,
    List.filter_eq_nil_iff, keyOk, splitSlash_eq, Bool.and_eq_true, Bool.not_eq_true', decide_eq_true_eq,
    List.any_eq_true, List.any_eq_false, and_assoc]
  -- conjunct by conjunct: the same head test; `..` passes the filter (`by decide`), so it is among the kept segments exactly
  -- when it is a segment; the filtered list is non-empty exactly when some segment passes the filter
  exact and_congr Iff.rfl (and_congr
    ⟨fun h hm => h _ hm.1 rfl, fun h x hx e => h ⟨by subst e; exact hx, by decide⟩⟩
    ⟨fun ⟨x, hx, h⟩ hall => hall x hx h, fun h => Classical.byContradiction fun hn => h fun a ha hp => hn ⟨a, ha, hp⟩⟩)

/-- bucket names on which both sides agree: admissible (then the directory is the name itself), or refused by both -/
def NameOk (b : Bytes) : Prop := bucketOk b = true ∨ bucketDir b = none

/-- keys on which both sides agree: the canonical text of a path (no empty or `.` segments, no trailing
    slash), or a key both refuse -/
def CanonKey (k : Bytes) : Prop :=
  endsWithSlash k = false ∧
  match keyPath k with
  | none => True
  | some p => joinWith [slash] p = k

instance (b : Bytes) : Decidable (NameOk b) := by unfold NameOk; infer_instance
instance (k : Bytes) : Decidable (CanonKey k) := by unfold CanonKey; split <;> infer_instance

/-- builds a `Decidable` instance for a predicate made of `∧`, `→`, `∨` and `match` over decidable leaves: instance search does
    not see through a `match` in a `Prop`; `split` does -/
macro "decide_pred" : tactic =>
  `(tactic| repeat' first | infer_instance | apply instDecidableAnd | apply instDecidableOr | refine @forall_prop_decidable _ _ inferInstance (fun _ => ?_) | split)

theorem NameOk.cases {b : Bytes} (h : NameOk b) :
    (bucketOk b = true ∧ bucketDir b = some b) ∨ (bucketOk b = false ∧ bucketDir b = none) := by
  rcases h with h | h
  · exact Or.inl ⟨h, bucketDir_of_bucketOk h⟩
  · right
    refine ⟨?_, h⟩
    cases hb : bucketOk b with
    | false => rfl
    | true => rw [bucketDir_of_bucketOk hb] at h; simp at h

/-- both sides refuse a key, or both accept it and the backend maps it to an admissible path -/
theorem key_cases (k : Bytes) :
    (keyPath k = none ∧ keyOk k = false) ∨ ∃ p, (keyPath k = some p ∧ keyOk k = true) ∧ PathOk p := by
  rw [keyOk_eq_keyPath]
  cases hkp : keyPath k with
  | none => exact .inl ⟨rfl, rfl⟩
  | some p => exact .inr ⟨p, ⟨rfl, rfl⟩, keyPath_pathOk hkp⟩

/-- what the backend may be asked to read at a node: a file, or nothing (a directory left behind is excluded) -/
def ReadableNode : Option Node → Prop
  | some .dir => False
  | _ => True

instance (n : Option Node) : Decidable (ReadableNode n) := by
  unfold ReadableNode
  split <;> infer_instance

/-- what both sides find at an admissible key `k` (path `p`) of bucket `b` when no directory is left behind there: the bucket
    is missing on both sides; or, `t` being its tree, nothing is there on both sides, or a file and the object it stands for -/
theorem lookup_cases {s : State} (hi : Inv s) (b : Bytes) {k : Bytes} {p : Path} (hp : PathOk p)
    (hk : joinWith [slash] p = k) (hr : ∀ t, s.tree b = some t → t.node p ≠ some .dir) :
    (s.tree b = none ∧ (abs s).bucket b = none ∧ alHas b s.buckets = false) ∨
    ∃ t, (s.tree b = some t ∧ (abs s).bucket b = some (absTree s b t) ∧ alHas b s.buckets = true) ∧
      ((t.node p = none ∧ alLookup k (absTree s b t) = none) ∨
       ∃ c, t.node p = some (.file c) ∧
        alLookup k (absTree s b t) = some ⟨c, absMeta s b k, (alLookup (b, k) s.infos).getD {}⟩) := by
  rcases tree_cases s b with ht | ⟨t, ht⟩
  · exact .inl ht
  refine .inr ⟨t, ht, ?_⟩
  have hlook := abs_lookup_obj hi ht.1 hp
  rw [hk] at hlook
  cases hn : t.node p with
  | none => exact .inl ⟨rfl, by rw [hlook, hn]; rfl⟩
  | some n =>
    cases n with
    | dir => exact absurd hn (hr t ht.1)
    | file c => exact .inr ⟨c, rfl, by rw [hlook, hn]; rfl⟩

/-- how both sides resolve the object a request names when they agree on the names and no directory is left behind at the
    key's path: both refuse the bucket name; both refuse the key; or what `lookup_cases` says of the key's path -/
theorem object_cases {s : State} (hi : Inv s) {b k : Bytes} (hname : NameOk b) (hcanon : CanonKey k)
    (hread : bucketOk b = true →
      match keyPath k with
      | none => True
      | some p =>
        match s.tree b with
        | none => True
        | some t => ReadableNode (t.node p)) :
    (bucketOk b = false ∧ bucketDir b = none) ∨
    (bucketOk b = true ∧ bucketDir b = some b) ∧
      ((keyPath k = none ∧ keyOk k = false) ∨
       ∃ p, (keyPath k = some p ∧ keyOk k = true) ∧ PathOk p ∧ joinWith [slash] p = k ∧
        ((s.tree b = none ∧ (abs s).bucket b = none ∧ alHas b s.buckets = false) ∨
         ∃ t, (s.tree b = some t ∧ (abs s).bucket b = some (absTree s b t) ∧ alHas b s.buckets = true) ∧
          ((t.node p = none ∧ alLookup k (absTree s b t) = none) ∨
           ∃ c, t.node p = some (.file c) ∧
            alLookup k (absTree s b t) = some ⟨c, absMeta s b k, (alLookup (b, k) s.infos).getD {}⟩))) := by
  rcases hname.cases with hb | hb
  case inr => exact .inl hb
  have hread := hread hb.1
  refine .inr ⟨hb, ?_⟩
  rcases key_cases k with hk | ⟨p, hk, hp⟩
  · exact .inl hk
  have hjoin := hcanon.2
  simp only [hk.1] at hjoin hread
  refine .inr ⟨p, hk, hp, hjoin, lookup_cases hi b hp hjoin fun t ht h => ?_⟩
  simp only [ht, h] at hread
  exact hread

end S3V.FsStore
