import S3V.Thm.XmlEscape
import S3V.Thm.Utf8Prefix
/-!
Why escaping keeps UTF-8 valid: `escape` replaces ASCII bytes by ASCII byte sequences and leaves every other byte alone
(`Expansion`, `utf8Valid_expand`; one byte at a time: valid text can be cut in front of an ASCII byte, `Utf8Prefix.lean`).
-/
namespace S3V.Xml
open S3V

/-- a byte-wise text expansion that rewrites ASCII bytes into ASCII bytes and leaves every other byte alone. `g c cs` is
what `c` becomes in front of `cs`: possibly nothing, as `normEol` drops a CR in front of an LF. -/
structure Expansion where
  f : Bytes → Bytes
  g : UInt8 → Bytes → Bytes
  nil : f [] = []
  cons : ∀ c cs, f (c :: cs) = g c cs ++ f cs
  ascii : ∀ c cs, c.toNat < 128 → ∀ x ∈ g c cs, x.toNat < 128
  high : ∀ c cs, 128 ≤ c.toNat → g c cs = [c]

theorem Expansion.high_cons (E : Expansion) (b : UInt8) (r : Bytes) (h : 128 ≤ b.toNat) : E.f (b :: r) = b :: E.f r := by
  rw [E.cons, E.high b _ h]
  rfl

/-- behind the bytes `p` already copied: a byte outside ASCII joins `p`, so that nothing has to be said about where a
multi-byte sequence ends; valid text can be cut in front of an ASCII byte (`utf8Valid_prefix_before_ascii`). -/
theorem utf8Valid_expand_behind (E : Expansion) : ∀ (p b : Bytes), utf8Valid (p ++ b) = true →
    utf8Valid (p ++ E.f b) = true
  | _, [], h => by rwa [E.nil]
  | p, c :: cs, h => by
    by_cases hc : c.toNat < 128
    · have hp := utf8Valid_prefix_before_ascii hc h
      rw [utf8Valid_append_of_valid hp, utf8Valid_cons_ascii hc] at h
      rw [E.cons, utf8Valid_append_of_valid hp, utf8Valid_append_ascii (E.ascii c cs hc)]
      exact utf8Valid_expand_behind E [] cs h
    · rw [List.append_cons] at h
      rw [E.high_cons c cs (Nat.le_of_not_lt hc), List.append_cons]
      exact utf8Valid_expand_behind E (p ++ [c]) cs h

theorem utf8Valid_expand (E : Expansion) {b : Bytes} (h : utf8Valid b = true) : utf8Valid (E.f b) = true :=
  utf8Valid_expand_behind E [] b h

/-! ### a table with ASCII rows is an expansion: the three escapers keep UTF-8 valid -/

def Subst.expansion (T : Subst) (hrow : ∀ kv ∈ T, kv.1.toNat < 128 ∧ ∀ x ∈ kv.2, x.toNat < 128) : Expansion where
  f := T.apply
  g := fun c _ => T.sub c
  nil := rfl
  cons := fun _ _ => rfl
  ascii := fun c _ hc =>
    Subst.forall_sub (P := fun c v => c.toNat < 128 → ∀ x ∈ v, x.toNat < 128) (fun kv hkv _ => (hrow kv hkv).2)
      (fun d _ hd x hx => List.mem_singleton.mp hx ▸ hd) c hc
  high := fun c _ hc =>
    ((T.sub_cases c).resolve_left fun hm => absurd (hrow _ hm).1 (by simp only [Nat.not_lt]; exact hc)).2

theorem Subst.utf8Valid_apply {T : Subst} (hrow : ∀ kv ∈ T, kv.1.toNat < 128 ∧ ∀ x ∈ kv.2, x.toNat < 128) {b : Bytes}
    (h : utf8Valid b = true) : utf8Valid (T.apply b) = true :=
  utf8Valid_expand (T.expansion hrow) h

theorem utf8Valid_escape {b : Bytes} (h : utf8Valid b = true) : utf8Valid (escape b) = true := by
  rw [escape_eq]; exact Subst.utf8Valid_apply (by decide) h

theorem utf8Valid_escapeText {b : Bytes} (h : utf8Valid b = true) : utf8Valid (escapeText b) = true := by
  rw [escapeText_eq]; exact Subst.utf8Valid_apply (by decide) h

theorem utf8Valid_escapeAttr {b : Bytes} (h : utf8Valid b = true) : utf8Valid (escapeAttr b) = true := by
  rw [escapeAttr_eq]; exact Subst.utf8Valid_apply (by decide) h

end S3V.Xml
