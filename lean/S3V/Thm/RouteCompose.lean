import S3V.Thm.Route
import S3V.Thm.PathClassify
/-!
# Lemmas for the composition of C01 (router) with C12 (addressing styles)

`ops::prepare` first turns the raw path and the `Host` header into an `S3Path` (C12's `classify`),
later hands that `S3Path` to `resolve_route` (C01's `resolve`), whose first step is
`match s3_path { Root, Bucket{..}, Object{..} }`. This file defines that hand-over (`pathKind`,
`view`, `routerInput`, `dispatch`), the request a client means by a key (`keyKind`, `intended`, with
`view_target : view x (target b k) = intended x k`; `target` itself and the results of `classify` in its terms stand in
`Thm/Path` and `Thm/PathClassify`), and the congruences that carry an equality of classifications to the router.

What lies between the two steps in `prepare` (query-string extraction, signature check, custom
route, the POST-multipart special case) neither changes the `S3Path` nor depends on the addressing
style except through `vh_bucket`/`decoded_uri_path` in the signature check (property C10); it is
modelled in `S3V/Model/Prepare.lean` and composed with this file in `S3V/Props/C01Prepare.lean`.
-/
namespace S3V.RouteCompose
open S3V S3V.Net S3V.Host S3V.Path S3V.PathSpec S3V.Gen S3V.Route S3V.RouteSpec

/-! ## the hand-over from `prepare` to `resolve_route` -/

/-- the first step of `resolve_route`: `match s3_path { S3Path::Root => …, S3Path::Bucket { .. } => …,
    S3Path::Object { .. } => … }` — the router looks at the kind of path only -/
def pathKind : S3Path → PK
  | .root => .root
  | .bucket _ => .bucket
  | .object _ _ => .object

/-- what the router observes of a request apart from the path: the method, the query keys and the
    discriminating headers (`x-amz-copy-source`, `x-amz-request-route`, `x-amz-request-token`).
    None of these is the `Host` header or the path, so they are the same in both addressing
    styles. -/
structure RRest where
  method : Meth
  q : QKey → Pres
  h : HKey → Bool

/-- the router's view of a request whose path has been resolved to `p` -/
def view (x : RRest) (p : S3Path) : RReq := ⟨x.method, pathKind p, x.q, x.h⟩

/-- the router's view of the request with raw path `uriPath` and `Host` header `host` under host
    configuration `cfg`, or the S3 error code with which `prepare` answers before routing -/
def routerInput (cfg : HostCfg) (host : Option Bytes) (uriPath : Bytes) (x : RRest) : Except Code RReq :=
  (classify cfg host uriPath).map (view x)

/-- first block of `prepare`, then `resolve_route`: `.error c` = S3 error `c` from path
    classification (no routing, no backend call); `.ok none` = `Err(unknown_operation())` from the
    router (no backend call); `.ok (some (op, full))` = operation `op` selected -/
def dispatch (cfg : HostCfg) (host : Option Bytes) (uriPath : Bytes) (x : RRest) :
    Except Code (Option (Op × Bool)) :=
  (routerInput cfg host uriPath x).map resolve

/-- the kind of request a key stands for: the empty key is the bucket itself -/
def keyKind (k : Bytes) : PK := if k = [] then .bucket else .object

/-- the request as the client means it, independent of how it is addressed and spelled -/
def intended (x : RRest) (k : Bytes) : RReq := ⟨x.method, keyKind k, x.q, x.h⟩

theorem pathKind_target (b k : Bytes) : pathKind (target b k) = keyKind k := by
  unfold target keyKind; split <;> rfl

theorem view_target (x : RRest) (b k : Bytes) : view x (target b k) = intended x k := by
  simp [view, intended, pathKind_target]

theorem routerInput_of_classify {cfg : HostCfg} {host : Option Bytes} {p : Bytes} {s : S3Path}
    (h : classify cfg host p = .ok s) (x : RRest) : routerInput cfg host p x = .ok (view x s) := by
  simp [routerInput, h, Except.map]

theorem dispatch_of_routerInput {cfg : HostCfg} {host : Option Bytes} {p : Bytes} {x : RRest} {res : Except Code RReq}
    (h : routerInput cfg host p x = res) : dispatch cfg host p x = res.map resolve :=
  congrArg (Except.map resolve) h

theorem dispatch_of_classify {cfg : HostCfg} {host : Option Bytes} {p : Bytes} {s : S3Path}
    (h : classify cfg host p = .ok s) (x : RRest) : dispatch cfg host p x = .ok (resolve (view x s)) :=
  dispatch_of_routerInput (routerInput_of_classify h x)

theorem dispatch_of_classify_error {cfg : HostCfg} {host : Option Bytes} {p : Bytes} {c : Code}
    (h : classify cfg host p = .error c) (x : RRest) : dispatch cfg host p x = .error c := by
  simp [dispatch, routerInput, h, Except.map]

/-! ## two corollaries for the property files: a valid bucket name is a label the style-equivalence theorems accept;
a configured domain as `Host` with the path `/` is the root -/

theorem label_of_valid_bucket {b : Bytes} (hb : checkBucketName b = true) :
    (∀ c ∈ b, c.toNat < 128) ∧ pct ∉ b ∧ slash ∉ b :=
  ⟨ascii_of_check hb, pct_not_mem_of_check hb, slash_not_mem_of_check hb⟩

theorem classify_vhost_root {cfg : HostCfg} {d t e : Bytes} (hc : ConfiguredDomain cfg d)
    (ht : toAsciiLower t = toAsciiLower d) (hs : headerToStrOk t = true)
    (hip : isSocketAddrOrIpAddr t = false) (hsp : Spelling e [slash]) :
    classify cfg (some t) e = .ok .root :=
  classify_root (hostBucket_domain hc ht hs hip) hsp

/-! ## two requests with the same classification reach the router alike -/

theorem dispatch_congr {cfg₁ cfg₂ : HostCfg} {host₁ host₂ : Option Bytes} {p₁ p₂ : Bytes}
    (heq : classify cfg₁ host₁ p₁ = classify cfg₂ host₂ p₂) (x : RRest) :
    routerInput cfg₁ host₁ p₁ x = routerInput cfg₂ host₂ p₂ x ∧
    dispatch cfg₁ host₁ p₁ x = dispatch cfg₂ host₂ p₂ x := by
  simp only [dispatch, routerInput, heq, and_self]

/-- whichever of the two reaches the router as `res` (a request, or the error of the classification), both are
    dispatched as `res` is -/
theorem dispatch_congr_of {cfg₁ cfg₂ : HostCfg} {host₁ host₂ : Option Bytes} {p₁ p₂ : Bytes}
    (heq : classify cfg₁ host₁ p₁ = classify cfg₂ host₂ p₂) {x : RRest} {res : Except Code RReq}
    (hr : routerInput cfg₁ host₁ p₁ x = res ∨ routerInput cfg₂ host₂ p₂ x = res) :
    dispatch cfg₁ host₁ p₁ x = res.map resolve ∧ dispatch cfg₂ host₂ p₂ x = res.map resolve := by
  obtain ⟨hi, hd⟩ := dispatch_congr heq x
  have h1 := dispatch_of_routerInput (hr.elim id hi.trans)
  exact ⟨h1, hd ▸ h1⟩

end S3V.RouteCompose
