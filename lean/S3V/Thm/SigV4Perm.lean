import S3V.Thm.SigV4Inj
/-!
# Lemma: the canonical parameter list does not depend on the order in which the parameters arrive
-/
namespace S3V.SigV4
open S3V

theorem sortPairs_sorted (l : List (Bytes × Bytes)) :
    (SigV4Spec.sortPairs l).Pairwise (fun a b => SigV4Spec.pairLe a b = true) :=
  sortPairs_eq_sortBy l ▸ sortBy_pairwise (le := fun a b => SigV4Spec.pairLe a b = true)
    (r := fun y x => !SigV4Spec.pairLe x y) (fun _ _ _ => pairLe_trans)
    (fun _ _ hy => pairLe_total (Bool.not_eq_true' _ ▸ hy)) (fun _ _ hy => Bool.not_eq_false' _ ▸ hy) l

theorem sortPairs_of_perm {l₁ l₂ : List (Bytes × Bytes)} (h : l₁.Perm l₂) :
    SigV4Spec.sortPairs l₁ = SigV4Spec.sortPairs l₂ :=
  List.Perm.eq_of_pairwise (fun _ _ _ _ h1 h2 => pairLe_antisymm h1 h2) (sortPairs_sorted l₁) (sortPairs_sorted l₂)
    ((sortPairs_perm l₁).trans (h.trans (sortPairs_perm l₂).symm))

/-- the parameters are signed as a multiset: any reordering gives the same canonical parameter list -/
theorem encodedQuery_of_perm {q₁ q₂ : List (Bytes × Bytes)} (h : q₁.Perm q₂) : encodedQuery q₁ = encodedQuery q₂ :=
  sortPairs_of_perm (h.map _)

theorem view_of_query_perm {r r' : SigV4Spec.Request} (hm : r.method = r'.method) (hp : r.path = r'.path)
    (hq : r.query.Perm r'.query) (hh : r.headers = r'.headers) (hs : r.signedHeaders = r'.signedHeaders)
    (hpl : r.payload = r'.payload) : signedView r = signedView r' := by
  unfold signedView
  rw [hm, hp, hh, hs, hpl, encodedQuery_of_perm hq]

end S3V.SigV4
